/-
Round trip of the bit stream: what the forward writer model (Model/BitW, tied to bitstream.h BIT_addBits / BIT_flushBits /
BIT_closeCStream by tools/ent_bitw.py) produces is read back, last field first, by the backward reader model (Model/Bits,
tied to the C decoder), and the reader ends bit-exact.
-/
import ZstdVerif.Model.BitW
import ZstdVerif.Model.Bits
import ZstdVerif.Lemmas.Bytes

namespace ZstdVerif

theorem log2_shift {L y k : Nat} (hy : 2 ^ L ≤ y) (hy2 : y < 2 ^ (L + 1)) (hk : k ≤ L) :
    Nat.log2 (y / 2 ^ k) = L - k ∧ 2 ^ L ≤ y / 2 ^ k * 2 ^ k := by
  have hp : 0 < 2 ^ k := Nat.two_pow_pos k
  have e1 : 2 ^ (L - k) * 2 ^ k = 2 ^ L := by rw [← Nat.pow_add]; congr 1; omega
  have e2 : 2 ^ (L - k + 1) * 2 ^ k = 2 ^ (L + 1) := by rw [← Nat.pow_add]; congr 1; omega
  have h1 : 2 ^ (L - k) ≤ y / 2 ^ k := (Nat.le_div_iff_mul_le hp).2 (by omega)
  have h2 : y / 2 ^ k < 2 ^ (L - k + 1) := (Nat.div_lt_iff_lt_mul hp).2 (by omega)
  have h0 : y / 2 ^ k ≠ 0 := by have := Nat.two_pow_pos (L - k); omega
  refine ⟨(Nat.log2_eq_iff h0).2 ⟨h1, h2⟩, ?_⟩
  calc 2 ^ L = 2 ^ (L - k) * 2 ^ k := e1.symm
    _ ≤ y / 2 ^ k * 2 ^ k := Nat.mul_le_mul_right _ h1

end ZstdVerif

namespace ZstdVerif.BitR

theorem window_mod (x y M sh n : Nat) (h : x % 2 ^ M = y % 2 ^ M) (hs : sh + n ≤ M) :
    x / 2 ^ sh % 2 ^ n = y / 2 ^ sh % 2 ^ n := by
  have d : 2 ^ (sh + n) ∣ 2 ^ M := Nat.pow_dvd_pow 2 hs
  rw [← Nat.mod_mul_right_div_self, ← Nat.mod_mul_right_div_self, ← Nat.pow_add,
    ← Nat.mod_mod_of_dvd x d, ← Nat.mod_mod_of_dvd y d, h]

/-- `field` loads a full 64-bit word at byte `start + lo/8`, which may reach beyond the `len` bytes of the
stream (C: BIT_initDStream / BIT_reloadDStream load a full `size_t` and only use the valid bits); because
`lo % 8 + n ≤ 63 < 64` and `lo + n ≤ 8 * len`, the bits that are kept all lie inside the stream, whatever follows it. -/
theorem field_eq (src : Bytes) (start len lo n : Nat) (hn : n ≤ 56) (h : lo + n ≤ 8 * len) :
    field src start lo n = src.toNatLE start len / 2 ^ lo % 2 ^ n := by
  unfold field
  simp only [Nat.shiftRight_eq_div_pow, Nat.one_shiftLeft, Nat.and_two_pow_sub_one_eq_mod,
    ByteArray.le64_eq_toNatLE]
  have hlo : 2 ^ lo = 2 ^ (8 * (lo / 8)) * 2 ^ (lo % 8) := by
    rw [← Nat.pow_add]; congr 1; omega
  rw [hlo, ← Nat.div_div_eq_div_mul]
  have hm : lo / 8 + min 8 (len - lo / 8) ≤ len := by omega
  apply window_mod _ _ (8 * min 8 (len - lo / 8))
  · have h1 := ByteArray.toNatLE_window src (start + lo / 8) 8 0 (min 8 (len - lo / 8)) (by omega)
    have h2 := ByteArray.toNatLE_window src start len (lo / 8) (min 8 (len - lo / 8)) hm
    rw [Nat.mul_zero, Nat.pow_zero, Nat.div_one, Nat.add_zero] at h1
    rw [h1, h2]
  · omega

/-- BIT_initDStream on a stream whose little-endian value `S` has its top bit (the end mark) at position `T`, stored in
`T / 8 + 1` bytes: the reader starts with exactly `T` payload bits -/
theorem init_eq (src : Bytes) (start T : Nat) (hlo : 2 ^ T ≤ src.toNatLE start (T / 8 + 1))
    (hhi : src.toNatLE start (T / 8 + 1) < 2 ^ (T + 1)) :
    init src start (T / 8 + 1) = .ok { src := src, start := start, left := T, over := false } := by
  -- the last byte of the stream is the top byte `x` of its value, and the highest bit of `x` is bit `T % 8`
  have hw := ByteArray.toNatLE_window src start (T / 8 + 1) (T / 8) 1 (Nat.le_refl _)
  obtain ⟨hlog, htop⟩ := log2_shift hlo hhi (show 8 * (T / 8) ≤ T by omega)
  generalize src.toNatLE start (T / 8 + 1) / 2 ^ (8 * (T / 8)) = x at hw hlog htop
  have hx : x < 2 ^ (8 * 1) :=
    Nat.lt_of_lt_of_le Nat.lt_log2_self (Nat.pow_le_pow_right (by decide) (by rw [hlog]; omega))
  have hne : x ≠ 0 := by rintro rfl; have := Nat.two_pow_pos T; omega
  rw [Nat.mod_eq_of_lt hx, ByteArray.toNatLE, ByteArray.toNatLE, Nat.mul_zero, Nat.add_zero] at hw
  unfold init
  rw [if_neg (Nat.succ_ne_zero _), show start + (T / 8 + 1) - 1 = start + T / 8 by omega]
  simp only [← hw, if_neg hne, highbit, hlog, Nat.add_sub_cancel]
  congr 2
  omega

/-- successive reads: the widths `ns` in order; returns the values in the same order and the final reader -/
def readList (r : BitR) : List Nat → List Nat × BitR
  | [] => ([], r)
  | n :: ns => ((r.read n).1 :: (readList (r.read n).2 ns).1, (readList (r.read n).2 ns).2)

end ZstdVerif.BitR

namespace ZstdVerif.BitW

/-- number of payload bits of a field list `(value, width)` -/
def totalBits : List (Nat × Nat) → Nat
  | [] => 0
  | f :: fs => f.2 + totalBits fs

/-- `Σ (v_i mod 2^n_i) * 2^(offset_i)` where `offset_i = off +` the widths of the earlier fields -/
def fieldsValFrom (off : Nat) : List (Nat × Nat) → Nat
  | [] => 0
  | f :: fs => f.1 % 2 ^ f.2 * 2 ^ off + fieldsValFrom (off + f.2) fs

/-- the number whose little-endian bytes are the stream: the fields from bit 0 upwards, then the end mark -/
def streamVal (fs : List (Nat × Nat)) : Nat := fieldsValFrom 0 fs + 2 ^ totalBits fs

/-- the same sum for a list given last field first (the order in which the reader meets the fields) -/
def valRev : List (Nat × Nat) → Nat
  | [] => 0
  | f :: gs => valRev gs + f.1 % 2 ^ f.2 * 2 ^ totalBits gs

theorem totalBits_append (a b : List (Nat × Nat)) : totalBits (a ++ b) = totalBits a + totalBits b := by
  induction a with
  | nil => simp [totalBits]
  | cons f a ih => simp only [List.cons_append, totalBits, ih]; omega

theorem totalBits_reverse (a : List (Nat × Nat)) : totalBits a.reverse = totalBits a := by
  induction a with
  | nil => rfl
  | cons f a ih => simp only [List.reverse_cons, totalBits_append, totalBits, ih]; omega

theorem fieldsValFrom_shift (a off : Nat) (fs : List (Nat × Nat)) :
    fieldsValFrom (a + off) fs = 2 ^ a * fieldsValFrom off fs := by
  induction fs generalizing off with
  | nil => simp [fieldsValFrom]
  | cons f fs ih =>
    simp only [fieldsValFrom, Nat.add_assoc, ih, Nat.mul_add, Nat.pow_add]
    congr 1
    ac_rfl

theorem fieldsValFrom_lt (off : Nat) (fs : List (Nat × Nat)) :
    fieldsValFrom off fs + 2 ^ off ≤ 2 ^ (off + totalBits fs) := by
  induction fs generalizing off with
  | nil => simp [fieldsValFrom, totalBits]
  | cons f fs ih =>
    have h1 := ih (off + f.2)
    have h2 : f.1 % 2 ^ f.2 < 2 ^ f.2 := Nat.mod_lt _ (Nat.two_pow_pos _)
    have h3 : (f.1 % 2 ^ f.2 + 1) * 2 ^ off ≤ 2 ^ f.2 * 2 ^ off := Nat.mul_le_mul_right _ h2
    rw [Nat.add_mul, Nat.one_mul, ← Nat.pow_add, Nat.add_comm f.2 off] at h3
    simp only [fieldsValFrom, totalBits, ← Nat.add_assoc]
    omega

theorem valRev_append_single (gs : List (Nat × Nat)) (f : Nat × Nat) :
    valRev (gs ++ [f]) = f.1 % 2 ^ f.2 + 2 ^ f.2 * valRev gs := by
  induction gs with
  | nil => simp [valRev, totalBits]
  | cons g gs ih =>
    simp only [List.cons_append, valRev, ih, totalBits_append, totalBits, Nat.add_zero, Nat.mul_add, Nat.pow_add]
    rw [Nat.add_assoc]
    congr 2
    ac_rfl

theorem valRev_reverse (fs : List (Nat × Nat)) : valRev fs.reverse = fieldsValFrom 0 fs := by
  induction fs with
  | nil => rfl
  | cons f fs ih =>
    have := fieldsValFrom_shift f.2 0 fs
    rw [Nat.add_zero] at this
    simp only [List.reverse_cons, valRev_append_single, ih, fieldsValFrom, Nat.pow_zero, Nat.mul_one, Nat.zero_add, this]

theorem valRev_lt (gs : List (Nat × Nat)) : valRev gs < 2 ^ totalBits gs := by
  have h := fieldsValFrom_lt 0 gs.reverse
  rw [← valRev_reverse, List.reverse_reverse, totalBits_reverse, Nat.zero_add] at h
  omega

/-- every byte of `b` is the corresponding byte of the little-endian expansion of `N` -/
def IsLE (b : Bytes) (N : Nat) : Prop := ∀ i, i < b.size → b.u8 i = N / 2 ^ (8 * i) % 256

theorem ofNat_toNat (v : Nat) : (UInt8.ofNat v).toNat = v % 256 := by simp

theorem size_pushLE (out : Bytes) (v k : Nat) : (pushLE out v k).size = out.size + k := by
  induction k generalizing out v with
  | zero => rfl
  | succ k ih => rw [pushLE, ih, ByteArray.size_push]; omega

theorem u8_pushLE_lt (out : Bytes) (v k i : Nat) (h : i < out.size) : (pushLE out v k).u8 i = out.u8 i := by
  induction k generalizing out v with
  | zero => rfl
  | succ k ih =>
    rw [pushLE, ih _ _ (by rw [ByteArray.size_push]; omega), ByteArray.u8_push_lt _ _ _ h]

theorem u8_pushLE_ge (out : Bytes) (v k i : Nat) (h1 : out.size ≤ i) (h2 : i < out.size + k) :
    (pushLE out v k).u8 i = v / 2 ^ (8 * (i - out.size)) % 256 := by
  induction k generalizing out v with
  | zero => omega
  | succ k ih =>
    rw [pushLE]
    by_cases he : i = out.size
    · subst he
      rw [u8_pushLE_lt _ _ _ _ (by rw [ByteArray.size_push]; omega), ByteArray.u8_push_eq, ofNat_toNat]
      simp
    · rw [ih _ _ (by rw [ByteArray.size_push]; omega) (by rw [ByteArray.size_push]; omega),
        ByteArray.size_push, Nat.shiftRight_eq_div_pow, Nat.div_div_eq_div_mul, ← Nat.pow_add]
      congr 3
      omega

/-- abstraction of a writer state: `N` is the number written so far (bit 0 first), `T` the number of bits -/
structure Rep (w : BitW) (N T : Nat) : Prop where
  bytes : IsLE w.out N
  acc : w.acc = N / 2 ^ (8 * w.out.size)
  bits : T = 8 * w.out.size + w.bitPos
  lt : N < 2 ^ T

theorem rep_init : Rep init 0 0 := by
  refine ⟨?_, ?_, ?_, ?_⟩
  · intro i hi; exact absurd hi (Nat.not_lt_zero _)
  · simp [init]
  · simp [init]
  · simp

theorem rep_flush (w : BitW) (N T : Nat) (h : Rep w N T) : Rep w.flush N T := by
  obtain ⟨hb, ha, ht, hl⟩ := h
  have e7 : w.bitPos &&& 7 = w.bitPos % 8 := Nat.and_two_pow_sub_one_eq_mod w.bitPos 3
  refine ⟨?_, ?_, ?_, hl⟩
  · intro i hi
    simp only [flush, size_pushLE] at hi ⊢
    by_cases hlt : i < w.out.size
    · rw [u8_pushLE_lt _ _ _ _ hlt]; exact hb i hlt
    · rw [u8_pushLE_ge _ _ _ _ (by omega) hi, ha, Nat.div_div_eq_div_mul, ← Nat.pow_add]
      congr 3
      omega
  · simp only [flush, size_pushLE, ha, Nat.shiftRight_eq_div_pow, Nat.div_div_eq_div_mul, ← Nat.pow_add]
    congr 2
    omega
  · simp only [flush, size_pushLE, e7, Nat.shiftRight_eq_div_pow]
    omega

theorem flush_bitPos_lt (w : BitW) : w.flush.bitPos < 8 := by
  have e7 : w.bitPos &&& 7 = w.bitPos % 8 := Nat.and_two_pow_sub_one_eq_mod w.bitPos 3
  simp only [flush, e7]
  omega

/-- BIT_addBitsFast with a clean value -/
theorem rep_addBitsFast (w : BitW) (N T v n : Nat) (h : Rep w N T) (hv : v < 2 ^ n) :
    Rep (w.addBitsFast v n) (N + v * 2 ^ T) (T + n) := by
  obtain ⟨hb, ha, ht, hl⟩ := h
  refine ⟨?_, ?_, ?_, ?_⟩
  · intro i hi
    simp only [addBitsFast] at hi ⊢
    rw [hb i hi]
    exact (BitR.window_mod _ _ T (8 * i) 8 (Nat.add_mul_mod_self_right _ _ _) (by omega)).symm
  · simp only [addBitsFast]
    have hacc : w.acc < 2 ^ w.bitPos := by
      rw [ha, Nat.div_lt_iff_lt_mul (Nat.two_pow_pos _), ← Nat.pow_add, Nat.add_comm, ← ht]; exact hl
    have e : v * 2 ^ T = 2 ^ (8 * w.out.size) * (v * 2 ^ w.bitPos) := by
      rw [ht, Nat.pow_add]; ac_rfl
    rw [Nat.or_comm, ← Nat.shiftLeft_add_eq_or_of_lt hacc, Nat.shiftLeft_eq, e,
      Nat.add_mul_div_left _ _ (Nat.two_pow_pos _), ha, Nat.add_comm]
  · simp only [addBitsFast]; omega
  · have h3 : (v + 1) * 2 ^ T ≤ 2 ^ n * 2 ^ T := Nat.mul_le_mul_right _ hv
    rw [Nat.add_mul, Nat.one_mul, ← Nat.pow_add, Nat.add_comm n T] at h3
    omega

/-- what zvh_bitw.c does for widths above 31 (beyond BIT_mask): BIT_addBitsFast on a cleaned value is BIT_addBits -/
theorem addBitsFast_clean (w : BitW) (v n : Nat) : w.addBitsFast (v &&& ((1 <<< n) - 1)) n = w.addBits v n := rfl

theorem rep_addBits (w : BitW) (N T v n : Nat) (h : Rep w N T) :
    Rep (w.addBits v n) (N + v % 2 ^ n * 2 ^ T) (T + n) := by
  have e : w.addBits v n = w.addBitsFast (v % 2 ^ n) n := by
    simp only [addBits, addBitsFast, Nat.one_shiftLeft, Nat.and_two_pow_sub_one_eq_mod]
  rw [e]
  exact rep_addBitsFast w N T _ n h (Nat.mod_lt _ (Nat.two_pow_pos _))

theorem isLE_unique (a b : Bytes) (N : Nat) (ha : IsLE a N) (hb : IsLE b N) (hs : a.size = b.size) : a = b :=
  ByteArray.ext_u8 a b hs (fun i hi => by rw [ha i hi, hb i (by omega)])

theorem isLE_toNatLE (b : Bytes) (N : Nat) (h : IsLE b N) (k c : Nat) (hk : k + c ≤ b.size) :
    b.toNatLE k c = N / 2 ^ (8 * k) % 2 ^ (8 * c) := by
  induction c generalizing k with
  | zero => simp [ByteArray.toNatLE, Nat.mod_one]
  | succ c ih =>
    rw [ByteArray.toNatLE, ih (k + 1) (by omega), h k (by omega)]
    have e1 : 2 ^ (8 * (k + 1)) = 2 ^ (8 * k) * 256 := by rw [Nat.mul_add, Nat.pow_add]
    have e2 : 2 ^ (8 * (c + 1)) = 256 * 2 ^ (8 * c) := by rw [Nat.mul_add, Nat.pow_add, Nat.mul_comm]
    rw [e1, e2, ← Nat.div_div_eq_div_mul, Nat.mod_mul]

/-- BIT_closeCStream: end mark at bit `T`, then exactly the bytes that contain bits `0 .. T` -/
theorem close_spec (w : BitW) (N T : Nat) (h : Rep w N T) :
    (close w).size = (T + 1 + 7) / 8 ∧ IsLE (close w) (N + 2 ^ T) := by
  have h1 := rep_addBitsFast w N T 1 1 h (by decide)
  rw [Nat.one_mul] at h1
  have h2 := rep_flush _ _ _ h1
  have hb := flush_bitPos_lt (w.addBitsFast 1 1)
  obtain ⟨hbytes, hacc, hbits, _⟩ := h2
  unfold close
  simp only []
  split
  · next hpos =>
    refine ⟨by rw [ByteArray.size_push]; omega, ?_⟩
    intro i hi
    rw [ByteArray.size_push] at hi
    by_cases hlt : i < (w.addBitsFast 1 1).flush.out.size
    · rw [ByteArray.u8_push_lt _ _ _ hlt]; exact hbytes i hlt
    · have he : i = (w.addBitsFast 1 1).flush.out.size := by omega
      rw [he, ByteArray.u8_push_eq, ofNat_toNat, hacc]
  · next hpos =>
    exact ⟨by omega, hbytes⟩

theorem rep_steps (ops : List Op) (w : BitW) (N T : Nat) (h : Rep w N T) :
    Rep (ops.foldl step w) (N + fieldsValFrom T (Op.fields ops)) (T + totalBits (Op.fields ops)) := by
  induction ops generalizing w N T with
  | nil => exact h
  | cons op ops ih =>
    cases op with
    | add v n =>
      have := ih _ _ _ (rep_addBits w N T v n h)
      simpa only [List.foldl_cons, step, Op.fields, fieldsValFrom, totalBits, Nat.add_assoc] using this
    | flush =>
      have := ih _ _ _ (rep_flush w N T h)
      simpa only [List.foldl_cons, step, Op.fields] using this

theorem rep_canon (fs : List (Nat × Nat)) (w : BitW) (N T : Nat) (h : Rep w N T) :
    Rep (fs.foldl (fun w f => (w.addBits f.1 f.2).flush) w) (N + fieldsValFrom T fs) (T + totalBits fs) := by
  induction fs generalizing w N T with
  | nil => exact h
  | cons f fs ih =>
    have := ih _ _ _ (rep_flush _ _ _ (rep_addBits w N T f.1 f.2 h))
    simpa only [List.foldl_cons, fieldsValFrom, totalBits, Nat.add_assoc] using this

theorem streamVal_bounds (fs : List (Nat × Nat)) :
    2 ^ totalBits fs ≤ streamVal fs ∧ streamVal fs < 2 ^ (totalBits fs + 1) := by
  have h := fieldsValFrom_lt 0 fs
  rw [Nat.pow_zero, Nat.zero_add] at h
  unfold streamVal
  rw [Nat.pow_succ]
  omega

theorem ofFields_spec (fs : List (Nat × Nat)) :
    (ofFields fs).size = (totalBits fs + 1 + 7) / 8 ∧ IsLE (ofFields fs) (streamVal fs) := by
  have h := close_spec _ _ _ (rep_canon fs init 0 0 rep_init)
  simpa only [Nat.zero_add, ofFields, streamVal] using h

/-- Flush schedule irrelevance: whatever flush calls are interleaved with the adds (BIT_flushBits after every symbol, after
every few symbols, only when the register is nearly full ...), closing yields the bytes of the canonical schedule -/
theorem flush_irrelevant (ops : List Op) : run ops = ofFields (Op.fields ops) := by
  have h1 := close_spec _ _ _ (rep_steps ops init 0 0 rep_init)
  have h2 := close_spec _ _ _ (rep_canon (Op.fields ops) init 0 0 rep_init)
  unfold run ofFields
  exact isLE_unique _ _ _ h1.2 h2.2 (by rw [h1.1, h2.1])

end ZstdVerif.BitW

namespace ZstdVerif.BitR
open ZstdVerif.BitW

/-- reader side of the round trip, for fields listed last-written first -/
theorem readList_valRev (src : Bytes) (start len : Nat) (gs : List (Nat × Nat)) (hw : ∀ f ∈ gs, f.2 ≤ 56)
    (hlen : totalBits gs ≤ 8 * len) (hS : src.toNatLE start len % 2 ^ totalBits gs = valRev gs) :
    readList { src := src, start := start, left := totalBits gs, over := false } (gs.map (·.2))
      = (gs.map (fun f => f.1 % 2 ^ f.2), { src := src, start := start, left := 0, over := false }) := by
  induction gs with
  | nil => rfl
  | cons f gs ih =>
    have hA := valRev_lt gs
    have hm : f.1 % 2 ^ f.2 < 2 ^ f.2 := Nat.mod_lt _ (Nat.two_pow_pos _)
    simp only [totalBits, valRev] at hlen hS
    have hfield : field src start (totalBits gs) f.2 = f.1 % 2 ^ f.2 := by
      rw [field_eq src start len _ _ (hw f List.mem_cons_self) (by omega),
        ← Nat.mod_mul_right_div_self, ← Nat.pow_add, Nat.add_comm, hS,
        Nat.add_mul_div_right _ _ (Nat.two_pow_pos _), Nat.div_eq_of_lt hA, Nat.zero_add]
    have hrest : src.toNatLE start len % 2 ^ totalBits gs = valRev gs := by
      have d : 2 ^ totalBits gs ∣ 2 ^ (f.2 + totalBits gs) := Nat.pow_dvd_pow 2 (by omega)
      rw [← Nat.mod_mod_of_dvd _ d, hS, Nat.add_mul_mod_self_right, Nat.mod_eq_of_lt hA]
    have ih' := ih (fun g hg => hw g (List.mem_cons_of_mem _ hg)) (by omega) hrest
    simp only [List.map_cons, readList, read, totalBits, Nat.le_add_right, if_true, Nat.add_sub_cancel_left,
      hfield, ih']

/-- BIT_readBits beyond the start of the stream: the sticky flag is raised (C: BIT_DStream_overflow) -/
theorem read_underflow_sets_over (r : BitR) (n : Nat) (h : r.left < n) :
    (r.read n).2.over = true ∧ (r.read n).2.atEnd = false := by
  have : ¬ n ≤ r.left := by omega
  simp [read, this, atEnd]

theorem read_over_sticky (r : BitR) (n : Nat) (h : r.over = true) : (r.read n).2.over = true := by
  unfold read; split <;> simp [h]

theorem readList_over_sticky (r : BitR) (ns : List Nat) (h : r.over = true) : (readList r ns).2.over = true := by
  induction ns generalizing r with
  | nil => exact h
  | cons n ns ih => exact ih _ (read_over_sticky r n h)

/-- a sequence of reads ends bit-exact (BIT_endOfDStream) if and only if it asked for exactly the bits that were left:
a decoder that asks for more (or fewer) bits than the encoder wrote cannot end with `atEnd` -/
theorem readList_atEnd_iff (r : BitR) (ns : List Nat) :
    (readList r ns).2.atEnd = true ↔ r.over = false ∧ ns.sum = r.left := by
  induction ns generalizing r with
  | nil =>
    cases ho : r.over
    · simp only [readList, atEnd, ho, List.sum_nil, Bool.not_false, Bool.and_true, beq_iff_eq, true_and]
      exact eq_comm
    · simp [readList, atEnd, ho]
  | cons n ns ih =>
    rw [readList, ih, List.sum_cons]
    unfold read
    split
    · next hle =>
      simp only []
      constructor <;> (intro h; exact ⟨h.1, by omega⟩)
    · next hle =>
      simp only []
      constructor
      · intro h; exact absurd h.1 (by decide)
      · intro h; exact absurd h.2 (by omega)

/-- BIT_initDStream on the embedded bytes of `ofFields fs`: exactly the payload bits, whose value is the sum of the fields -/
theorem init_ofFields (fs : List (Nat × Nat)) (src : Bytes) (start : Nat)
    (hsrc : src.extract start (start + (ofFields fs).size) = ofFields fs) :
    init src start (ofFields fs).size = .ok { src := src, start := start, left := totalBits fs, over := false } ∧
      totalBits fs ≤ 8 * (ofFields fs).size ∧
      src.toNatLE start (ofFields fs).size % 2 ^ totalBits fs = fieldsValFrom 0 fs := by
  obtain ⟨hsize, hle⟩ := ofFields_spec fs
  obtain ⟨hlo, hhi⟩ := streamVal_bounds fs
  have hlen : (ofFields fs).size = totalBits fs / 8 + 1 := by omega
  have hS : src.toNatLE start (ofFields fs).size = streamVal fs := by
    have h8 : 2 ^ (totalBits fs + 1) ≤ 2 ^ (8 * (ofFields fs).size) := Nat.pow_le_pow_right (by decide) (by omega)
    rw [ByteArray.toNatLE_congr src (ofFields fs) start 0 _ (fun i hi => by
        rw [Nat.zero_add, ← ByteArray.u8_extract src start (start + (ofFields fs).size) i (by omega), hsrc]),
      isLE_toNatLE _ _ hle 0 _ (by omega), Nat.mul_zero, Nat.pow_zero, Nat.div_one, Nat.mod_eq_of_lt (by omega)]
  have hfs := fieldsValFrom_lt 0 fs
  rw [Nat.pow_zero, Nat.zero_add] at hfs
  refine ⟨?_, by omega, by rw [hS, streamVal, Nat.add_mod_right]; exact Nat.mod_eq_of_lt (by omega)⟩
  rw [hlen] at hS ⊢
  exact init_eq src start (totalBits fs) (by rw [hS]; exact hlo) (by rw [hS]; exact hhi)

/-- Round trip, stream embedded at `start` in a larger array `src` (bytes before and AFTER the stream are arbitrary: the
64-bit loads of `field` may cover up to 7 bytes behind the stream, their bits are masked away, see `field_eq`; when the
stream sits at the very end of `src` those bytes read as 0 by `u8`, which is covered as well).  Every width ≤ 56 is what
`BitR.field` supports.  `over = false` at the end means the flag was never raised: it is sticky (`read_over_sticky`). -/
theorem bits_roundtrip_at (fs : List (Nat × Nat)) (hw : ∀ f ∈ fs, f.2 ≤ 56) (src : Bytes) (start : Nat)
    (hsrc : src.extract start (start + (ofFields fs).size) = ofFields fs) :
    ∃ r0, init src start (ofFields fs).size = .ok r0 ∧ r0.left = totalBits fs ∧ r0.over = false ∧
      (readList r0 (fs.reverse.map (·.2))).1 = fs.reverse.map (fun f => f.1 % 2 ^ f.2) ∧
      (readList r0 (fs.reverse.map (·.2))).2.over = false ∧
      (readList r0 (fs.reverse.map (·.2))).2.atEnd = true := by
  obtain ⟨hinit, hlen, hmod⟩ := init_ofFields fs src start hsrc
  have hread := readList_valRev src start (ofFields fs).size fs.reverse
    (fun f hf => hw f (List.mem_reverse.mp hf)) (by rw [totalBits_reverse]; exact hlen)
    (by rw [totalBits_reverse, valRev_reverse]; exact hmod)
  rw [totalBits_reverse] at hread
  refine ⟨_, hinit, rfl, rfl, ?_, ?_, ?_⟩ <;> rw [hread]
  rfl

/-- the reader model reads back exactly what the writer model wrote -/
theorem bits_roundtrip (fs : List (Nat × Nat)) (hw : ∀ f ∈ fs, f.2 ≤ 56) :
    ∃ r0, init (ofFields fs) 0 (ofFields fs).size = .ok r0 ∧ r0.left = totalBits fs ∧ r0.over = false ∧
      (readList r0 (fs.reverse.map (·.2))).1 = fs.reverse.map (fun f => f.1 % 2 ^ f.2) ∧
      (readList r0 (fs.reverse.map (·.2))).2.over = false ∧
      (readList r0 (fs.reverse.map (·.2))).2.atEnd = true :=
  bits_roundtrip_at fs hw (ofFields fs) 0 (by rw [Nat.zero_add]; exact ByteArray.extract_zero_size)

end ZstdVerif.BitR

/-! ### non-vacuity: concrete streams (the first two are the answers of the real BIT_* functions, see harness/zvh_bitw.c) -/
namespace ZstdVerif
example : (BitW.ofFields []).data = #[0x01] := by decide
example : (BitW.ofFields [(5, 3), (255, 8)]).data = #[0xfd, 0x0f] := by decide
example : BitW.run [.add 5 3, .flush, .flush, .add 255 8] = BitW.run [.add 5 3, .add 255 8, .flush] := by
  rw [BitW.flush_irrelevant, BitW.flush_irrelevant]; rfl
example : BitW.streamVal [(5, 3), (255, 8)] = 0xffd := by decide
example : (BitR.readList { src := BitW.ofFields [(5, 3), (300, 8)], start := 0, left := 11, over := false } [8, 3]).1
    = [44, 5] := by decide
example : (BitR.readList { src := BitW.ofFields [(5, 3), (300, 8)], start := 0, left := 11, over := false } [8, 4]).2.atEnd
    = false := by decide
end ZstdVerif
