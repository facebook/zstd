/-
Round trip of a whole COMPRESSED BLOCK and of whole FRAMES that contain compressed blocks, through the full decoder model (property C01):
the compressor's match finders are an ORACLE that outputs a parse (literals + sequences); whatever parse they output, if it is valid,
the emitted bytes decode to the source.  Writer: Model/BlockEnc.lean (ZSTD_entropyCompressSeqStore_internal + block header of
ZSTD_compress_frameChunk; tied to the real decoder by tools/ent_block.py through `zvdriver blockenc`) and, for whole frames,
Model/DictEnc.lean `serializeFrameFromT` (`serializeFrame2` and `serializeFrameFrom` are instances by definition).
The block theorem (`block_roundtrip_treeless`) follows the stages of `Block.prepare` and keeps three things in lock step between encoder
and decoder: the repeat-offset history, the sequence tables of the last block with sequences (`EntMatch`), the Huffman table of the last
block that wrote one (`HufMatch`).  The frame theorems are proved once, for a block loop started from ANY such state both sides share
(`blocks_loop`, `decompressFrame_serializedFrom`, `frame_roundtrip_from`); `FrameOK2` / `FrameOKT` start from `repStartValue` and no tables,
Lemmas/DictRT.lean and Lemmas/DictTablesRT.lean from what a loaded dictionary installs.  All four sequence-table modes and all literals
modes (raw, RLE, Huffman with a direct or FSE-compressed tree description, treeless) are covered; the normalised counts of a described
table are a DECISION (FSE_normalizeCount is not modelled): any distribution `TableOK` accepts.  The file ends with four concrete frames.
Props/C01, C06, C08 take the block and frame theorems; Lemmas/BoundRT.lean takes `Tiles2` / `FrameOK2` and the first frame.
-/
import ZstdVerif.Model.DictEnc
import ZstdVerif.Lemmas.LitRT
import ZstdVerif.Lemmas.SeqRT
import ZstdVerif.Lemmas.ExecRT
import ZstdVerif.Lemmas.FrameRT
import ZstdVerif.Lemmas.NCountRT
import ZstdVerif.Lemmas.SpreadRT
import ZstdVerif.Lemmas.WeightsRT
set_option linter.unusedSimpArgs false
namespace ZstdVerif.BlockRT
open ZstdVerif ZstdVerif.Gen ZstdVerif.FSE ZstdVerif.SeqEnc ZstdVerif.LitEnc ZstdVerif.BlockEnc ZstdVerif.Rep
open ZstdVerif.SeqRT (Inverts InRange triIn resolveAll repOf repArr)
open ZstdVerif.Block (Seq decodeSeqs SeqDec Entropy)
open ZstdVerif.FrameRT (Holds)

/-! ### the sequence bit stream at an offset inside a larger input -/

section
variable {ctLL ctOF ctML : CTable} {llT ofT mlT : Array SeqCell} {okLL okOF okML : Nat → Prop}

/-- `SeqRT.seq_section_roundtrip` with the stream sitting at `start` inside `src` (through
`BitR.bits_roundtrip_at` and `SeqRT.decodeSeqs_of_holds`) -/
theorem seq_section_roundtrip_at (hLL : Inverts ctLL llT LL_base LL_bits okLL) (hOF : Inverts ctOF ofT OF_base OF_bits okOF)
    (hML : Inverts ctML mlT ML_base ML_bits okML) (seqs : List SeqIn) (hne : seqs ≠ [])
    (hok : ∀ s ∈ seqs, okLL (codesOf s).ll ∧ okOF (codesOf s).of ∧ okML (codesOf s).ml) (hrng : ∀ s ∈ seqs, InRange s)
    (rep0 : Array Nat) (src : Bytes) (start : Nat)
    (hsrc : src.extract start (start + (encodeSeqBytes ctLL ctOF ctML seqs).size) = encodeSeqBytes ctLL ctOF ctML seqs) :
    ∃ r0, BitR.init src start (encodeSeqBytes ctLL ctOF ctML seqs).size = .ok r0 ∧
      let a := r0.read ctLL.tableLog
      let b := a.2.read ctOF.tableLog
      let c := b.2.read ctML.tableLog
      let sd := decodeSeqs llT ofT mlT seqs.length a.1 b.1 c.1 c.2 rep0
      sd.r.atEnd = true ∧
      sd.seqs.toList = (resolveAll (repOf rep0) (seqs.map triIn)).1 ∧
      sd.rep = repArr (resolveAll (repOf rep0) (seqs.map triIn)).2 := by
  obtain ⟨hdec, hw⟩ := SeqRT.three_state_roundtrip hLL hOF hML seqs hne (fun s hs => SeqRT.seqOK_of s (hok s hs) (hrng s hs))
  have hmap : seqs.map SeqRT.triOf = seqs.map triIn := List.map_congr_left (fun s hs => SeqRT.triOf_eq s (hrng s hs))
  rw [hmap] at hdec
  obtain ⟨r0, hinit, -, -, hvals, -, hend⟩ := BitR.bits_roundtrip_at (encodeSeqFields ctLL ctOF ctML seqs)
    (fun f hf => hw f (by simpa [encodeSeqFields] using hf)) src start hsrc
  have hrev : (encodeSeqFields ctLL ctOF ctML seqs).reverse = encodeSeqStack ctLL ctOF ctML seqs := by
    simp [encodeSeqFields]
  rw [hrev] at hvals hend
  obtain ⟨d1, d2, -, d4⟩ := SeqRT.decodeSeqs_of_holds hdec (by rwa [Ne, List.length_eq_zero_iff])
    (SeqRT.holds_of_readList _ r0 hvals hend) rep0
  exact ⟨r0, hinit, d2, d1, d4⟩

end

/-! ### `Block.prepare` behind the nbSeq field -/

open ZstdVerif.Block in
/-- the lines of `Block.prepare` behind the nbSeq field, verbatim (rest of ZSTD_decodeSeqHeaders, then the decoding part of
ZSTD_decompressSequences): `ip0` = position behind the nbSeq field, `lr` = what the literals stage returned -/
def seqTail (src : Bytes) (ip0 iend nbSeq : Nat) (lr : LitResult) (dstCap : Nat) : R Prepared := do
  let mut ip := ip0
  let mut tr : Trace := { litMode := lr.mode, litStreams := lr.streams, litSize := lr.lits.size, nbSeq := nbSeq }
  let mut e := lr.ent
  if nbSeq == 0 then
    if ip != iend then throw (.corruptionAt "Block:171")
    return { lits := lr.lits, ent := e, tr := tr, seqs := #[], streamCheck := .ok () }
  if ip + 1 > iend then throw (.srcSizeWrongAt "Block:174")
  let mb := src.u8 ip
  if mb &&& 3 != 0 then throw (.corruptionAt "Block:176")
  ip := ip + 1
  let (llT, llLog, u1) ← buildSeqTable (mb >>> 6) src ip iend MaxLL LLFSELog LL_base LL_bits LL_defaultDTable LL_DEFAULTNORMLOG e.ll e.llLog e.fseValid
  ip := ip + u1
  let (ofT, ofLog, u2) ← buildSeqTable ((mb >>> 4) &&& 3) src ip iend MaxOff OffFSELog OF_base OF_bits OF_defaultDTable OF_DEFAULTNORMLOG e.of e.ofLog e.fseValid
  ip := ip + u2
  let (mlT, mlLog, u3) ← buildSeqTable ((mb >>> 2) &&& 3) src ip iend MaxML MLFSELog ML_base ML_bits ML_defaultDTable ML_DEFAULTNORMLOG e.ml e.mlLog e.fseValid
  ip := ip + u3
  tr := { tr with modes := (mb >>> 6, (mb >>> 4) &&& 3, (mb >>> 2) &&& 3), tableSizes := (u1, u2, u3), bitstreamSize := iend - ip }
  e := { e with ll := llT, llLog := llLog, of := ofT, ofLog := ofLog, ml := mlT, mlLog := mlLog, fseValid := true }
  if dstCap == 0 then throw .dstTooSmall
  let r0 ← match BitR.init src ip (iend - ip) with
    | .ok r => pure r
    | .error er => throw (.corruptionAt ("Block:190<" ++ er.site))
  let (sLL0, r1) := r0.read llLog
  let (sOF0, r2) := r1.read ofLog
  let (sML0, r3) := r2.read mlLog
  let sd := decodeSeqs llT ofT mlT nbSeq sLL0 sOF0 sML0 r3 e.rep
  return { lits := lr.lits, ent := { e with rep := sd.rep }, tr := { tr with seqs := sd.seqs }, seqs := sd.seqs,
           streamCheck := if !sd.r.atEnd then .error (.corruptionAt "Block:256") else .ok () }

/-! ### the number of sequences -/

/-- the bytes of a little-endian field that sits in the input (declared in `FrameRT.Holds`, the namespace of `Holds`, for the dot
notation `h.le_u8`) -/
theorem _root_.ZstdVerif.FrameRT.Holds.le_u8 {src : ByteArray} {ip v k : Nat} (h : Holds src ip (le v k)) (i : Nat) (hi : i < k) :
    src.u8 (ip + i) = v / 2 ^ (8 * i) % 256 := by
  rw [h.u8 i (by rw [LitRT.le_size]; exact hi), LitRT.le_u8 _ _ _ hi]

theorem _root_.ZstdVerif.FrameRT.Holds.le_head {src : ByteArray} {ip v k : Nat} (h : Holds src ip (le v k)) (hk : 0 < k) :
    src.u8 ip = v % 256 := by
  have := h.le_u8 0 hk
  rwa [Nat.add_zero, Nat.mul_zero, Nat.pow_zero, Nat.div_one] at this

theorem nbSeqHeader_size (n : Nat) : (nbSeqHeader n).size = if n < 128 then 1 else if n < LONGNBSEQ then 2 else 3 := by
  unfold nbSeqHeader
  split
  · rw [LitRT.le_size]
  · split
    · rw [ByteArray.size_append, LitRT.le_size, LitRT.le_size]
    · rw [ByteArray.size_append, LitRT.le_size, LitRT.le_size]

theorem holds_of_extract {src b : ByteArray} {s : Nat} (h : src.extract s (s + b.size) = b) (hb : 0 < b.size) : Holds src s b := by
  have hs := congrArg ByteArray.size h
  rw [ByteArray.size_extract] at hs
  have hle : s + b.size ≤ src.size := by omega
  refine ⟨src.extract 0 s, src.extract (s + b.size) src.size, ?_, by rw [ByteArray.size_extract]; omega⟩
  have e1 : src.extract s (s + b.size) ++ src.extract (s + b.size) src.size = src.extract s src.size := by
    rw [ByteArray.extract_append_extract, Nat.min_eq_left (by omega), Nat.max_eq_right (by omega)]
  have e2 : src.extract 0 s ++ src.extract s src.size = src := by
    rw [ByteArray.extract_append_extract, Nat.min_eq_left (by omega), Nat.max_eq_right (by omega)]
    exact ByteArray.extract_zero_size
  rw [h] at e1
  rw [e1, e2]

/-- `Block.prepare` up to the end of the nbSeq field (ZSTD_decodeSeqHeaders), for each of the three encodings of the number of sequences
that ZSTD_entropyCompressSeqStore_internal writes (`nbSeqHeader`): what remains is `seqTail` behind the field. -/
theorem prepare_of_header {src : Bytes} {start cSize : Nat} {ent : Entropy} {bsm dstCap : Nat} {lr : Block.LitResult} (n : Nat)
    (hn : n < LONGNBSEQ + 65536) (hsz : cSize ≤ bsm) (hlit : Block.decodeLiterals src start cSize ent bsm dstCap = .ok lr)
    (h : Holds src (start + lr.used) (nbSeqHeader n)) (hend : start + lr.used + (nbSeqHeader n).size ≤ start + cSize) :
    Block.prepare src start cSize ent bsm dstCap =
      seqTail src (start + lr.used + (nbSeqHeader n).size) (start + cSize) n lr dstCap := by
  have hsz := nbSeqHeader_size n
  have h1 : ¬ cSize > bsm := by omega
  have c2 : ¬ start + cSize - (start + lr.used) < MIN_SEQUENCES_SIZE := by
    unfold MIN_SEQUENCES_SIZE; rw [hsz] at hend; repeat' split at hend
    all_goals omega
  unfold LONGNBSEQ at hn hsz
  unfold nbSeqHeader at h
  unfold Block.prepare
  by_cases c1 : n < 128
  · rw [if_pos c1] at h hsz
    have e0 : src.u8 (start + lr.used) = n := by rw [h.le_head (by decide)]; omega
    have c3 : ¬ n > 127 := by omega
    simp only [bind, Except.bind, pure, Except.pure, throw, throwThe, MonadExceptOf.throw, h1, hlit, c2, e0, c3, hsz, ↓reduceIte]
    rfl
  · rw [if_neg c1] at h hsz
    by_cases c4 : n < 32512
    · rw [if_pos (by unfold LONGNBSEQ; exact c4)] at h
      rw [if_pos c4] at hsz
      have e0 : src.u8 (start + lr.used) = n / 256 + 128 := by
        rw [h.left.le_head (by decide), Nat.shiftRight_eq_div_pow]; omega
      have e1 : src.u8 (start + lr.used + 1) = n % 256 := by
        have := h.right.le_head (by decide); rwa [LitRT.le_size] at this
      have c3 : n / 256 + 128 > 127 := by omega
      have c5 : (n / 256 + 128 == 255) = false := by simp only [beq_eq_false_iff_ne, ne_eq]; omega
      have c6 : ¬ start + lr.used + 1 ≥ start + cSize := by omega
      have e2 : ((n / 256 + 128 - 128) <<< 8) + n % 256 = n := by rw [Nat.shiftLeft_eq]; omega
      simp only [bind, Except.bind, pure, Except.pure, throw, throwThe, MonadExceptOf.throw, h1, hlit, c2, e0, e1, c3, c5, c6, e2, hsz,
        ↓reduceIte, Bool.false_eq_true]
      rfl
    · rw [if_neg (by unfold LONGNBSEQ; exact c4)] at h
      rw [if_neg c4] at hsz
      have e0 : src.u8 (start + lr.used) = 255 := h.left.le_head (by decide)
      have e1 : src.le16 (start + lr.used + 1) + LONGNBSEQ = n := by
        have b1 := h.right.le_head (by decide)
        have b2 := h.right.le_u8 1 (by decide)
        rw [LitRT.le_size] at b1 b2
        unfold ByteArray.le16
        rw [b1, Nat.add_assoc, b2, Nat.shiftLeft_eq]; unfold LONGNBSEQ; omega
      have c6 : ¬ start + lr.used + 1 + 2 > start + cSize := by omega
      simp only [bind, Except.bind, pure, Except.pure, throw, throwThe, MonadExceptOf.throw, h1, hlit, c2, e0, e1, c6, hsz, ↓reduceIte,
        BEq.rfl, Nat.reduceGT]
      rfl

/-! ### the table modes -/

/-- the decoding table ZSTD_buildSeqTable installs for a RESOLVED mode choice: the constant default table, the one-cell RLE table, or
the table ZSTD_buildFSETable builds from the described distribution.  (`.repeat` does not occur in a resolved choice, see `TableOK`;
it is given the default table like `SeqTableChoice.ctable` does.) -/
def dtab (dflt : List SeqCell) (base bits : List Nat) : SeqTableChoice → Array SeqCell
  | .predefined => dflt.toArray
  | .rle sym => FSE.rleSeqTable sym base bits
  | .fse norm log => FSE.buildSeqTable norm log base bits
  | .repeat => dflt.toArray

def dlog (dfltLog : Nat) : SeqTableChoice → Nat
  | .predefined => dfltLog
  | .rle _ => 0
  | .fse _ log => log
  | .repeat => dfltLog

/-- the codes a RESOLVED mode choice can express: all codes of the default alphabet (up to `dmax`), the one RLE symbol, or the symbols
of the described alphabet whose normalised count is not 0 -/
def okOf (dmax : Nat) : SeqTableChoice → Nat → Prop
  | .predefined => (· ≤ dmax)
  | .rle sym => (· = sym)
  | .fse norm _ => fun s => s < norm.size ∧ norm[s]! ≠ 0
  | .repeat => fun _ => False

instance (dmax : Nat) (c : SeqTableChoice) (s : Nat) : Decidable (okOf dmax c s) := by
  cases c <;> (simp only [okOf]; infer_instance)

/-- what a RESOLVED mode choice must satisfy for the decoder to accept its description and to invert its table (`maxSym`, `maxLog` =
the limits ZSTD_buildSeqTable is called with).  `set_compressed`: a normalised distribution with `FSE_MIN_TABLELOG = 5 ≤ L ≤ maxLog`, an
alphabet within the limit whose last symbol is present (FSE_writeNCount is handed `maxSymbolValue` = the last symbol with a non-zero
count), and the two spreading facts `SeqRT.inverts_build` takes as hypotheses.  These two are no conditions on the distribution: they
follow from the other conjuncts (`tableOK_iff_distribution`), and `TableOK` is decided through `TableDescOK`.  The bound on an RLE
symbol follows from `CodesOK`; `set_repeat` is not a resolved choice. -/
def TableOK (maxSym maxLog : Nat) : SeqTableChoice → Prop
  | .predefined => True
  | .rle _ => True
  | .fse norm L => NormOK norm L ∧ 5 ≤ L ∧ L ≤ maxLog ∧ norm.size ≤ maxSym + 1 ∧ norm[norm.size - 1]! ≠ 0 ∧
      spreadOK (spreadEnc norm L) norm L = true ∧ spreadEnc norm L = spread norm L
  | .repeat => False

/-- `TableOK` for the three resolved decisions of a block, with the limits of ZSTD_decodeSeqHeaders -/
def TablesOK (t : Tables) : Prop :=
  TableOK MaxLL LLFSELog t.ll ∧ TableOK MaxOff OffFSELog t.of ∧ TableOK MaxML MLFSELog t.ml

theorem tablesOK_default : TablesOK {} := ⟨trivial, trivial, trivial⟩

/-- `TableOK` without its two spreading conjuncts -/
def TableDescOK (maxSym maxLog : Nat) : SeqTableChoice → Prop
  | .predefined => True
  | .rle _ => True
  | .fse norm L => NormOK norm L ∧ 5 ≤ L ∧ L ≤ maxLog ∧ norm.size ≤ maxSym + 1 ∧ norm[norm.size - 1]! ≠ 0
  | .repeat => False

instance (maxSym maxLog : Nat) (c : SeqTableChoice) : Decidable (TableDescOK maxSym maxLog c) := by
  cases c <;> (simp only [TableDescOK]; infer_instance)

def TablesDescOK (t : Tables) : Prop :=
  TableDescOK MaxLL LLFSELog t.ll ∧ TableDescOK MaxOff OffFSELog t.of ∧ TableDescOK MaxML MLFSELog t.ml

instance (t : Tables) : Decidable (TablesDescOK t) := by unfold TablesDescOK; infer_instance

/-- the two spreading conjuncts of `TableOK` follow from its distribution conjuncts (`FSE.spreadEnc_eq_spread`, `FSE.spread_ok`) -/
theorem tableOK_iff_distribution {maxSym maxLog : Nat} {c : SeqTableChoice} : TableOK maxSym maxLog c ↔ TableDescOK maxSym maxLog c := by
  cases c with
  | fse norm L =>
    refine ⟨fun ⟨hN, h5, hL, hsz, hlast, _, _⟩ => ⟨hN, h5, hL, hsz, hlast⟩, fun ⟨hN, h5, hL, hsz, hlast⟩ => ?_⟩
    have hE := spreadEnc_eq_spread hN
    exact ⟨hN, h5, hL, hsz, hlast, by rw [hE]; exact (spreadOK_iff _ _ _).2 (spread_ok hN (by omega)), hE⟩
  | _ => exact Iff.rfl

theorem tableOK_of_distribution {maxSym maxLog : Nat} {c : SeqTableChoice} (h : TableDescOK maxSym maxLog c) : TableOK maxSym maxLog c :=
  tableOK_iff_distribution.2 h

/-- `TableOK` is decided on the distribution: no spreading is evaluated -/
instance (maxSym maxLog : Nat) (c : SeqTableChoice) : Decidable (TableOK maxSym maxLog c) :=
  decidable_of_iff _ tableOK_iff_distribution.symm

instance (t : Tables) : Decidable (TablesOK t) := by unfold TablesOK; infer_instance

theorem tablesOK_of_distribution {t : Tables} (h : TablesDescOK t) : TablesOK t :=
  ⟨tableOK_of_distribution h.1, tableOK_of_distribution h.2.1, tableOK_of_distribution h.2.2⟩

def isRepeat : SeqTableChoice → Bool
  | .repeat => true
  | _ => false

def usesRepeat (t : Tables) : Bool := isRepeat t.ll || isRepeat t.of || isRepeat t.ml

theorem resolve_of_not_isRepeat (p c : SeqTableChoice) (h : isRepeat c = false) : c.resolve p = c := by
  cases c <;> first | rfl | cases h

theorem resolve_of_not_usesRepeat (p t : Tables) (h : usesRepeat t = false) : Tables.resolve p t = t := by
  obtain ⟨a, b, c⟩ := t
  simp only [usesRepeat, Bool.or_eq_false_iff] at h
  simp only [Tables.resolve, resolve_of_not_isRepeat _ _ h.1.1, resolve_of_not_isRepeat _ _ h.1.2, resolve_of_not_isRepeat _ _ h.2]

theorem ctable_log (norm : List Int) (log : Nat) (c : SeqTableChoice) : (c.ctable norm log).tableLog = dlog log c := by
  cases c <;> rfl

theorem descr_size (c : SeqTableChoice) : c.descr.size =
    match c with
    | .predefined => 0
    | .rle _ => 1
    | .fse norm log => (NCountW.writeNCount norm log).size
    | .repeat => 0 := by
  cases c
  · rfl
  · exact LitRT.le_size _ _
  · rfl
  · rfl

/-- the symbol of an RLE table is within a limit as soon as one code the (resolved) table can express is -/
theorem rle_le_of_okOf {c pc : SeqTableChoice} {dmax code m : Nat} (hk : okOf dmax (c.resolve pc) code) (hc : code ≤ m) :
    ∀ s, c = .rle s → s ≤ m := by
  rintro s rfl
  exact (show code = s from hk) ▸ hc

/-- ZSTD_buildSeqTable on what ZSTD_buildCTable wrote for the mode (a described table is read back whatever follows it inside the
block: `NCountRT.ncount_roundtrip`).  For `set_repeat` the decoder must hold valid tables (`fv`) and hands out the one it holds, which is
the table of the previous resolved choice `pc`.  The result is the table of the RESOLVED choice. -/
theorem buildSeqTable_choice (c pc : SeqTableChoice) (src : Bytes) (ip iend maxSym maxLog : Nat) (base bits : List Nat)
    (dflt : List SeqCell) (dfltLog : Nat) (prev : Array SeqCell) (prevLog : Nat) (fv : Bool)
    (h : Holds src ip c.descr) (hend : ip + c.descr.size ≤ iend) (hsym : ∀ s, c = .rle s → s ≤ maxSym) (hmax : maxSym < 256)
    (hT : TableOK maxSym maxLog (c.resolve pc)) (hlog : maxLog ≤ 12)
    (hrep : c = .repeat → fv = true ∧ prev = dtab dflt base bits pc ∧ prevLog = dlog dfltLog pc) :
    Block.buildSeqTable c.mode src ip iend maxSym maxLog base bits dflt dfltLog prev prevLog fv
      = .ok (dtab dflt base bits (c.resolve pc), dlog dfltLog (c.resolve pc), c.descr.size) := by
  cases c with
  | predefined =>
    unfold Block.buildSeqTable
    simp only [SeqTableChoice.mode, set_basic, bind, Except.bind, pure, Except.pure, Nat.reduceBEq, Bool.false_eq_true, ↓reduceIte,
      BEq.rfl, dtab, dlog, SeqTableChoice.descr, SeqTableChoice.resolve, ByteArray.size_empty]
  | rle sym =>
    have hs := hsym sym rfl
    have hsz : (SeqTableChoice.rle sym).descr.size = 1 := LitRT.le_size _ _
    rw [hsz] at hend
    have e0 : src.u8 ip = sym := by rw [h.le_head (by decide)]; omega
    have c1 : ¬ ip ≥ iend := by omega
    have c2 : ¬ sym > maxSym := by omega
    unfold Block.buildSeqTable
    simp only [SeqTableChoice.mode, set_rle, bind, Except.bind, pure, Except.pure, throw, throwThe, MonadExceptOf.throw, BEq.rfl,
      ↓reduceIte, c1, c2, e0, dtab, dlog, hsz, SeqTableChoice.resolve]
  | fse norm L =>
    obtain ⟨hN, h5, hL, hsz, hlast, -, -⟩ : TableOK maxSym maxLog (.fse norm L) := hT
    have hd : (SeqTableChoice.fse norm L).descr = NCountW.writeNCount norm L := rfl
    rw [hd] at h hend ⊢
    have hrd := NCountRT.ncount_roundtrip norm L hN h5 (by omega) hlast maxSym hsz src ip (iend - ip) (by omega) h.extract
    have c1 : ¬ L > maxLog := by omega
    unfold Block.buildSeqTable
    simp only [SeqTableChoice.mode, set_compressed, bind, Except.bind, pure, Except.pure, throw, throwThe, MonadExceptOf.throw,
      Nat.reduceBEq, Bool.false_eq_true, ↓reduceIte, hrd, c1, dtab, dlog, SeqTableChoice.resolve]
  | «repeat» =>
    obtain ⟨e1, e2, e3⟩ := hrep rfl
    subst e1 e2 e3
    unfold Block.buildSeqTable
    simp only [SeqTableChoice.mode, set_repeat, bind, Except.bind, pure, Except.pure, throw, throwThe, MonadExceptOf.throw,
      Nat.reduceBEq, Bool.false_eq_true, ↓reduceIte, BEq.rfl, Bool.not_true, SeqTableChoice.descr, SeqTableChoice.resolve,
      ByteArray.size_empty]

/-- the compression table of a resolved choice is inverted by its decoding table on the codes it can express (predefined:
`SeqRT.inverts_default`, RLE: `SeqRT.inverts_rle`, described: `SeqRT.inverts_build`, which asks for `tableLog ≤ 14`).  Stated for the
three symbol types at once, which differ in base / bits / default table only; each caller keeps its own component. -/
theorem inverts_choice (c : SeqTableChoice) {maxSym maxLog : Nat} (hT : TableOK maxSym maxLog c) (hlog : maxLog ≤ 14) :
    Inverts (c.ctable LL_defaultNorm LL_DEFAULTNORMLOG) (dtab LL_defaultDTable LL_base LL_bits c) LL_base LL_bits (okOf MaxLL c) ∧
    Inverts (c.ctable OF_defaultNorm OF_DEFAULTNORMLOG) (dtab OF_defaultDTable OF_base OF_bits c) OF_base OF_bits (okOf DefaultMaxOff c) ∧
    Inverts (c.ctable ML_defaultNorm ML_DEFAULTNORMLOG) (dtab ML_defaultDTable ML_base ML_bits c) ML_base ML_bits (okOf MaxML c) := by
  cases c with
  | predefined => exact SeqRT.inverts_default
  | rle sym => exact ⟨SeqRT.inverts_rle sym _ _, SeqRT.inverts_rle sym _ _, SeqRT.inverts_rle sym _ _⟩
  | fse norm L =>
    obtain ⟨hN, -, hL, -, -, hS, hE⟩ := hT
    have hL14 : L ≤ 14 := by omega
    exact ⟨SeqRT.inverts_build hN hL14 hS hE _ _, SeqRT.inverts_build hN hL14 hS hE _ _, SeqRT.inverts_build hN hL14 hS hE _ _⟩
  | «repeat» => exact hT.elim

theorem seqHead_fields (t : Tables) :
    seqHead t < 256 ∧ seqHead t &&& 3 = 0 ∧ seqHead t >>> 6 = t.ll.mode ∧ (seqHead t >>> 4) &&& 3 = t.of.mode ∧
      (seqHead t >>> 2) &&& 3 = t.ml.mode := by
  have key : ∀ a b c : Fin 4, (fun h : Nat => h < 256 ∧ h &&& 3 = 0 ∧ h >>> 6 = a ∧ (h >>> 4) &&& 3 = b ∧ (h >>> 2) &&& 3 = c)
      ((a.val <<< 6) + (b.val <<< 4) + (c.val <<< 2)) := by decide
  have hm : ∀ c : SeqTableChoice, c.mode < 4 := by
    intro c; cases c <;> simp [SeqTableChoice.mode, set_basic, set_rle, set_compressed, set_repeat]
  exact key ⟨_, hm t.ll⟩ ⟨_, hm t.of⟩ ⟨_, hm t.ml⟩

/-! ### tables and sequences: `seqTail` on what the writer wrote behind the nbSeq field -/

/-- the part of `seqSection` behind the nbSeq field (`prev` = the resolved decisions of the previous block with sequences) -/
def seqRest (t : Tables) (seqs : List SeqIn) (prev : Tables := {}) : ByteArray :=
  le (seqHead t) 1 ++ (t.ll.descr ++ (t.of.descr ++ (t.ml.descr ++ encodeSeqBytes (ctLL t prev) (ctOF t prev) (ctML t prev) seqs)))

/-- every sequence uses codes the chosen (RESOLVED) tables can express: with a predefined table any code of the default alphabet
(LL ≤ 35, OF ≤ 28 i.e. `offBase < 2^29`, ML ≤ 52), with an RLE table exactly its symbol, with a described table the symbols of non-zero
normalised count.  For a block that uses `set_repeat`: `CodesOK (Tables.resolve prev t) seqs`. -/
def CodesOK (t : Tables) (seqs : List SeqIn) : Prop :=
  ∀ s ∈ seqs, okOf MaxLL t.ll (codesOf s).ll ∧ okOf DefaultMaxOff t.of (codesOf s).of ∧ okOf MaxML t.ml (codesOf s).ml

instance (t : Tables) (seqs : List SeqIn) : Decidable (CodesOK t seqs) := by unfold CodesOK; infer_instance

theorem seqSection_eq (t : Tables) (seqs : List SeqIn) (hne : seqs ≠ []) (prev : Tables := {}) :
    seqSection t seqs prev = nbSeqHeader seqs.length ++ seqRest t seqs prev := by
  unfold seqSection seqRest
  cases seqs with
  | nil => exact absurd rfl hne
  | cons a l => simp only [List.isEmpty_cons, Bool.false_eq_true, ↓reduceIte, ByteArray.append_assoc]

/-- the sequence tables the decoder carries from block to block (`dctx->LLTptr / OFTptr / MLTptr`, `fseEntropy`) ARE the decoding
tables of the resolved decisions `p` -/
structure EntIs (p : Tables) (ent : Entropy) : Prop where
  valid : ent.fseValid = true
  ll : ent.ll = dtab LL_defaultDTable LL_base LL_bits p.ll
  llLog : ent.llLog = dlog LL_DEFAULTNORMLOG p.ll
  of : ent.of = dtab OF_defaultDTable OF_base OF_bits p.of
  ofLog : ent.ofLog = dlog OF_DEFAULTNORMLOG p.of
  ml : ent.ml = dtab ML_defaultDTable ML_base ML_bits p.ml
  mlLog : ent.mlLog = dlog ML_DEFAULTNORMLOG p.ml

/-- the carrier relation between the encoder's `prev : Option Tables` (`BlockEnc.nextTables`) and the decoder's entropy state:
nothing is claimed while no block with sequences has been written (`none`; the decoder may hold anything, e.g. a dictionary's
tables: they are never asked for); afterwards the decoder holds the tables of the last resolved decisions, marked valid -/
def EntMatch (prev : Option Tables) (ent : Entropy) : Prop :=
  match prev with
  | none => True
  | some p => EntIs p ent

/-- two entropy states with the same sequence-table part (the literals stage only touches the Huffman table) -/
def SameFse (a b : Entropy) : Prop :=
  a.ll = b.ll ∧ a.llLog = b.llLog ∧ a.of = b.of ∧ a.ofLog = b.ofLog ∧ a.ml = b.ml ∧ a.mlLog = b.mlLog ∧ a.fseValid = b.fseValid

theorem EntMatch.of_same {prev : Option Tables} {a b : Entropy} (h : EntMatch prev b) (hs : SameFse a b) : EntMatch prev a := by
  cases prev with
  | none => trivial
  | some p =>
    have h : EntIs p b := h
    obtain ⟨s1, s2, s3, s4, s5, s6, s7⟩ := hs
    exact ⟨by rw [s7, h.valid], by rw [s1, h.ll], by rw [s2, h.llLog], by rw [s3, h.of], by rw [s4, h.ofLog], by rw [s5, h.ml],
      by rw [s6, h.mlLog]⟩

/-- `seqTail` on what the writer wrote behind the nbSeq field, for decisions `t` made after the resolved decisions `p`: where `t` says
`set_repeat` the decoder must hold the tables of `p` (`hrep`); afterwards it holds those of `Tables.resolve p t`, marked valid. -/
theorem seqTail_serialized (t : Tables) (seqs : List SeqIn) (hne : seqs ≠ []) (hrng : ∀ s ∈ seqs, InRange s) (p : Tables)
    (hT : TablesOK (Tables.resolve p t)) (hok : CodesOK (Tables.resolve p t) seqs)
    (src : Bytes) (ip iend : Nat) (lr : Block.LitResult) (dstCap : Nat) (hcap : 0 < dstCap)
    (hrep : usesRepeat t = true → EntIs p lr.ent)
    (H : Holds src ip (seqRest t seqs p)) (hend : iend = ip + (seqRest t seqs p).size) :
    ∃ q, seqTail src ip iend seqs.length lr dstCap = .ok q ∧ q.lits = lr.lits ∧
      q.seqs.toList = (resolveAll (repOf lr.ent.rep) (seqs.map triIn)).1 ∧ q.streamCheck = .ok () ∧
      q.ent.rep = repArr (resolveAll (repOf lr.ent.rep) (seqs.map triIn)).2 ∧ q.ent.huf = lr.ent.huf ∧ q.tr.nbSeq = seqs.length ∧
      EntIs (Tables.resolve p t) q.ent := by
  obtain ⟨s0, hs0⟩ := List.exists_mem_of_ne_nil _ hne
  obtain ⟨r1, r2, r3, r4⟩ := hrng s0 hs0
  obtain ⟨k1, k2, k3⟩ := hok s0 hs0
  -- a table that is repeated is one the decoder holds
  have hrep : ∀ c, (c = t.ll ∨ c = t.of ∨ c = t.ml) → c = .repeat → EntIs p lr.ent := by
    rintro c (rfl | rfl | rfl) hs <;> exact hrep (by simp only [usesRepeat, hs, isRepeat, Bool.true_or, Bool.or_true])
  obtain ⟨hT1, hT2, hT3⟩ := hT
  obtain ⟨i1, -, -⟩ := inverts_choice (t.ll.resolve p.ll) hT1 (by decide)
  obtain ⟨-, i2, -⟩ := inverts_choice (t.of.resolve p.of) hT2 (by decide)
  obtain ⟨-, -, i3⟩ := inverts_choice (t.ml.resolve p.ml) hT3 (by decide)
  unfold seqRest at H hend
  simp only [ByteArray.size_append, LitRT.le_size] at hend
  have Hm := H.left
  have H1 := H.right.left
  have H2 := H.right.right.left
  have H3 := H.right.right.right.left
  have Hb := H.right.right.right.right
  simp only [LitRT.le_size] at H1 H2 H3 Hb
  obtain ⟨r0, hinit, hmain⟩ := seq_section_roundtrip_at i1 i2 i3 seqs hne hok hrng lr.ent.rep src _ Hb.extract
  simp only [ctLL, ctOF, ctML, ctable_log] at hmain
  obtain ⟨m1, m2, m3⟩ := hmain
  obtain ⟨q0, q1, q2, q3, q4⟩ := seqHead_fields t
  have hmb : src.u8 ip = seqHead t := by rw [Hm.le_head (by decide)]; omega
  have hn0 : (seqs.length == 0) = false := by simp [hne]
  have c1 : ¬ ip + 1 > iend := by omega
  have hb1 := buildSeqTable_choice t.ll p.ll src (ip + 1) iend MaxLL LLFSELog LL_base LL_bits LL_defaultDTable LL_DEFAULTNORMLOG
    lr.ent.ll lr.ent.llLog lr.ent.fseValid H1 (by omega) (rle_le_of_okOf k1 (SeqRT.llCode_le _ r1)) (by decide) hT1 (by decide)
    (fun hs => have e := hrep _ (.inl rfl) hs; ⟨e.valid, e.ll, e.llLog⟩)
  have hb2 := buildSeqTable_choice t.of p.of src (ip + 1 + t.ll.descr.size) iend MaxOff OffFSELog OF_base OF_bits OF_defaultDTable
    OF_DEFAULTNORMLOG lr.ent.of lr.ent.ofLog lr.ent.fseValid H2 (by omega) (rle_le_of_okOf k2 (SeqRT.of_code_roundtrip _ r3 r4).2.1) (by decide)
    hT2 (by decide) (fun hs => have e := hrep _ (.inr (.inl rfl)) hs; ⟨e.valid, e.of, e.ofLog⟩)
  have hb3 := buildSeqTable_choice t.ml p.ml src (ip + 1 + t.ll.descr.size + t.of.descr.size) iend MaxML MLFSELog ML_base ML_bits
    ML_defaultDTable ML_DEFAULTNORMLOG lr.ent.ml lr.ent.mlLog lr.ent.fseValid H3 (by omega) (rle_le_of_okOf k3 (SeqRT.mlCode_le _ r2)) (by decide)
    hT3 (by decide) (fun hs => have e := hrep _ (.inr (.inr rfl)) hs; ⟨e.valid, e.ml, e.mlLog⟩)
  have hc0 : (dstCap == 0) = false := by simp only [beq_eq_false_iff_ne, ne_eq]; omega
  have hlen : iend - (ip + 1 + t.ll.descr.size + t.of.descr.size + t.ml.descr.size)
      = (encodeSeqBytes (ctLL t p) (ctOF t p) (ctML t p) seqs).size := by omega
  unfold seqTail
  simp only [bind, Except.bind, pure, Except.pure, throw, throwThe, MonadExceptOf.throw, hn0, Bool.false_eq_true, ↓reduceIte, c1, hmb,
    q1, q2, q3, q4, bne_self_eq_false, hb1, hb2, hb3, hc0, hlen]
  simp only [ctLL, ctOF, ctML, hinit, m1, m2, m3, Bool.not_true]
  exact ⟨_, rfl, rfl, m2, rfl, rfl, rfl, rfl, ⟨rfl, rfl, rfl, rfl, rfl, rfl, rfl⟩⟩

/-! ### the literals section, whatever the mode -/

/-- hypotheses of the Huffman literals round trip (`LitRT.literals_roundtrip_compressed`): the weights `ws ++ [last]` satisfy the Kraft
equality at depth `log ≤ 12` with a present last symbol, at least one explicit weight and two symbols of weight 1; every literal has a
code; and the section is smaller than the literals (ZSTD_minGain: otherwise ZSTD_compressLiterals emits them raw) -/
structure HufOK (ws : List Nat) (last log : Nat) (lits : ByteArray) : Prop where
  ok : HufRT.WeightsOK (ws.toArray.push last) log
  last_pos : 0 < last
  log_le : log ≤ 12
  two_ones : 2 ≤ (ws ++ [last]).count 1
  ws_ne : 1 ≤ ws.length
  syms : ∀ s ∈ symsOf lits, ∃ hs : s < (ws.toArray.push last).size, 0 < (ws.toArray.push last)[s]
  gain : ∀ wh streams, directWeights ws = some wh →
    hufStreams (decide ((symsOf lits).length < 256)) (HufEnc.codesOf (ws.toArray.push last) log) (symsOf lits) = some streams →
    wh.size + streams.size < lits.size

/-- hypotheses of the TREELESS literals round trip (`LitRT.literals_roundtrip_treeless`) on the literals, given the table `weights` /
`log` of the earlier block: every literal has a code in THAT table (HUF_validateCTable), and the stream(s) are smaller than the
literals (ZSTD_minGain: otherwise ZSTD_compressLiterals emits them raw).  That the weights themselves are acceptable is not asked
here: it is carried from the block that wrote the table (`HufMatch`). -/
structure TreelessOK (weights : Array Nat) (log : Nat) (lits : ByteArray) : Prop where
  syms : ∀ s ∈ symsOf lits, ∃ hs : s < weights.size, 0 < weights[s]
  gain : ∀ streams, hufStreams (decide ((symsOf lits).length < 256)) (HufEnc.codesOf weights log) (symsOf lits) = some streams →
    streams.size < lits.size

/-- hypotheses of the Huffman literals round trip when the tree description is the one HUF_writeCTable_wksp writes - FSE-compressed weights
when that is smaller, else direct (`WeightsRT.literals_roundtrip_compressed_fse`): as `HufOK`, with at most 256 symbols, the side
conditions on the normalised counts of the weight values (`WeightsRT.WeightsFseOK`), and the gain stated for that description -/
structure HufFseOK (ws : List Nat) (last log : Nat) (norm : Array Int) (nlog : Nat) (lits : ByteArray) : Prop where
  ok : HufRT.WeightsOK (ws.toArray.push last) log
  last_pos : 0 < last
  log_le : log ≤ 12
  two_ones : 2 ≤ (ws ++ [last]).count 1
  ws_ne : 1 ≤ ws.length
  ws_le : ws.length ≤ 255
  fse : WeightsRT.WeightsFseOK norm nlog ws
  syms : ∀ s ∈ symsOf lits, ∃ hs : s < (ws.toArray.push last).size, 0 < (ws.toArray.push last)[s]
  gain : ∀ wh streams, treeDescr norm nlog ws = some wh →
    hufStreams (decide ((symsOf lits).length < 256)) (HufEnc.codesOf (ws.toArray.push last) log) (symsOf lits) = some streams →
    wh.size + streams.size < lits.size

/-- what the literals must satisfy for the chosen mode: nothing for raw; all bytes equal for RLE; `HufOK` for Huffman with a new table
(`HufFseOK` when its tree description may be FSE-compressed);
for treeless literals an earlier compressed block of the frame must have written a table (`hp = some ..`, threaded by
`BlockEnc.nextHuf`) that covers the literals (`TreelessOK`).  With `hp = none` (the default: nothing known about earlier blocks)
treeless literals are not applicable. -/
def LitOK (c : LitChoice) (lits : ByteArray) (hp : Option HufTab := none) : Prop :=
  match c with
  | .raw => True
  | .rle => ∃ b, lits = LitRT.rleBytes lits.size b
  | .huffman ws last log => HufOK ws last log lits
  | .treeless =>
    match hp with
    | some (w, log) => TreelessOK w log lits
    | none => False
  | .huffmanFse ws last log norm nlog => HufFseOK ws last log norm nlog lits

/-- the carrier relation between the encoder's `hp : Option HufTab` (`BlockEnc.nextHuf`) and the decoder's entropy state: nothing is
claimed while no block of the frame has written a Huffman table (`none`; the decoder may hold anything, e.g. a dictionary's table: it
is never asked for); afterwards the decoder holds the table built from the weights of the last block that wrote one
(`dctx->HUFptr`, `litEntropy = 1`), and these weights are what HUF_readStats accepted (`WeightsOK`, depth ≤ HUF_TABLELOG_MAX) -/
def HufMatch (hp : Option HufTab) (ent : Entropy) : Prop :=
  match hp with
  | none => True
  | some (w, log) => HufRT.WeightsOK w log ∧ log ≤ 12 ∧ ent.huf = some (Huf.buildTable ⟨w, log, 0⟩)

theorem HufMatch.of_huf {hp : Option HufTab} {a b : Entropy} (h : HufMatch hp a) (hs : b.huf = a.huf) : HufMatch hp b := by
  cases hp with
  | none => trivial
  | some wl => exact ⟨h.1, h.2.1, by rw [hs]; exact h.2.2⟩

/-- only treeless literals look at the Huffman table handed over -/
theorem litSection_hp (c : LitChoice) (lits : ByteArray) (hp : Option HufTab) (h : c ≠ .treeless) :
    litSection c lits hp = litSection c lits := by
  cases c <;> first | rfl | exact absurd rfl h

theorem litOK_hp {c : LitChoice} {lits : ByteArray} (hp : Option HufTab) (h : LitOK c lits) : c ≠ .treeless ∧ LitOK c lits hp := by
  cases c with
  | treeless => exact h.elim
  | raw => exact ⟨(by intro e; cases e), h⟩
  | rle => exact ⟨(by intro e; cases e), h⟩
  | huffman ws last log => exact ⟨(by intro e; cases e), h⟩
  | huffmanFse ws last log norm nlog => exact ⟨(by intro e; cases e), h⟩

theorem symsOf_length (lits : ByteArray) : (symsOf lits).length = lits.size := by
  unfold symsOf
  rw [List.length_map, Array.length_toList]
  rfl

theorem litBytes_symsOf (lits : ByteArray) : HufBytes.litBytes (symsOf lits) = lits := by
  unfold HufBytes.litBytes symsOf
  rw [List.map_map]
  have : (UInt8.ofNat ∘ UInt8.toNat) = id := by funext x; simp
  rw [this, List.map_id]
  apply ByteArray.ext
  rw [List.data_toByteArray, Array.toArray_toList]

theorem basicHeader_size_pos (ty n : Nat) : 0 < (basicHeader ty n).size := by
  unfold basicHeader
  repeat' split
  all_goals rw [LitRT.le_size]; omega

theorem sameFse_refl (e : Entropy) : SameFse e e := ⟨rfl, rfl, rfl, rfl, rfl, rfl, rfl⟩

/-- the Huffman paths of ZSTD_compressLiterals either give up (`none`: the caller emits the literals raw) or emit a
`compressedLiterals` section made of a tree description and the stream(s) -/
theorem hufLiterals_some {w : Array Nat} {log : Nat} {syms : List Nat} {sec : ByteArray} (h : hufLiterals w log syms = some sec) :
    ∃ wh st, directWeights w.toList.dropLast = some wh ∧ hufStreams (decide (syms.length < 256)) (HufEnc.codesOf w log) syms = some st ∧
      sec = compressedLiterals (decide (syms.length < 256)) wh st syms.length := by
  unfold hufLiterals at h
  simp only [] at h
  split at h
  · exact ⟨_, _, ‹_›, ‹_›, (Option.some.inj h).symm⟩
  · cases h

theorem hufLiteralsFse_some {w : Array Nat} {log : Nat} {norm : Array Int} {nlog : Nat} {syms : List Nat} {sec : ByteArray}
    (h : hufLiteralsFse w log norm nlog syms = some sec) :
    ∃ wh st, treeDescr norm nlog w.toList.dropLast = some wh ∧
      hufStreams (decide (syms.length < 256)) (HufEnc.codesOf w log) syms = some st ∧
      sec = compressedLiterals (decide (syms.length < 256)) wh st syms.length := by
  unfold hufLiteralsFse at h
  simp only [] at h
  split at h
  · exact ⟨_, _, ‹_›, ‹_›, (Option.some.inj h).symm⟩
  · cases h

theorem treelessLiterals_some {w : Array Nat} {log : Nat} {syms : List Nat} {sec : ByteArray} (h : treelessLiterals w log syms = some sec) :
    ∃ st, hufStreams (decide (syms.length < 256)) (HufEnc.codesOf w log) syms = some st ∧
      sec = compressedLiterals (decide (syms.length < 256)) ByteArray.empty st syms.length set_repeat := by
  unfold treelessLiterals at h
  simp only [] at h
  split at h
  · exact ⟨_, ‹_›, (Option.some.inj h).symm⟩
  · cases h

theorem compressedLiterals_size (single : Bool) (wh streams : ByteArray) (n ty : Nat) :
    (compressedLiterals single wh streams n ty).size = lhSize n + wh.size + streams.size := by
  unfold compressedLiterals
  rw [ByteArray.size_append, ByteArray.size_append, LitRT.compressedHeader_size]

/-- ZSTD_decodeLiteralsBlock reads the section `litSection c lits hp` back, in any mode: of the entropy state only the Huffman table may
change (`SameFse`), and it stays in lock step with the encoder's (`HufMatch`): the decoder carries `hp` at the start and
`nextHuf hp c lits` afterwards. -/
theorem litSection_roundtrip_treeless (c : LitChoice) (lits : ByteArray) (hp : Option HufTab) (hc : LitOK c lits hp)
    (h17 : lits.size ≤ 2 ^ 17) (src : Bytes) (start srcSize : Nat) (ent : Entropy) (bsm dstCap : Nat) (hm : HufMatch hp ent)
    (H : Holds src start (litSection c lits hp)) (hbsm : lits.size ≤ bsm) (hcap : lits.size ≤ dstCap)
    (hsz : (litSection c lits hp).size + 1 ≤ srcSize) :
    ∃ lr, Block.decodeLiterals src start srcSize ent bsm dstCap = .ok lr ∧ lr.lits = lits ∧
      lr.used = (litSection c lits hp).size ∧ lr.ent.rep = ent.rep ∧ SameFse lr.ent ent ∧ HufMatch (nextHuf hp c lits) lr.ent := by
  have hraw : ∀ (Hr : Holds src start (rawLiterals lits)) (hs : (rawLiterals lits).size + 1 ≤ srcSize),
      ∃ lr, Block.decodeLiterals src start srcSize ent bsm dstCap = .ok lr ∧ lr.lits = lits ∧
        lr.used = (rawLiterals lits).size ∧ lr.ent.rep = ent.rep ∧ SameFse lr.ent ent ∧ HufMatch hp lr.ent := by
    intro Hr hs
    have hp0 : 0 < (rawLiterals lits).size := by
      unfold rawLiterals; rw [ByteArray.size_append]; have := basicHeader_size_pos set_basic lits.size; omega
    exact ⟨_, LitRT.literals_roundtrip_raw lits src start srcSize ent bsm dstCap Hr.extract (by omega) hbsm hcap (by omega)
      (by unfold MIN_CBLOCK_SIZE; omega), rfl, rfl, rfl, sameFse_refl _, hm⟩
  have hlen := symsOf_length lits
  have hlh : 3 ≤ lhSize (symsOf lits).length := by unfold lhSize; omega
  have hdl : ∀ (ws : List Nat) (last : Nat), (ws.toArray.push last).toList.dropLast = ws := by simp
  cases c with
  | raw => exact hraw H hsz
  | rle =>
    obtain ⟨b, hb⟩ := hc
    simp only [litSection, nextHuf] at H hsz ⊢
    generalize lits.size = n at hb h17 hbsm hcap
    subst hb
    have hp0 : 0 < (rleLiterals (LitRT.rleBytes n b)).size := by
      unfold rleLiterals; rw [ByteArray.size_push]; omega
    exact ⟨_, LitRT.literals_roundtrip_rle n b src start srcSize ent bsm dstCap H.extract (by omega) hbsm hcap (by omega)
      (by unfold MIN_CBLOCK_SIZE; omega), rfl, rfl, rfl, sameFse_refl _, hm⟩
  | huffman ws last log =>
    have hc : HufOK ws last log lits := hc
    simp only [litSection, nextHuf] at H hsz ⊢
    revert H hsz
    cases hh : hufLiterals (ws.toArray.push last) log (symsOf lits) with
    | none => exact hraw
    | some sec =>
      intro (H : Holds src start sec) (hsz : sec.size + 1 ≤ srcSize)
      obtain ⟨wh, streams, hwh, hst, rfl⟩ := hufLiterals_some hh
      rw [hdl] at hwh
      have hg := hc.gain wh streams hwh hst
      exact ⟨_, LitRT.literals_roundtrip_compressed ws last log hc.ok hc.last_pos hc.log_le hc.two_ones hc.ws_ne _ wh streams
        (symsOf lits) hwh hst hc.syms src start srcSize ent bsm dstCap H.extract (by intro h; have := of_decide_eq_true h; omega)
        (by omega) (by omega) (by omega) (by omega) (by omega), litBytes_symsOf lits, rfl, rfl, ⟨rfl, rfl, rfl, rfl, rfl, rfl, rfl⟩,
        ⟨hc.ok, hc.log_le, rfl⟩⟩
  | huffmanFse ws last log norm nlog =>
    have hc : HufFseOK ws last log norm nlog lits := hc
    simp only [litSection, nextHuf] at H hsz ⊢
    revert H hsz
    cases hh : hufLiteralsFse (ws.toArray.push last) log norm nlog (symsOf lits) with
    | none => exact hraw
    | some sec =>
      intro (H : Holds src start sec) (hsz : sec.size + 1 ≤ srcSize)
      obtain ⟨wh, streams, hwh, hst, rfl⟩ := hufLiteralsFse_some hh
      rw [hdl] at hwh
      have hg := hc.gain wh streams hwh hst
      have hpos := LitRT.hufStreams_size_pos hst
      rw [compressedLiterals_size] at hsz
      exact ⟨_, WeightsRT.literals_roundtrip_compressed_fse ws last log hc.ok hc.last_pos hc.log_le hc.two_ones hc.ws_ne hc.ws_le norm nlog
        hc.fse _ wh streams (symsOf lits) hwh hst hc.syms src start srcSize ent bsm dstCap H.extract
        (by intro h; have := of_decide_eq_true h; omega) (by omega) (by omega) (by omega) (by omega)
        (by rw [compressedLiterals_size]; omega) (by omega), litBytes_symsOf lits, rfl, rfl, ⟨rfl, rfl, rfl, rfl, rfl, rfl, rfl⟩,
        ⟨hc.ok, hc.log_le, rfl⟩⟩
  | treeless =>
    cases hp with
    | none => exact hc.elim
    | some wl =>
      obtain ⟨w, log⟩ := wl
      have hc : TreelessOK w log lits := hc
      obtain ⟨hok, hlog, hhuf⟩ := id hm
      simp only [litSection, nextHuf] at H hsz ⊢
      revert H hsz
      cases hh : treelessLiterals w log (symsOf lits) with
      | none => exact hraw
      | some sec =>
        intro (H : Holds src start sec) (hsz : sec.size + 1 ≤ srcSize)
        obtain ⟨streams, hst, rfl⟩ := treelessLiterals_some hh
        have hg := hc.gain streams hst
        have hpos := LitRT.hufStreams_size_pos hst
        rw [compressedLiterals_size] at hsz
        exact ⟨_, LitRT.literals_roundtrip_treeless _ streams (symsOf lits) w log 0 hok (by omega) src start srcSize ent bsm dstCap hhuf
          H.extract hc.syms hst (by intro h; have := of_decide_eq_true h; omega) (by omega) (by omega) (by omega) (by omega)
          (by rw [compressedLiterals_size]; omega) (by omega), litBytes_symsOf lits, rfl, rfl, ⟨rfl, rfl, rfl, rfl, rfl, rfl, rfl⟩,
          ⟨hok, hlog, rfl⟩⟩

/-- `litSection_roundtrip_treeless` with nothing known about earlier blocks (`hp = none`): raw, RLE, Huffman with a new table -/
theorem litSection_roundtrip (c : LitChoice) (lits : ByteArray) (hc : LitOK c lits) (h17 : lits.size ≤ 2 ^ 17)
    (src : Bytes) (start srcSize : Nat) (ent : Entropy) (bsm dstCap : Nat)
    (H : Holds src start (litSection c lits)) (hbsm : lits.size ≤ bsm) (hcap : lits.size ≤ dstCap)
    (hsz : (litSection c lits).size + 1 ≤ srcSize) :
    ∃ lr, Block.decodeLiterals src start srcSize ent bsm dstCap = .ok lr ∧ lr.lits = lits ∧
      lr.used = (litSection c lits).size ∧ lr.ent.rep = ent.rep ∧ SameFse lr.ent ent := by
  obtain ⟨lr, h1, h2, h3, h4, h5, -⟩ := litSection_roundtrip_treeless c lits none hc h17 src start srcSize ent bsm dstCap trivial H hbsm
    hcap hsz
  exact ⟨lr, h1, h2, h3, h4, h5⟩

/-! ### `Block.prepare` on a serialized block body -/

theorem seqSection_size_pos (t : Tables) (seqs : List SeqIn) (prev : Tables := {}) : 0 < (seqSection t seqs prev).size := by
  have h := nbSeqHeader_size
  unfold seqSection
  split
  · rw [h]; decide
  · simp only [ByteArray.size_append]
    have := h seqs.length
    split at this <;> (try split at this) <;> omega

theorem nextTables_ne (pt : Option Tables) (t : Tables) (seqs : List SeqIn) (hne : seqs ≠ []) :
    nextTables pt t seqs = some (Tables.resolve (pt.getD {}) t) := by
  cases seqs with
  | nil => exact absurd rfl hne
  | cons a l => rfl

/-- On the body that ZSTD_entropyCompressSeqStore_internal writes (`serializeBlockBody`) the first half of
ZSTD_decompressBlock_internal (`Block.prepare`) hands out the literals, the sequences with offsets resolved by `Rep.resolve` along the
decoder's history, a passed end-of-stream check and the history after the block.  `pt` / `hp` = the table decisions and the Huffman
table the encoder carries (`BlockEnc.nextTables`, `BlockEnc.nextHuf`); the decoder carries their tables before (`EntMatch pt ent`,
`HufMatch hp ent`) and those of `nextTables pt t seqs` / `nextHuf hp c lits` afterwards.  `seqs.length < LONGNBSEQ + 65536` is what the
nbSeq field can hold. -/
theorem prepare_serialized_treeless (c : LitChoice) (lits : ByteArray) (t : Tables) (seqs : List SeqIn) (hp : Option HufTab)
    (hc : LitOK c lits hp) (h17 : lits.size ≤ 2 ^ 17) (hn : seqs.length < LONGNBSEQ + 65536)
    (hrng : ∀ s ∈ seqs, InRange s) (pt : Option Tables) (hrp : usesRepeat t = true → pt.isSome = true)
    (hT : TablesOK (Tables.resolve (pt.getD {}) t)) (hok : CodesOK (Tables.resolve (pt.getD {}) t) seqs)
    (src : Bytes) (start : Nat) (ent : Entropy) (bsm dstCap : Nat) (hent : EntMatch pt ent) (hm : HufMatch hp ent)
    (H : Holds src start (serializeBlockBody c lits t seqs (pt.getD {}) hp))
    (hsize : (serializeBlockBody c lits t seqs (pt.getD {}) hp).size ≤ bsm) (hbsm : lits.size ≤ bsm) (hcap : lits.size ≤ dstCap)
    (hcap0 : seqs ≠ [] → 0 < dstCap) :
    ∃ p, Block.prepare src start (serializeBlockBody c lits t seqs (pt.getD {}) hp).size ent bsm dstCap = .ok p ∧ p.lits = lits ∧
      p.seqs.toList = (resolveAll (repOf ent.rep) (seqs.map triIn)).1 ∧ p.streamCheck = .ok () ∧
      repOf p.ent.rep = (resolveAll (repOf ent.rep) (seqs.map triIn)).2 ∧ p.tr.nbSeq = seqs.length ∧
      EntMatch (nextTables pt t seqs) p.ent ∧ HufMatch (nextHuf hp c lits) p.ent := by
  unfold serializeBlockBody at H hsize ⊢
  have hpos := seqSection_size_pos t seqs (pt.getD {})
  have hB : (litSection c lits hp ++ seqSection t seqs (pt.getD {})).size = (litSection c lits hp).size + (seqSection t seqs (pt.getD {})).size :=
    ByteArray.size_append
  generalize (litSection c lits hp ++ seqSection t seqs (pt.getD {})).size = cSize at hB hsize ⊢
  obtain ⟨lr, hlit, l1, l2, l3, l4, l5⟩ := litSection_roundtrip_treeless c lits hp hc h17 src start cSize ent bsm dstCap hm H.left hbsm hcap
    (by omega)
  have hent2 : EntMatch pt lr.ent := hent.of_same l4
  have Hs := H.right
  rw [← l2] at Hs hB
  by_cases hne : seqs = []
  · subst hne
    have hs0 : seqSection t [] (pt.getD {}) = nbSeqHeader 0 := rfl
    rw [hs0] at Hs hB
    rw [prepare_of_header 0 (by decide) hsize hlit Hs (by omega)]
    have hend : start + lr.used + (nbSeqHeader 0).size = start + cSize := by omega
    obtain ⟨p, hp1, p1, p2, p3, p4, p5⟩ : ∃ p, seqTail src (start + lr.used + (nbSeqHeader 0).size) (start + cSize) 0 lr dstCap = .ok p ∧
        p.lits = lr.lits ∧ p.seqs = #[] ∧ p.streamCheck = .ok () ∧ p.ent = lr.ent ∧ p.tr.nbSeq = 0 := by
      unfold seqTail
      simp only [bind, Except.bind, pure, Except.pure, throw, throwThe, MonadExceptOf.throw, BEq.rfl, ↓reduceIte, hend,
        bne_self_eq_false, Bool.false_eq_true]
      exact ⟨_, rfl, rfl, rfl, rfl, rfl, rfl⟩
    exact ⟨p, hp1, by rw [p1, l1], by rw [p2]; rfl, p3, by rw [p4, l3]; rfl, p5,
      by rw [p4]; exact hent2, by rw [p4]; exact l5⟩
  · rw [seqSection_eq t seqs hne (pt.getD {})] at Hs hB
    rw [ByteArray.size_append] at hB
    rw [prepare_of_header seqs.length hn hsize hlit Hs.left (by omega)]
    have hrep : usesRepeat t = true → EntIs (pt.getD {}) lr.ent := by
      intro hu
      have hs := hrp hu
      cases pt with
      | none => cases hs
      | some p0 => exact hent2
    obtain ⟨p, hp1, p1, p2, p3, p4, p5, p6, p7⟩ := seqTail_serialized t seqs hne hrng (pt.getD {}) hT hok src _ (start + cSize) lr dstCap
      (hcap0 hne) hrep Hs.right (by omega)
    exact ⟨p, hp1, by rw [p1, l1], by rw [p2, l3], p3, by rw [p4, SeqRT.repOf_repArr, l3], p6,
      by rw [nextTables_ne pt t seqs hne]; exact p7, l5.of_huf p5⟩

/-- `prepare_serialized_treeless` with nothing known about an earlier Huffman table (`hp = none`) -/
theorem prepare_serialized (c : LitChoice) (lits : ByteArray) (t : Tables) (seqs : List SeqIn)
    (hc : LitOK c lits) (h17 : lits.size ≤ 2 ^ 17) (hn : seqs.length < LONGNBSEQ + 65536)
    (hrng : ∀ s ∈ seqs, InRange s) (pt : Option Tables) (hrp : usesRepeat t = true → pt.isSome = true)
    (hT : TablesOK (Tables.resolve (pt.getD {}) t)) (hok : CodesOK (Tables.resolve (pt.getD {}) t) seqs)
    (src : Bytes) (start : Nat) (ent : Entropy) (bsm dstCap : Nat) (hent : EntMatch pt ent)
    (H : Holds src start (serializeBlockBody c lits t seqs (pt.getD {})))
    (hsize : (serializeBlockBody c lits t seqs (pt.getD {})).size ≤ bsm) (hbsm : lits.size ≤ bsm) (hcap : lits.size ≤ dstCap)
    (hcap0 : seqs ≠ [] → 0 < dstCap) :
    ∃ p, Block.prepare src start (serializeBlockBody c lits t seqs (pt.getD {})).size ent bsm dstCap = .ok p ∧ p.lits = lits ∧
      p.seqs.toList = (resolveAll (repOf ent.rep) (seqs.map triIn)).1 ∧ p.streamCheck = .ok () ∧
      repOf p.ent.rep = (resolveAll (repOf ent.rep) (seqs.map triIn)).2 ∧ p.tr.nbSeq = seqs.length ∧
      EntMatch (nextTables pt t seqs) p.ent := by
  obtain ⟨p, h1, h2, h3, h4, h5, h6, h7, -⟩ := prepare_serialized_treeless c lits t seqs none hc h17 hn hrng pt hrp hT hok src start ent bsm
    dstCap hent trivial H hsize hbsm hcap hcap0
  exact ⟨p, h1, h2, h3, h4, h5, h6, h7⟩

/-! ### valid parses: sizes, and independence of the `ofValue` field -/

open ZstdVerif.Exec (ValidFrom ValidParse)

def seqKey (s : Seq) : Nat × Nat × Nat := (s.ll, s.ml, s.offset)

theorem validFrom_congr (dict Y lits : ByteArray) : ∀ (l1 l2 : List Seq) (q lp : Nat), l1.map seqKey = l2.map seqKey →
    ValidFrom dict Y lits q lp l1 → ValidFrom dict Y lits q lp l2 := by
  intro l1
  induction l1 with
  | nil =>
    intro l2 q lp h hv
    cases l2 with
    | nil => exact hv
    | cons _ _ => simp at h
  | cons a l1 ih =>
    intro l2 q lp h hv
    cases l2 with
    | nil => simp at h
    | cons b l2 =>
      simp only [List.map_cons, List.cons.injEq, seqKey, Prod.mk.injEq] at h
      obtain ⟨⟨e1, e2, e3⟩, e4⟩ := h
      unfold ValidFrom at hv ⊢
      rw [← e1, ← e2, ← e3]
      exact ⟨hv.1, hv.2.1, hv.2.2.1, hv.2.2.2.1, hv.2.2.2.2.1, hv.2.2.2.2.2.1, ih l2 _ _ e4 hv.2.2.2.2.2.2⟩

theorem validFrom_sizes (dict Y lits : ByteArray) : ∀ (seqs : List Seq) (q lp : Nat), ValidFrom dict Y lits q lp seqs →
    lp ≤ lits.size ∧ q ≤ Y.size ∧ (lits.size - lp) + (seqs.map (·.ml)).sum + q = Y.size ∧
      ∀ s ∈ seqs, s.ll + s.ml ≤ Y.size - q ∧ 1 ≤ s.offset := by
  intro seqs
  induction seqs with
  | nil =>
    intro q lp hv
    obtain ⟨h1, h2, h3⟩ := hv
    have hs := congrArg ByteArray.size h3
    rw [ByteArray.size_extract, ByteArray.size_extract] at hs
    refine ⟨h2, h1, ?_, fun s hs => by simp at hs⟩
    simp only [List.map_nil, List.sum_nil]; omega
  | cons a l ih =>
    intro q lp hv
    obtain ⟨h1, h2, -, h4, -, -, h7⟩ := hv
    obtain ⟨i1, i2, i3, i4⟩ := ih _ _ h7
    refine ⟨by omega, by omega, ?_, ?_⟩
    · simp only [List.map_cons, List.sum_cons]; omega
    · intro s hs
      simp only [List.mem_cons] at hs
      rcases hs with e | e
      · subst e; exact ⟨by omega, h4⟩
      · have := i4 s e; exact ⟨by omega, this.2⟩

theorem sum_ge_three (l : List Seq) (h : ∀ s ∈ l, 3 ≤ s.ml) : 3 * l.length ≤ (l.map (·.ml)).sum := by
  induction l with
  | nil => simp
  | cons a l ih =>
    have := ih (fun s hs => h s (by simp [hs]))
    have := h a (by simp)
    simp only [List.map_cons, List.sum_cons, List.length_cons]; omega

/-! ### repeat-offset histories stay positive -/

def RepPos (r : Rep.R) : Prop := 1 ≤ r.r0 ∧ 1 ≤ r.r1 ∧ 1 ≤ r.r2

theorem storeAll_pos (rep : Rep.R) (qs : List SeqRT.RawSeq) (h : RepPos rep) (hq : ∀ q ∈ qs, 1 ≤ q.rawOffset) :
    RepPos (SeqRT.storeAll rep qs).2 := by
  induction qs generalizing rep with
  | nil => exact h
  | cons q qs ih =>
    obtain ⟨-, l2, l3, l4⟩ := SeqRT.rep_lockstep rep q.rawOffset (q.litLength == 0) h.1 h.2.1 h.2.2 (hq q (by simp))
    exact ih _ ⟨l2, l3, l4⟩ (fun x hx => hq x (by simp [hx]))

/-! ### MAIN THEOREM: a whole compressed block -/

/-- the sequence the match finder has in mind, as the executor sees it (`ofValue` plays no role in execution) -/
def toSeq (q : SeqRT.RawSeq) : Seq := { ll := q.litLength, ml := q.mlBase + 3, offset := q.rawOffset, ofValue := 0 }

/-- **block_roundtrip_treeless** (headline of C01 at block level).  `x` = the content of a block, `prev` = what the current frame has
produced before it, `pre` = the output of earlier frames, `dict` = the dictionary content.  For EVERY parse `(lits, raws)` of `x` that is
valid over the history `dict ++ prev` (`Exec.ValidParse`; matches may overlap themselves and reach into the dictionary) - whatever match
finder produced it - with the seqStore entries ZSTD_finalizeOffBase / ZSTD_updateRep make of it along the encoder's history: if the body
ZSTD_entropyCompressSeqStore_internal writes sits at `start` in `src`, ZSTD_decompressBlock_internal (`Block.decodeBlock`) appends
exactly `x`, and the repeat-offset history (positive), the sequence tables (`nextTables pt t ..`) and the Huffman table
(`nextHuf hp c lits`) the decoder carries afterwards ARE the encoder's: the next block starts in lock step.
Hypotheses, all facts the compressor guarantees: sizes within the block-size limit `bsm ≤ 2^17`, offsets fit a U32, the mode decisions
are applicable (`LitOK`; `set_repeat` only after a block with sequences; `TablesOK`, `CodesOK` of the resolved decisions), both sides
agree at the start, the destination can hold the content.  Lengths < 2^17 and nbSeq < LONGNBSEQ + 65536 FOLLOW from validity. -/
theorem block_roundtrip_treeless (dict pre prev x lits : ByteArray) (raws : List SeqRT.RawSeq) (c : LitChoice) (t : Tables)
    (src : Bytes) (start : Nat) (ent : Entropy) (bsm cap : Nat) (pt : Option Tables) (hp : Option HufTab)
    (hv : ValidParse dict prev x lits (raws.map toSeq))
    (hx : x.size ≤ bsm) (hb17 : bsm ≤ 2 ^ 17) (hoff : ∀ q ∈ raws, q.rawOffset + 3 < 2 ^ 32)
    (hrep : RepPos (repOf ent.rep)) (hent : EntMatch pt ent) (hm : HufMatch hp ent)
    (hc : LitOK c lits hp) (hrp : usesRepeat t = true → pt.isSome = true) (hT : TablesOK (Tables.resolve (pt.getD {}) t))
    (hok : CodesOK (Tables.resolve (pt.getD {}) t) (SeqRT.storeAll (repOf ent.rep) raws).1)
    (H : Holds src start (serializeBlockBody c lits t (SeqRT.storeAll (repOf ent.rep) raws).1 (pt.getD {}) hp))
    (hsize : (serializeBlockBody c lits t (SeqRT.storeAll (repOf ent.rep) raws).1 (pt.getD {}) hp).size ≤ bsm)
    (hcap : pre.size + prev.size + x.size ≤ cap) :
    ∃ ent2 tr, Block.decodeBlock src start (serializeBlockBody c lits t (SeqRT.storeAll (repOf ent.rep) raws).1 (pt.getD {}) hp).size ent
        dict { out := pre ++ prev, frameStart := pre.size, cap := cap } bsm = .ok (pre ++ prev ++ x, ent2, tr) ∧
      repOf ent2.rep = (SeqRT.storeAll (repOf ent.rep) raws).2 ∧ RepPos (repOf ent2.rep) ∧ tr.nbSeq = raws.length ∧
      EntMatch (nextTables pt t (SeqRT.storeAll (repOf ent.rep) raws).1) ent2 ∧ HufMatch (nextHuf hp c lits) ent2 := by
  obtain ⟨-, -, v3, v4⟩ := validFrom_sizes dict (prev ++ x) lits _ _ _ hv
  rw [ByteArray.size_append] at v3 v4
  have hml : ∀ s ∈ raws.map toSeq, 3 ≤ s.ml := by
    intro s hs
    obtain ⟨q, -, rfl⟩ := List.mem_map.1 hs
    show 3 ≤ q.mlBase + 3
    omega
  have h3 := sum_ge_three _ hml
  rw [List.length_map] at h3
  obtain ⟨sl, sr⟩ := SeqRT.storeAll_spec (repOf ent.rep) raws
  have hq : ∀ q ∈ raws, q.litLength < 2 ^ 17 ∧ q.mlBase < 2 ^ 17 ∧ 1 ≤ q.rawOffset ∧ q.rawOffset + 3 < 2 ^ 32 := by
    intro q hq
    have := v4 (toSeq q) (List.mem_map.2 ⟨q, hq, rfl⟩)
    simp only [toSeq] at this
    exact ⟨by omega, by omega, this.2, hoff q hq⟩
  have hrng := sr (fun q h => ⟨(hq q h).1, (hq q h).2.1, (hq q h).2.2.2⟩)
  obtain ⟨t1, t2⟩ := SeqRT.resolveAll_storeAll (repOf ent.rep) raws hrep.1 hrep.2.1 hrep.2.2 (fun q h => (hq q h).2.2.1)
  have hsz : (pre ++ prev).size = pre.size + prev.size := ByteArray.size_append
  obtain ⟨p, hp1, p1, p2, p3, p4, p5, p6, p7⟩ := prepare_serialized_treeless c lits t _ hp hc (by omega) (by rw [sl]; unfold LONGNBSEQ; omega)
    hrng pt hrp hT hok src start ent bsm (cap - (pre ++ prev).size) hent hm H hsize (by omega) (by rw [hsz]; omega)
    (by
      intro hne
      have : raws ≠ [] := by intro e; rw [e] at hne; exact hne rfl
      have : 0 < raws.length := List.length_pos_iff.2 this
      rw [hsz]; omega)
  have hv2 : ValidParse dict prev x lits (resolveAll (repOf ent.rep) ((SeqRT.storeAll (repOf ent.rep) raws).1.map triIn)).1 := by
    refine validFrom_congr dict (prev ++ x) lits _ _ _ _ ?_ hv
    rw [List.map_map]
    exact t1.symm
  have hexec := Exec.exec_of_validParse_frame dict pre prev x lits _ cap hv2 hcap
  refine ⟨p.ent, p.tr, ?_, by rw [p4, t2], by rw [p4, t2]; exact storeAll_pos _ _ hrep (fun q h => (hq q h).2.2.1), by rw [p5, sl], p6, p7⟩
  unfold Block.decodeBlock
  simp only [hp1, bind, Except.bind, Block.finish, p1, p2, p3, hexec]

/-- **block_roundtrip**: `block_roundtrip_treeless` with nothing known about an earlier Huffman table (`hp = none`) -/
theorem block_roundtrip (dict pre prev x lits : ByteArray) (raws : List SeqRT.RawSeq) (c : LitChoice) (t : Tables)
    (src : Bytes) (start : Nat) (ent : Entropy) (bsm cap : Nat) (pt : Option Tables)
    (hv : ValidParse dict prev x lits (raws.map toSeq))
    (hx : x.size ≤ bsm) (hb17 : bsm ≤ 2 ^ 17) (hoff : ∀ q ∈ raws, q.rawOffset + 3 < 2 ^ 32)
    (hrep : RepPos (repOf ent.rep)) (hent : EntMatch pt ent)
    (hc : LitOK c lits) (hrp : usesRepeat t = true → pt.isSome = true) (hT : TablesOK (Tables.resolve (pt.getD {}) t))
    (hok : CodesOK (Tables.resolve (pt.getD {}) t) (SeqRT.storeAll (repOf ent.rep) raws).1)
    (H : Holds src start (serializeBlockBody c lits t (SeqRT.storeAll (repOf ent.rep) raws).1 (pt.getD {})))
    (hsize : (serializeBlockBody c lits t (SeqRT.storeAll (repOf ent.rep) raws).1 (pt.getD {})).size ≤ bsm)
    (hcap : pre.size + prev.size + x.size ≤ cap) :
    ∃ ent2 tr, Block.decodeBlock src start (serializeBlockBody c lits t (SeqRT.storeAll (repOf ent.rep) raws).1 (pt.getD {})).size ent dict
        { out := pre ++ prev, frameStart := pre.size, cap := cap } bsm = .ok (pre ++ prev ++ x, ent2, tr) ∧
      repOf ent2.rep = (SeqRT.storeAll (repOf ent.rep) raws).2 ∧ RepPos (repOf ent2.rep) ∧ tr.nbSeq = raws.length ∧
      EntMatch (nextTables pt t (SeqRT.storeAll (repOf ent.rep) raws).1) ent2 := by
  obtain ⟨ent2, tr, h1, h2, h3, h4, h5, -⟩ := block_roundtrip_treeless dict pre prev x lits raws c t src start ent bsm cap pt none hv hx hb17
    hoff hrep hent trivial hc hrp hT hok H hsize hcap
  exact ⟨ent2, tr, h1, h2, h3, h4, h5⟩

/-- **block_roundtrip_basic**: a block on its own - no `set_repeat`, no knowledge of earlier blocks (`pt = none`) -/
theorem block_roundtrip_basic (dict pre prev x lits : ByteArray) (raws : List SeqRT.RawSeq) (c : LitChoice) (t : Tables)
    (src : Bytes) (start : Nat) (ent : Entropy) (bsm cap : Nat)
    (hv : ValidParse dict prev x lits (raws.map toSeq))
    (hx : x.size ≤ bsm) (hb17 : bsm ≤ 2 ^ 17) (hoff : ∀ q ∈ raws, q.rawOffset + 3 < 2 ^ 32)
    (hrep : RepPos (repOf ent.rep))
    (hc : LitOK c lits) (hnr : usesRepeat t = false) (hT : TablesOK t) (hok : CodesOK t (SeqRT.storeAll (repOf ent.rep) raws).1)
    (H : Holds src start (serializeBlockBody c lits t (SeqRT.storeAll (repOf ent.rep) raws).1))
    (hsize : (serializeBlockBody c lits t (SeqRT.storeAll (repOf ent.rep) raws).1).size ≤ bsm)
    (hcap : pre.size + prev.size + x.size ≤ cap) :
    ∃ ent2 tr, Block.decodeBlock src start (serializeBlockBody c lits t (SeqRT.storeAll (repOf ent.rep) raws).1).size ent dict
        { out := pre ++ prev, frameStart := pre.size, cap := cap } bsm = .ok (pre ++ prev ++ x, ent2, tr) ∧
      repOf ent2.rep = (SeqRT.storeAll (repOf ent.rep) raws).2 ∧ RepPos (repOf ent2.rep) ∧ tr.nbSeq = raws.length := by
  have hr : Tables.resolve ((none : Option Tables).getD {}) t = t := resolve_of_not_usesRepeat _ t hnr
  obtain ⟨ent2, tr, h1, h2, h3, h4, -⟩ := block_roundtrip dict pre prev x lits raws c t src start ent bsm cap none hv hx hb17 hoff hrep
    trivial hc (by rw [hnr]; intro h; cases h) (by rw [hr]; exact hT) (by rw [hr]; exact hok) H hsize hcap
  exact ⟨ent2, tr, h1, h2, h3, h4⟩

/-! ### frames that contain compressed blocks -/

open ZstdVerif.Serialize ZstdVerif.HeaderW
open ZstdVerif.DictEnc (serializeFrameFromT)
open ZstdVerif.FrameRT (St stepOf StepRaw StepRle forIn_cons_done forIn_cons_yield blockHeader24_size size_ofList blockStep
  blockStep_ok_iff regenBlock_cmp)

/-- the model-level raw sequence (`BlockEnc.RawSeq`) as the one of Lemmas/SeqRT.lean -/
def toRT (q : BlockEnc.RawSeq) : SeqRT.RawSeq := ⟨q.litLength, q.mlBase, q.rawOffset⟩

theorem storeAll_toRT (rep : Rep.R) (raws : List BlockEnc.RawSeq) : BlockEnc.storeAll rep raws = SeqRT.storeAll rep (raws.map toRT) := by
  induction raws generalizing rep with
  | nil => rfl
  | cons q qs ih => simp only [BlockEnc.storeAll, SeqRT.storeAll, List.map_cons, toRT, ih]

/-- the block list tiles `x[pos, x.size)` and every compressed block carries a VALID parse of its stretch over the content before it
(and the dictionary content `dc`), with applicable mode decisions; `rep` = the encoder's repeat-offset history in front of the block;
`prev` = the resolved sequence-table decisions of the last compressed block with sequences in front of the block (`none`: there is none
yet), threaded by `BlockEnc.nextTables` exactly as `serializeBlocks2` threads it.  A block that uses `set_repeat` needs such a block
(`usesRepeat t → prev.isSome`); the resolved decisions must be acceptable to the decoder (`TablesOK`) and express the codes (`CodesOK`).
(These three are asked of every compressed block; a block without sequences writes no table decisions, so `t = {}` can always be
passed for it: `seqSection` ignores `t` then.) -/
def Tiles2 (dc : ByteArray) (bsm : Nat) (x : ByteArray) (bs : List BlockChoice2) (pos : Nat) (rep : Rep.R)
    (prev : Option Tables := none) : Prop :=
  match bs with
  | [] => pos = x.size
  | .raw n :: rest => pos + n ≤ x.size ∧ n ≤ bsm ∧ Tiles2 dc bsm x rest (pos + n) rep prev
  | .rle b n :: rest =>
    pos + n ≤ x.size ∧ n ≤ bsm ∧ x.extract pos (pos + n) = ByteArray.mk (Array.replicate n b) ∧ Tiles2 dc bsm x rest (pos + n) rep prev
  | .compressed c t lits raws :: rest =>
    pos + parseLen lits raws ≤ x.size ∧ parseLen lits raws ≤ bsm ∧
    ValidParse dc (x.extract 0 pos) (x.extract pos (pos + parseLen lits raws)) lits ((raws.map toRT).map toSeq) ∧
    (∀ q ∈ raws, q.rawOffset + 3 < 2 ^ 32) ∧ LitOK c lits ∧
    (usesRepeat t = true → prev.isSome = true) ∧ TablesOK (Tables.resolve (prev.getD {}) t) ∧
    CodesOK (Tables.resolve (prev.getD {}) t) (BlockEnc.storeAll rep raws).1 ∧
    (serializeBlockBody c lits t (BlockEnc.storeAll rep raws).1 (prev.getD {})).size ≤ bsm ∧
    Tiles2 dc bsm x rest (pos + parseLen lits raws) (BlockEnc.storeAll rep raws).2 (nextTables prev t (BlockEnc.storeAll rep raws).1)

/-- `Tiles2` with TREELESS literals allowed: `hp` = the Huffman table of the last compressed block in front of the block whose
literals section wrote one (`none`: there is none yet), threaded by `BlockEnc.nextHuf` exactly as `serializeBlocks2` threads it.  A block
with treeless literals needs such a table, and it must cover its literals (`LitOK c lits hp`); its body is written with that table. -/
def TilesT (dc : ByteArray) (bsm : Nat) (x : ByteArray) (bs : List BlockChoice2) (pos : Nat) (rep : Rep.R)
    (prev : Option Tables := none) (hp : Option HufTab := none) : Prop :=
  match bs with
  | [] => pos = x.size
  | .raw n :: rest => pos + n ≤ x.size ∧ n ≤ bsm ∧ TilesT dc bsm x rest (pos + n) rep prev hp
  | .rle b n :: rest =>
    pos + n ≤ x.size ∧ n ≤ bsm ∧ x.extract pos (pos + n) = ByteArray.mk (Array.replicate n b) ∧ TilesT dc bsm x rest (pos + n) rep prev hp
  | .compressed c t lits raws :: rest =>
    pos + parseLen lits raws ≤ x.size ∧ parseLen lits raws ≤ bsm ∧
    ValidParse dc (x.extract 0 pos) (x.extract pos (pos + parseLen lits raws)) lits ((raws.map toRT).map toSeq) ∧
    (∀ q ∈ raws, q.rawOffset + 3 < 2 ^ 32) ∧ LitOK c lits hp ∧
    (usesRepeat t = true → prev.isSome = true) ∧ TablesOK (Tables.resolve (prev.getD {}) t) ∧
    CodesOK (Tables.resolve (prev.getD {}) t) (BlockEnc.storeAll rep raws).1 ∧
    (serializeBlockBody c lits t (BlockEnc.storeAll rep raws).1 (prev.getD {}) hp).size ≤ bsm ∧
    TilesT dc bsm x rest (pos + parseLen lits raws) (BlockEnc.storeAll rep raws).2 (nextTables prev t (BlockEnc.storeAll rep raws).1)
      (nextHuf hp c lits)

theorem tilesT_of_tiles2 (dc : ByteArray) (bsm : Nat) (x : ByteArray) : ∀ (bs : List BlockChoice2) (pos : Nat) (rep : Rep.R)
    (prev : Option Tables) (hp : Option HufTab), Tiles2 dc bsm x bs pos rep prev → TilesT dc bsm x bs pos rep prev hp := by
  intro bs
  induction bs with
  | nil => intro _ _ _ _ h; exact h
  | cons c rest ih =>
    intro pos rep prev hp h
    cases c with
    | raw n => exact ⟨h.1, h.2.1, ih _ _ _ _ h.2.2⟩
    | rle b n => exact ⟨h.1, h.2.1, h.2.2.1, ih _ _ _ _ h.2.2.2⟩
    | compressed c t lits raws =>
      obtain ⟨t1, t2, tv, toff, tlit, trp, ttab, tcodes, tsz, t3⟩ := h
      obtain ⟨hne, hl⟩ := litOK_hp hp tlit
      refine ⟨t1, t2, tv, toff, hl, trp, ttab, tcodes, ?_, ih _ _ _ _ t3⟩
      unfold serializeBlockBody at tsz ⊢
      rw [litSection_hp c lits hp hne]
      exact tsz

/-- the writer does not look at the Huffman table it carries along unless a block has treeless literals -/
theorem serializeBlocks2_hp (dc : ByteArray) (bsm : Nat) (x : ByteArray) : ∀ (bs : List BlockChoice2) (pos : Nat) (rep : Rep.R)
    (prev : Option Tables) (hp : Option HufTab), Tiles2 dc bsm x bs pos rep prev →
    serializeBlocks2 x bs pos rep prev hp = serializeBlocks2 x bs pos rep prev := by
  intro bs
  induction bs with
  | nil => intro _ _ _ _ _; rfl
  | cons c rest ih =>
    intro pos rep prev hp h
    cases c with
    | raw n => simp only [serializeBlocks2]; rw [ih _ _ _ hp h.2.2]
    | rle b n => simp only [serializeBlocks2]; rw [ih _ _ _ hp h.2.2.2]
    | compressed c t lits raws =>
      obtain ⟨-, -, -, -, tlit, -, -, -, -, t3⟩ := h
      obtain ⟨hne, -⟩ := litOK_hp hp tlit
      simp only [serializeBlocks2, serializeBlockBody]
      rw [litSection_hp c lits hp hne, ih _ _ _ (nextHuf hp c lits) t3, ih _ _ _ (nextHuf none c lits) t3]

/-- what one iteration of the block loop of `Frame.decompressFrame` does on a compressed block whose body decodes -/
def StepCmp (src dc : ByteArray) (fs cap bsm : Nat) (f : Nat → St → R (ForInStep St)) : Prop :=
  ∀ (i ip rem : Nat) (out : ByteArray) (ent : Entropy) (blocks : Array Frame.BlockTrace) (last : Bool) (body out2 : ByteArray)
    (ent2 : Entropy) (tr : Block.Trace),
    Holds src ip (blockHeader24 last bt_compressed body.size ++ body) → 3 + body.size ≤ rem → body.size < 2 ^ 21 →
    Block.decodeBlock src (ip + 3) body.size ent dc { out := out, frameStart := fs, cap := cap } bsm = .ok (out2, ent2, tr) →
    out2.size - out.size ≤ bsm →
    ∃ bt : Frame.BlockTrace, bt.hdr.last = last ∧
      f i (ip, rem, out, ent, blocks, none) = .ok (stepOf last (ip + 3 + body.size, rem - 3 - body.size, out2, ent2, blocks.push bt, none))

theorem serializeBlocks2_size_ge (x : ByteArray) (bs : List BlockChoice2) (pos : Nat) (rep : Rep.R) (prev : Option Tables := none)
    (hp : Option HufTab := none) : 3 * bs.length ≤ (serializeBlocks2 x bs pos rep prev hp).size := by
  induction bs generalizing pos rep prev hp with
  | nil => simp [serializeBlocks2]
  | cons c rest ih =>
    cases c with
    | raw n =>
      have := ih (pos + n) rep prev hp
      simp only [serializeBlocks2, noCompressBlock, ByteArray.size_append, blockHeader24_size, List.length_cons] at this ⊢
      omega
    | rle b n =>
      have := ih (pos + n) rep prev hp
      simp only [serializeBlocks2, rleCompressBlock, ByteArray.size_append, blockHeader24_size, List.length_cons] at this ⊢
      omega
    | compressed c t lits raws =>
      have := ih (pos + parseLen lits raws) (BlockEnc.storeAll rep raws).2 (nextTables prev t (BlockEnc.storeAll rep raws).1)
        (nextHuf hp c lits)
      simp only [serializeBlocks2, compressedBlock, ByteArray.size_append, blockHeader24_size, List.length_cons] at this ⊢
      omega

theorem ext_step (out0 x : ByteArray) (pos n : Nat) :
    out0 ++ x.extract 0 pos ++ x.extract pos (pos + n) = out0 ++ x.extract 0 (pos + n) := by
  rw [ByteArray.append_assoc, ByteArray.extract_append_extract, Nat.min_eq_left (Nat.zero_le _), Nat.max_eq_right (by omega)]

/-- the arithmetic of one tile: `n ≤ bsm` content bytes at `pos` of `xs`, output so far `o + pos`, capacity for `o + xs` -/
theorem tile_room {o xs pos n cap bsm : Nat} (h1 : pos + n ≤ xs) (h2 : n ≤ bsm) (hb : bsm ≤ 2 ^ 17) (hc : o + xs ≤ cap) :
    pos ≤ xs ∧ n ≤ cap - (o + pos) ∧ n < 2 ^ 21 ∧ o + pos + n ≤ cap := by omega

/-- the block loop of `Frame.decompressFrame` on serialized raw / RLE / compressed blocks, started from ANY state the encoder and the
decoder share: it stops at the flagged block with exactly the tiled content appended and every input byte of the blocks consumed.
The invariants (history, `EntMatch`, `HufMatch`) are re-established by `block_roundtrip_treeless`; raw and RLE blocks leave the entropy
state untouched on both sides. -/
theorem blocks_loop (src dc x out0 : ByteArray) (cap bsm r : Nat) (f : Nat → St → R (ForInStep St)) (hbsm : bsm ≤ 2 ^ 17)
    (hraw : StepRaw src cap bsm f) (hrle : StepRle src cap bsm f) (hcmp : StepCmp src dc out0.size cap bsm f)
    (hcap : out0.size + x.size ≤ cap) :
    ∀ (bs : List BlockChoice2) (l : List Nat) (pos ip rem : Nat) (out : ByteArray) (ent : Entropy) (blocks : Array Frame.BlockTrace)
      (pt : Option Tables) (hp : Option HufTab), out = out0 ++ x.extract 0 pos →
      bs ≠ [] → bs.length ≤ l.length → TilesT dc bsm x bs pos (repOf ent.rep) pt hp → RepPos (repOf ent.rep) → EntMatch pt ent →
      HufMatch hp ent →
      Holds src ip (serializeBlocks2 x bs pos (repOf ent.rep) pt hp) → rem = (serializeBlocks2 x bs pos (repOf ent.rep) pt hp).size + r →
      ∃ (bl : Array Frame.BlockTrace) (ent2 : Entropy), bl.back?.map (·.hdr.last) = some true ∧
        forIn l ((ip, rem, out, ent, blocks, none) : St) f =
          .ok (ip + (serializeBlocks2 x bs pos (repOf ent.rep) pt hp).size, r, out0 ++ x, ent2, bl, none) := by
  intro bs
  induction bs with
  | nil => intro _ _ _ _ _ _ _ _ _ _ h; exact absurd rfl h
  | cons c rest ih =>
    intro l pos ip rem out ent blocks pt hp hout _ hl ht hrp hem hhm hh hrem
    subst hout
    match l, hl with
    | a :: l2, hl =>
    -- one iteration: `n` input bytes consumed, the content up to `pos2` produced, the invariants hold again for the rest
    obtain ⟨n, pos2, pt2, hp2, ent2, bt, hbt, hf, hsz, hh2, ht2, hrp2, hem2, hhm2⟩ :
        ∃ (n pos2 : Nat) (pt2 : Option Tables) (hp2 : Option HufTab) (ent2 : Entropy) (bt : Frame.BlockTrace),
          bt.hdr.last = rest.isEmpty ∧
          f a (ip, rem, out0 ++ x.extract 0 pos, ent, blocks, none) =
            .ok (stepOf rest.isEmpty (ip + n, rem - n, out0 ++ x.extract 0 pos2, ent2, blocks.push bt, none)) ∧
          (serializeBlocks2 x (c :: rest) pos (repOf ent.rep) pt hp).size = n + (serializeBlocks2 x rest pos2 (repOf ent2.rep) pt2 hp2).size ∧
          Holds src (ip + n) (serializeBlocks2 x rest pos2 (repOf ent2.rep) pt2 hp2) ∧
          TilesT dc bsm x rest pos2 (repOf ent2.rep) pt2 hp2 ∧ RepPos (repOf ent2.rep) ∧ EntMatch pt2 ent2 ∧ HufMatch hp2 ent2 := by
      have hos : pos ≤ x.size → (out0 ++ x.extract 0 pos).size = out0.size + pos := by
        intro h; rw [ByteArray.size_append, ByteArray.size_extract]; omega
      cases c with
      | raw n =>
        obtain ⟨t1, t2, t3⟩ := ht
        obtain ⟨a0, a1, a2, -⟩ := tile_room t1 t2 hbsm hcap
        have hds : (x.extract pos (pos + n)).size = n := by rw [ByteArray.size_extract]; omega
        simp only [serializeBlocks2, noCompressBlock, ByteArray.size_append, blockHeader24_size, hds] at hh hrem ⊢
        obtain ⟨bt, hbt, hf⟩ := hraw a ip rem (out0 ++ x.extract 0 pos) ent blocks rest.isEmpty n _ hh.left hds
          (by rw [hrem, Nat.add_assoc]; exact Nat.le_add_right _ _) (by rw [hos a0]; exact a1) t2 a2
        have hr := hh.right
        rw [ByteArray.size_append, blockHeader24_size, hds] at hr
        exact ⟨3 + n, pos + n, pt, hp, ent, bt, hbt, by rw [hf, ext_step, Nat.add_assoc, Nat.sub_sub], rfl, hr, t3, hrp, hem, hhm⟩
      | rle b n =>
        obtain ⟨t1, t2, t4, t3⟩ := ht
        obtain ⟨a0, a1, a2, -⟩ := tile_room t1 t2 hbsm hcap
        have hos1 : (ofList [b]).size = 1 := rfl
        simp only [serializeBlocks2, rleCompressBlock, ByteArray.size_append, blockHeader24_size, hos1] at hh hrem ⊢
        obtain ⟨bt, hbt, hf⟩ := hrle a ip rem (out0 ++ x.extract 0 pos) ent blocks rest.isEmpty n b hh.left
          (by rw [hrem, Nat.add_assoc]; exact Nat.le_add_right _ _) (by rw [hos a0]; exact a1) t2 a2
        have hr := hh.right
        rw [ByteArray.size_append, blockHeader24_size, hos1] at hr
        exact ⟨3 + 1, pos + n, pt, hp, ent, bt, hbt, by rw [hf, ← t4, ext_step, Nat.add_assoc, Nat.sub_sub], rfl, hr, t3, hrp, hem, hhm⟩
      | compressed c t lits raws =>
        obtain ⟨t1, t2, tv, toff, tlit, trp, ttab, tcodes, tsz, t3⟩ := ht
        obtain ⟨a0, -, -, a3⟩ := tile_room t1 t2 hbsm hcap
        have hos := hos a0
        have hds : (x.extract pos (pos + parseLen lits raws)).size = parseLen lits raws := by rw [ByteArray.size_extract]; omega
        have hps : (x.extract 0 pos).size = pos := by rw [ByteArray.size_extract]; omega
        simp only [serializeBlocks2, compressedBlock, ByteArray.size_append, blockHeader24_size] at hh hrem ⊢
        rw [storeAll_toRT] at tcodes tsz hh hrem t3 ⊢
        have hbody := hh.left.right
        rw [blockHeader24_size] at hbody
        obtain ⟨ent2, tr, hdec, hrep2, hpos2, -, hem2, hhm2⟩ := block_roundtrip_treeless dc out0 (x.extract 0 pos)
          (x.extract pos (pos + parseLen lits raws)) lits (raws.map toRT) c t src (ip + 3) ent bsm cap pt hp tv (by rw [hds]; exact t2) hbsm
          (by intro q hq; obtain ⟨q2, hq2, rfl⟩ := List.mem_map.1 hq; exact toff q2 hq2)
          hrp hem hhm tlit trp ttab tcodes hbody tsz (by rw [hps, hds]; exact a3)
        rw [← hrep2] at t3 hh hrem ⊢
        generalize serializeBlockBody c lits t (SeqRT.storeAll (repOf ent.rep) (raws.map toRT)).1 (pt.getD {}) hp = body at *
        rw [ext_step] at hdec
        obtain ⟨bt, hbt, hf⟩ := hcmp a ip rem (out0 ++ x.extract 0 pos) ent blocks rest.isEmpty body _ ent2 tr hh.left
          (by rw [hrem, Nat.add_assoc]; exact Nat.le_add_right _ _) (Nat.lt_of_le_of_lt (Nat.le_trans tsz hbsm) (by decide)) hdec
          (by rw [hos, ByteArray.size_append, ByteArray.size_extract]; omega)
        have hr := hh.right
        rw [ByteArray.size_append, blockHeader24_size] at hr
        exact ⟨3 + body.size, pos + parseLen lits raws, _, _, ent2, bt, hbt, by rw [hf, Nat.add_assoc, Nat.sub_sub], rfl, hr, t3,
          hpos2, hem2, hhm2⟩
    rw [hsz] at hrem ⊢
    cases rest with
    | nil =>
      have hp2 : pos2 = x.size := ht2
      refine ⟨blocks.push bt, ent2, by simp [hbt], ?_⟩
      rw [forIn_cons_done _ _ _ _ _ hf, hp2, ByteArray.extract_zero_size]
      simp only [serializeBlocks2, ByteArray.size_empty, Nat.add_zero] at hrem ⊢
      rw [show rem - n = r by omega]
    | cons c2 rest2 =>
      obtain ⟨bl, ent3, hb1, hb2⟩ := ih l2 pos2 (ip + n) (rem - n) _ ent2 (blocks.push bt) pt2 hp2 rfl (by simp)
        (Nat.le_of_succ_le_succ hl) ht2 hrp2 hem2 hhm2 hh2 (by omega)
      exact ⟨bl, ent3, hb1, by rw [forIn_cons_yield _ _ _ _ _ hf, hb2, Nat.add_assoc]⟩

theorem blockStep_stepCmp (src dc : ByteArray) (fs cap bsm : Nat) : StepCmp src dc fs cap bsm fun _ => blockStep src dc fs cap bsm := by
  intro i ip rem out ent blocks last body out2 ent2 tr hh h1 h2 hdec hgrow
  have hbh : Frame.blockHeader src ip rem = .ok ⟨last, 2, body.size, body.size⟩ :=
    FrameRT.blockHeader_written hh.left (by omega) (by decide) h2
  refine ⟨⟨⟨last, 2, body.size, body.size⟩, out2.size - out.size, some tr⟩, rfl, blockStep_ok_iff.2
    ⟨_, _, _, _, hbh, by dsimp only; omega, regenBlock_cmp rfl hdec, ?_⟩⟩
  dsimp only
  rw [if_neg (by rw [Bool.and_eq_true, decide_eq_true_eq]; omega)]

/-- the blocks the decoder sees: an empty block list gets the empty raw last block of ZSTD_writeEpilogue -/
def effBlocks2 (bs : List BlockChoice2) : List BlockChoice2 := if bs.isEmpty then [.raw 0] else bs

theorem effBlocks2_ne (bs : List BlockChoice2) : effBlocks2 bs ≠ [] := by
  unfold effBlocks2
  cases bs <;> simp

theorem tilesT_effBlocks {dc : ByteArray} {bsm : Nat} {x : ByteArray} {bs : List BlockChoice2} {rep : Rep.R} {pt : Option Tables}
    {hp : Option HufTab} (h : TilesT dc bsm x bs 0 rep pt hp) : TilesT dc bsm x (effBlocks2 bs) 0 rep pt hp := by
  unfold effBlocks2
  cases bs with
  | nil =>
    have : 0 = x.size := h
    simp only [List.isEmpty_nil, if_true, TilesT]
    omega
  | cons c rest => exact h

/-- a frame is its header, the blocks the decoder sees, and the checksum -/
theorem serializeFrameFromT_eq (rep0 : Rep.R) (pt0 : Option Tables) (hp0 : Option HufTab) (a : HArgs) (bs : List BlockChoice2)
    (x : ByteArray) :
    serializeFrameFromT rep0 pt0 hp0 a bs x =
      ofList (writeHeader a) ++ (serializeBlocks2 x (effBlocks2 bs) 0 rep0 pt0 hp0 ++ FrameRT.checksumBytes a x) := by
  unfold serializeFrameFromT epilogue effBlocks2 FrameRT.checksumBytes
  cases bs with
  | nil =>
    simp only [List.isEmpty_nil, if_true, serializeBlocks2, noCompressBlock, ByteArray.empty_append, ByteArray.extract_same,
      ByteArray.append_empty]
  | cons c rest =>
    simp only [List.isEmpty_cons, Bool.false_eq_true, if_false, ByteArray.empty_append]

theorem serializeFrameFromT_size_ge (rep0 : Rep.R) (pt0 : Option Tables) (hp0 : Option HufTab) (a : HArgs) (bs : List BlockChoice2)
    (x : ByteArray) : (writeHeader a).length + 3 ≤ (serializeFrameFromT rep0 pt0 hp0 a bs x).size := by
  rw [serializeFrameFromT_eq]
  have h2 := serializeBlocks2_size_ge x (effBlocks2 bs) 0 rep0 pt0 hp0
  have h3 : 1 ≤ (effBlocks2 bs).length := List.length_pos_iff.2 (effBlocks2_ne bs)
  simp only [ByteArray.size_append, size_ofList]
  omega

/-- **one serialized frame with compressed blocks inside any input, any starting state**: `Frame.decompressFrame` started at a frame
written from the history `rep0`, the table decisions `pt0` and the Huffman table `hp0`, with a dictionary loaded whose entropy state
carries the same three (`repOf dict.ent.rep = rep0`, `EntMatch`, `HufMatch`) and whose content the parses may refer to, appends exactly
the content and consumes exactly the frame.  The FIRST block with sequences may say `set_repeat`, the first block with literals may be
treeless.  The header may name no dictionary or the loaded one (`dctx->fParams.dictID && (dctx->dictID != fParams.dictID)`). -/
theorem decompressFrame_serializedFrom (rep0 : Rep.R) (hpos : RepPos rep0) (pt0 : Option Tables) (hp0 : Option HufTab)
    (a : HArgs) (ha : a.wf) (dict : Frame.Dict) (hnd : a.noDictID = true ∨ a.dictID = 0 ∨ a.dictID = dict.id)
    (bs : List BlockChoice2) (x : ByteArray) (hfcs : a.contentSizeFlag = true → a.pledged = x.size)
    (hrep0 : repOf dict.ent.rep = rep0) (hem : EntMatch pt0 dict.ent) (hhm : HufMatch hp0 dict.ent)
    (ht : TilesT dict.content (FrameRT.blockSizeMaxOf a) x bs 0 rep0 pt0 hp0)
    {src : ByteArray} {ip0 : Nat} (r : Nat) (hsrc : Holds src ip0 (serializeFrameFromT rep0 pt0 hp0 a bs x))
    (out0 : ByteArray) (cap : Nat) (hcap : out0.size + x.size ≤ cap)
    (o : Frame.Opts) (hml : o.magicless = a.magicless) (hmb : o.maxBlockSize = 0) :
    ∃ tr, Frame.decompressFrame src ip0 ((serializeFrameFromT rep0 pt0 hp0 a bs x).size + r) dict out0 cap o =
      .ok (out0 ++ x, (serializeFrameFromT rep0 pt0 hp0 a bs x).size, tr) := by
  subst hrep0
  rw [serializeFrameFromT_eq] at hsrc ⊢
  have htl := tilesT_effBlocks ht
  have hne := effBlocks2_ne bs
  generalize effBlocks2 bs = bs2 at hsrc htl hne ⊢
  have hS := serializeBlocks2_size_ge x bs2 0 (repOf dict.ent.rep) pt0 hp0
  have hlen : 1 ≤ bs2.length := List.length_pos_iff.2 hne
  have hbsm : FrameRT.blockSizeMaxOf a ≤ 2 ^ 17 := by unfold FrameRT.blockSizeMaxOf; simp only [ZSTD_BLOCKSIZE_MAX]; omega
  simp only [ByteArray.size_append, size_ofList]
  refine FrameRT.decompressFrame_of_blocks a ha dict hnd x _ hfcs (by omega) r hsrc out0 cap o hml hmb ?_
  exact blocks_loop src dict.content x out0 cap _ _ _ hbsm (FrameRT.blockStep_stepRaw _ _ _ _ _) (FrameRT.blockStep_stepRle _ _ _ _ _)
    (blockStep_stepCmp _ _ _ _ _) hcap bs2 _ 0 _ _ out0 dict.ent #[] pt0 hp0 (by rw [ByteArray.extract_same, ByteArray.append_empty]) hne
    (by rw [List.length_range']; omega) htl hpos hem hhm (by rw [← size_ofList]; exact hsrc.right.left) (by omega)

theorem repPos_start : RepPos repStart := ⟨by decide, by decide, by decide⟩

/-- **decompressFrame_serialized2**: `decompressFrame_serializedFrom` for the start of a frame without dictionary tables
(`repStartValue`, no previous tables) and tilings without treeless literals (`Tiles2`) -/
theorem decompressFrame_serialized2 (a : HArgs) (ha : a.wf) (hnd : a.noDictID = true ∨ a.dictID = 0)
    (bs : List BlockChoice2) (x : ByteArray) (hfcs : a.contentSizeFlag = true → a.pledged = x.size) (dict : Frame.Dict)
    (hrep0 : repOf dict.ent.rep = repStart)
    (ht : Tiles2 dict.content (min (if single a then a.pledged else 2 ^ a.windowLog) ZSTD_BLOCKSIZE_MAX) x bs 0 repStart)
    {src : ByteArray} {ip0 : Nat} (r : Nat) (hsrc : Holds src ip0 (serializeFrame2 a bs x))
    (out0 : ByteArray) (cap : Nat) (hcap : out0.size + x.size ≤ cap)
    (o : Frame.Opts) (hml : o.magicless = a.magicless) (hmb : o.maxBlockSize = 0)
    (hhash : a.checksum = true → XXH64.hashRange (out0 ++ x) out0.size x.size = XXH64.hashRange x 0 x.size) :
    ∃ tr, Frame.decompressFrame src ip0 ((serializeFrame2 a bs x).size + r) dict out0 cap o =
      .ok (out0 ++ x, (serializeFrame2 a bs x).size, tr) :=
  decompressFrame_serializedFrom repStart repPos_start none none a ha dict (hnd.imp_right Or.inl) bs x hfcs hrep0 trivial trivial
    (tilesT_of_tiles2 _ _ x bs 0 repStart none none ht) r hsrc out0 cap hcap o hml hmb

/-! ### whole inputs that are one frame (ZSTD_decompress, ZSTD_decompress_usingDict) -/

/-- `Frame.decompressAll` on an input that `Frame.decompressFrame` decodes as ONE frame filling the whole input -/
theorem decompressAll_single {src x : ByteArray} {dict : Frame.Dict} {cap : Nat} {o : Frame.Opts} {tr : Frame.FrameTrace}
    (hml : o.magicless = false) (hmg : src.le32 0 = ZSTD_MAGICNUMBER) (h5 : 5 ≤ src.size)
    (hdf : Frame.decompressFrame src 0 src.size dict ByteArray.empty cap o = .ok (x, src.size, tr)) :
    Frame.decompressAll src dict cap o = .ok (x, #[tr]) := by
  refine (FrameRT.decompressAll_ok_iff hml).2 ⟨src.size, true, ?_⟩
  -- two iterations: the frame, then the stop at the end of the input
  obtain ⟨n, hn⟩ : ∃ n, src.size + 1 = n + 1 + 1 := ⟨src.size - 1, by omega⟩
  rw [hn, List.range'_succ, List.range'_succ, forIn_cons_yield _ _ _ _ (src.size, 0, x, #[tr], true), forIn_cons_done]
  · rw [FrameRT.frameStep, if_pos (by decide)]
  · rw [FrameRT.frameStep, if_neg (by omega), hmg, if_neg (by decide), if_neg (by decide), hdf]
    dsimp only
    rw [Nat.zero_add, Nat.sub_self]
    rfl

/-- **frame_roundtrip_from** (C01 / C08, whole frames, any starting state).  For every positive repeat-offset history `rep0`, previous
sequence-table decisions `pt0` and previous Huffman table `hp0` that the encoder starts from and the loaded dictionary carries
(`EntMatch`, `HufMatch`), every input `x`, every accepted header-argument tuple whose dictionary-ID field is absent, 0 or the loaded
dictionary's, and EVERY list of block decisions that tiles `x` from that state (`TilesT`), ZSTD_decompress_usingDict
(`Frame.decompressAll`) maps the serialized frame back to `x`, for every destination capacity that can hold `x`. -/
theorem frame_roundtrip_from (rep0 : Rep.R) (hpos : RepPos rep0) (pt0 : Option Tables) (hp0 : Option HufTab) (a : HArgs)
    (bs : List BlockChoice2) (x : ByteArray) (dict : Frame.Dict)
    (ha : a.wf) (hnd : a.noDictID = true ∨ a.dictID = 0 ∨ a.dictID = dict.id) (hm : a.magicless = false)
    (hfcs : a.contentSizeFlag = true → a.pledged = x.size) (ht : TilesT dict.content (FrameRT.blockSizeMaxOf a) x bs 0 rep0 pt0 hp0)
    (hrep0 : repOf dict.ent.rep = rep0) (hem : EntMatch pt0 dict.ent) (hhm : HufMatch hp0 dict.ent)
    (cap : Nat) (hcap : x.size ≤ cap) (o : Frame.Opts) (hml : o.magicless = false) (hmb : o.maxBlockSize = 0) :
    ∃ traces, Frame.decompressAll (serializeFrameFromT rep0 pt0 hp0 a bs x) dict cap o = .ok (x, traces) := by
  have hh := FrameRT.holds_self (serializeFrameFromT rep0 pt0 hp0 a bs x)
  have h3 := serializeFrameFromT_size_ge rep0 pt0 hp0 a bs x
  have h6 := FrameRT.writeHeader_length_ge a
  rw [hm] at h6
  obtain ⟨tr, hdf⟩ := decompressFrame_serializedFrom rep0 hpos pt0 hp0 a ha dict hnd bs x hfcs hrep0 hem hhm ht 0 hh ByteArray.empty cap
    (by rw [ByteArray.size_empty]; omega) o (by rw [hml, hm]) hmb
  rw [Nat.add_zero, ByteArray.empty_append] at hdf
  exact ⟨_, decompressAll_single hml (FrameRT.header_magic hh hm) (by simp only [Bool.false_eq_true, if_false] at h6; omega) hdf⟩

/-- hypotheses on one frame with compressed blocks: accepted header arguments, no dictionary ID, magic number present, truthful
content size, and the blocks tile the content with valid parses (`Tiles2`) under the decoder's block-size limit min(Window_Size, 128 KiB).
The tiling starts with the repeat-offset start value and with NO previous sequence tables (`prev = none`): the first block with sequences
cannot use `set_repeat`.  (ZSTD_compress_usingDict may repeat a dictionary's tables there: those frames are `serializeFrameFromT` started
from the dictionary's tables, covered by `frame_roundtrip_from` and Lemmas/DictTablesRT.lean.) -/
def FrameOK2 (dc : ByteArray) (a : HArgs) (bs : List BlockChoice2) (x : ByteArray) : Prop :=
  a.wf ∧ (a.noDictID = true ∨ a.dictID = 0) ∧ a.magicless = false ∧ (a.contentSizeFlag = true → a.pledged = x.size) ∧
    Tiles2 dc (FrameRT.blockSizeMaxOf a) x bs 0 repStart

/-- `FrameOK2` with TREELESS literals allowed (`TilesT`): the tiling starts with the repeat-offset start value, NO previous sequence
tables and NO previous Huffman table (`prev = none`, `hp = none`): treeless literals only after a compressed block of this frame whose
literals section wrote a table.  (ZSTD_compress_usingDict may re-use a dictionary's Huffman table in the first block: `frame_roundtrip_from`
started from that table, Lemmas/DictTablesRT.lean.) -/
def FrameOKT (dc : ByteArray) (a : HArgs) (bs : List BlockChoice2) (x : ByteArray) : Prop :=
  a.wf ∧ (a.noDictID = true ∨ a.dictID = 0) ∧ a.magicless = false ∧ (a.contentSizeFlag = true → a.pledged = x.size) ∧
    TilesT dc (FrameRT.blockSizeMaxOf a) x bs 0 repStart

theorem frameOKT_of_frameOK2 {dc : ByteArray} {a : HArgs} {bs : List BlockChoice2} {x : ByteArray} (h : FrameOK2 dc a bs x) :
    FrameOKT dc a bs x :=
  ⟨h.1, h.2.1, h.2.2.1, h.2.2.2.1, tilesT_of_tiles2 _ _ x bs 0 repStart none none h.2.2.2.2⟩

/-- **frame_roundtrip_compressed_treeless** (C01, whole frames).  For every input `x`, every accepted header-argument tuple, and EVERY
list of block decisions that tiles `x` - raw blocks, RLE blocks, and compressed blocks carrying ANY valid parse of their stretch, literals
in any mode (TREELESS = the table of the last earlier block of the frame that wrote one), each sequence table predefined / RLE / described
with ANY acceptable distribution (`TableOK`) / repeated from the previous compressed block with sequences - ZSTD_decompress
(`Frame.decompressAll`) maps the serialized frame (`serializeFrame2`: ZSTD_writeFrameHeader, per block ZSTD_noCompressBlock /
ZSTD_rleCompressBlock / block header + ZSTD_entropyCompressSeqStore_internal, ZSTD_writeEpilogue) back to `x`, for every capacity that can
hold `x`.  A loaded dictionary's content may be referred to, provided its history is the start value.  Repeating a DICTIONARY's tables
in the first blocks: `frame_roundtrip_from`, of which this is the instance `repStart`, `none`, `none`. -/
theorem frame_roundtrip_compressed_treeless (a : HArgs) (bs : List BlockChoice2) (x : ByteArray) (dict : Frame.Dict)
    (hok : FrameOKT dict.content a bs x) (hrep0 : repOf dict.ent.rep = repStart)
    (cap : Nat) (hcap : x.size ≤ cap) (o : Frame.Opts) (hml : o.magicless = false) (hmb : o.maxBlockSize = 0) :
    ∃ traces, Frame.decompressAll (serializeFrame2 a bs x) dict cap o = .ok (x, traces) :=
  frame_roundtrip_from repStart repPos_start none none a bs x dict hok.1 (hok.2.1.imp_right Or.inl) hok.2.2.1 hok.2.2.2.1 hok.2.2.2.2
    hrep0 trivial trivial cap hcap o hml hmb

/-- **frame_roundtrip_compressed** (C01, whole frames): `frame_roundtrip_compressed_treeless` for the tilings without treeless literals
(`FrameOK2`; Huffman literals with a new table, described directly or by FSE-compressed weights, are included). -/
theorem frame_roundtrip_compressed (a : HArgs) (bs : List BlockChoice2) (x : ByteArray) (dict : Frame.Dict)
    (hok : FrameOK2 dict.content a bs x) (hrep0 : repOf dict.ent.rep = repStart)
    (cap : Nat) (hcap : x.size ≤ cap) (o : Frame.Opts) (hml : o.magicless = false) (hmb : o.maxBlockSize = 0) :
    ∃ traces, Frame.decompressAll (serializeFrame2 a bs x) dict cap o = .ok (x, traces) :=
  frame_roundtrip_compressed_treeless a bs x dict (frameOKT_of_frameOK2 hok) hrep0 cap hcap o hml hmb

/-! ### the predefined tables need no hypothesis on codes -/

theorem finalizeOffBase_le (raw : Nat) (r : Rep.R) (ll0 : Bool) (h : 1 ≤ raw) : finalizeOffBase raw r ll0 ≤ raw + 3 := by
  unfold finalizeOffBase
  cases ll0 <;> simp only [Bool.not_false, Bool.not_true, Bool.true_and, Bool.false_and, if_true, if_false, Bool.false_eq_true] <;>
    (repeat' split) <;> omega

/-- with the three predefined tables every parse whose lengths are below 2^17 and whose offsets satisfy `rawOffset + 3 < 2^29`
(offset code ≤ 28 = DefaultMaxOff) is expressible: `CodesOK` holds -/
theorem codesOK_predefined (rep : Rep.R) (raws : List SeqRT.RawSeq)
    (h : ∀ q ∈ raws, q.litLength < 2 ^ 17 ∧ q.mlBase < 2 ^ 17 ∧ 1 ≤ q.rawOffset ∧ q.rawOffset + 3 < 2 ^ 29) :
    CodesOK {} (SeqRT.storeAll rep raws).1 := by
  induction raws generalizing rep with
  | nil => intro s hs; simp [SeqRT.storeAll] at hs
  | cons q qs ih =>
    intro s hs
    simp only [SeqRT.storeAll, List.mem_cons] at hs
    rcases hs with e | e
    · obtain ⟨a, b, c, d⟩ := h q (by simp)
      have hle := finalizeOffBase_le q.rawOffset rep (q.litLength == 0) c
      obtain ⟨f1, -⟩ := SeqRT.finalizeOffBase_range q.rawOffset rep (q.litLength == 0) (by omega)
      subst e
      refine ⟨SeqRT.llCode_le _ a, ?_, SeqRT.mlCode_le _ b⟩
      show Nat.log2 (finalizeOffBase q.rawOffset rep (q.litLength == 0)) ≤ 28
      exact (SeqRT.log2_range (lo := 0) (hi := 28) (by omega) (by omega)).2
    · exact ih _ (fun x hx => h x (by simp [hx])) s e

/-! ### non-vacuity: a 2-block frame, one raw block and one compressed block with an OVERLAPPING match (distance 2, length 6) and a
REPEAT-OFFSET code (second sequence: distance 2 again, stored as offBase 1).  The bytes below are what `zvdriver blockenc` prints for
`cframe 10 0 r4;cr:bbb:2:6:2,1:3:2:1 <hex>`; the real ZSTD_decompress regenerates the 17 input bytes from them (tools/ent_block.py runs
this comparison on every frame the model produces; with the checksum flag the frame ends in f2 62 98 1e, equally accepted). -/

/-- "abcd" ++ "xyxyxyxy" ++ "z" ++ "yzy" ++ "!" -/
def demoX : ByteArray := ofList [0x61, 0x62, 0x63, 0x64, 0x78, 0x79, 0x78, 0x79, 0x78, 0x79, 0x78, 0x79, 0x7a, 0x79, 0x7a, 0x79, 0x21]
def demoLits : ByteArray := ofList [0x78, 0x79, 0x7a, 0x21]
def demoRaws : List BlockEnc.RawSeq := [⟨2, 3, 2⟩, ⟨1, 0, 2⟩]
def demoBlocks : List BlockChoice2 := [.raw 4, .compressed .raw {} demoLits demoRaws]
def demoArgs (ck : Bool) : HArgs := ⟨10, 17, true, 0, false, ck, false⟩

example : (BlockEnc.storeAll repStart demoRaws).1 = [⟨2, 3, 5⟩, ⟨1, 0, 1⟩] := by decide

/-- the body of the compressed block: the one part of this demonstration that is slow to evaluate (ZSTD_encodeSequences on the three
predefined tables, which FSE_buildCTable_wksp has to build first); evaluated once, here -/
theorem demo_body : serializeBlockBody .raw demoLits {} (BlockEnc.storeAll repStart demoRaws).1 ((none : Option Tables).getD {}) none =
    ofList [0x20, 0x78, 0x79, 0x7a, 0x21, 0x02, 0x00, 0x00, 0x88, 0x06, 0x87, 0x05] := by decide +kernel

example : (serializeFrame2 (demoArgs false) demoBlocks demoX).data =
    #[0x28, 0xb5, 0x2f, 0xfd, 0x20, 0x11, 0x20, 0x00, 0x00, 0x61, 0x62, 0x63, 0x64, 0x65, 0x00, 0x00, 0x20, 0x78, 0x79, 0x7a, 0x21,
      0x02, 0x00, 0x00, 0x88, 0x06, 0x87, 0x05] := by
  simp only [serializeFrame2, demoBlocks, serializeBlocks2, demo_body]
  decide +kernel

theorem demo_ok (ck : Bool) : FrameOK2 ByteArray.empty (demoArgs ck) demoBlocks demoX := by
  refine ⟨by cases ck <;> (unfold HArgs.wf; decide), Or.inr rfl, rfl, fun _ => rfl, ?_⟩
  have hb : FrameRT.blockSizeMaxOf (demoArgs ck) = 17 := by cases ck <;> decide
  rw [hb]
  simp only [demoBlocks, Tiles2, LitOK, demo_body]
  decide +kernel

example : ∃ tr, Frame.decompressAll (serializeFrame2 (demoArgs true) demoBlocks demoX) {} 17 {} = .ok (demoX, tr) :=
  frame_roundtrip_compressed _ _ _ {} (demo_ok true) rfl 17 (by decide) {} rfl rfl

def demoBytes : ByteArray := ofList [0x28, 0xb5, 0x2f, 0xfd, 0x20, 0x11, 0x20, 0x00, 0x00, 0x61, 0x62, 0x63, 0x64, 0x65, 0x00, 0x00, 0x20, 0x78, 0x79, 0x7a, 0x21,
      0x02, 0x00, 0x00, 0x88, 0x06, 0x87, 0x05]
example : (match Frame.decompressAll demoBytes {} 17 {} with
    | .ok (y, _) => some y.data | .error _ => none) = some demoX.data := by decide +kernel

/-! ### non-vacuity, `set_compressed` and `set_repeat`: the frame above followed by a third block.  Block 2 DESCRIBES its three tables
(FSE_writeNCount of the distributions LL {1: 16, 2: 16}, OF {0: 16, 2: 16}, ML {0: 16, 3: 16}, tableLog 5), block 3 REPEATS them
(modes byte 0xfc, no description) for "pqpqpqpq" "r" "qrq" "?".  The real `zstd -d` (v1.5.7) regenerates the 30 input bytes from the
48 bytes below. -/

def demoFse : Tables := { ll := .fse #[0, 16, 16] 5, of := .fse #[16, 0, 16] 5, ml := .fse #[16, 0, 0, 16] 5 }
def demoRep : Tables := { ll := .repeat, of := .repeat, ml := .repeat }
def demoX2 : ByteArray := ofList [0x61, 0x62, 0x63, 0x64, 0x78, 0x79, 0x78, 0x79, 0x78, 0x79, 0x78, 0x79, 0x7a, 0x79, 0x7a, 0x79, 0x21,
  0x70, 0x71, 0x70, 0x71, 0x70, 0x71, 0x70, 0x71, 0x72, 0x71, 0x72, 0x71, 0x3f]
def demoLits2 : ByteArray := ofList [0x70, 0x71, 0x72, 0x3f]
def demoBlocks2 : List BlockChoice2 :=
  [.raw 4, .compressed .raw demoFse demoLits demoRaws, .compressed .raw demoRep demoLits2 demoRaws]
def demoArgs2 : HArgs := ⟨10, 30, true, 0, false, false, false⟩

example : TablesOK demoFse := by decide +kernel

/-- the tiling hypothesis and the bytes of the frame in ONE evaluation: both need the two block bodies, and inside one evaluation the
kernel computes them once -/
theorem demo2_eval : Tiles2 ByteArray.empty 30 demoX2 demoBlocks2 0 repStart ∧ serializeFrame2 demoArgs2 demoBlocks2 demoX2 =
    ofList [0x28, 0xb5, 0x2f, 0xfd, 0x20, 0x1e, 0x20, 0x00, 0x00, 0x61, 0x62, 0x63, 0x64, 0x9c, 0x00, 0x00, 0x20, 0x78, 0x79, 0x7a, 0x21,
      0x02, 0xa8, 0x10, 0x88, 0x1f, 0x10, 0x83, 0x0f, 0x10, 0xa3, 0x0f, 0x68, 0x8c, 0x11, 0x55, 0x00, 0x00, 0x20, 0x70, 0x71, 0x72, 0x3f,
      0x02, 0xfc, 0x18, 0x60, 0x04] := by
  simp only [demoBlocks2, Tiles2, LitOK]
  decide +kernel

example : (serializeFrame2 demoArgs2 demoBlocks2 demoX2).data =
    #[0x28, 0xb5, 0x2f, 0xfd, 0x20, 0x1e, 0x20, 0x00, 0x00, 0x61, 0x62, 0x63, 0x64, 0x9c, 0x00, 0x00, 0x20, 0x78, 0x79, 0x7a, 0x21,
      0x02, 0xa8, 0x10, 0x88, 0x1f, 0x10, 0x83, 0x0f, 0x10, 0xa3, 0x0f, 0x68, 0x8c, 0x11, 0x55, 0x00, 0x00, 0x20, 0x70, 0x71, 0x72, 0x3f,
      0x02, 0xfc, 0x18, 0x60, 0x04] := congrArg ByteArray.data demo2_eval.2

theorem demo2_ok : FrameOK2 ByteArray.empty demoArgs2 demoBlocks2 demoX2 :=
  ⟨by unfold HArgs.wf; decide, Or.inr rfl, rfl, fun _ => rfl, demo2_eval.1⟩

example : ∃ tr, Frame.decompressAll (serializeFrame2 demoArgs2 demoBlocks2 demoX2) {} 30 {} = .ok (demoX2, tr) :=
  frame_roundtrip_compressed _ _ _ {} demo2_ok rfl 30 (by decide) {} rfl rfl

/-! ### non-vacuity, TREELESS literals: a frame of two compressed blocks without sequences.  Block 1 writes a Huffman table for its 20
literals over {0, 1, 2} (weights 2, 1, 1; direct tree description `81 21`), block 2 codes its 12 literals over {0, 1} with THAT table:
literals header `c3 c0 00` = type 3 (`set_repeat`), one stream, 12 literals in 3 bytes, no tree description.  The bytes below are what
`zvdriver blockenc` prints for `cframe 10 0 ch:bbb::20;ct:bbb::12 <hex>` (`lit=ht`); the real ZSTD_decompress regenerates the 32 input
bytes from them (tools/ent_block.py runs this comparison on every frame the model produces). -/

def demoLitsA : ByteArray := ofList [0, 1, 0, 2, 0, 0, 1, 0, 2, 0, 1, 0, 0, 2, 0, 1, 0, 2, 0, 1]
def demoLitsB : ByteArray := ofList [0, 1, 0, 0, 1, 0, 0, 0, 1, 0, 1, 0]
def demoX3 : ByteArray := demoLitsA ++ demoLitsB
def demoBlocks3 : List BlockChoice2 := [.compressed (.huffman [2, 1] 1 2) {} demoLitsA [], .compressed .treeless {} demoLitsB []]
def demoArgs3 : HArgs := ⟨10, 32, true, 0, false, false, false⟩

example : (serializeFrame2 demoArgs3 demoBlocks3 demoX3).data =
    #[0x28, 0xb5, 0x2f, 0xfd, 0x20, 0x20, 0x54, 0x00, 0x00, 0x42, 0x81, 0x01, 0x81, 0x21, 0x2c, 0x9b, 0xe5, 0x32, 0x00, 0x3d, 0x00, 0x00,
      0xc3, 0xc0, 0x00, 0xc9, 0x99, 0x01, 0x00] := by decide +kernel

/-- the table block 2 re-uses is the one block 1 wrote -/
theorem demo3_next : nextHuf none (.huffman [2, 1] 1 2) demoLitsA = some (#[2, 1, 1], 2) := by decide +kernel

theorem gain_of_check {a b : Option ByteArray} {n : Nat}
    (h : (a.bind fun wh => b.map fun st => decide (wh.size + st.size < n)) = some true) :
    ∀ wh st, a = some wh → b = some st → wh.size + st.size < n := by
  intro wh st ha hb
  subst ha hb
  simpa using h

theorem demo3_hufOK : HufOK [2, 1] 1 2 demoLitsA where
  ok := by decide
  last_pos := by decide
  log_le := by decide
  two_ones := by decide
  ws_ne := by decide
  syms := by decide +kernel
  gain := gain_of_check (by decide +kernel)

theorem demo3_treelessOK : TreelessOK #[2, 1, 1] 2 demoLitsB where
  syms := by decide +kernel
  gain := fun st h => by
    have := gain_of_check (a := some ByteArray.empty) (n := demoLitsB.size)
      (b := hufStreams (decide ((symsOf demoLitsB).length < 256)) (HufEnc.codesOf #[2, 1, 1] 2) (symsOf demoLitsB)) (by decide +kernel)
      ByteArray.empty st rfl h
    simpa using this

theorem demo3_ok : FrameOKT ByteArray.empty demoArgs3 demoBlocks3 demoX3 := by
  refine ⟨by unfold HArgs.wf; decide, Or.inr rfl, rfl, fun _ => rfl, ?_⟩
  have hb : FrameRT.blockSizeMaxOf demoArgs3 = 32 := by decide
  rw [hb]
  refine ⟨by decide, by decide, by decide +kernel, by decide, demo3_hufOK, by decide, by decide, by decide, by decide +kernel, ?_⟩
  rw [demo3_next]
  refine ⟨by decide, by decide, by decide +kernel, by decide, demo3_treelessOK, by decide, by decide, by decide, by decide +kernel, ?_⟩
  show 0 + parseLen demoLitsA [] + parseLen demoLitsB [] = demoX3.size
  decide

example : ∃ tr, Frame.decompressAll (serializeFrame2 demoArgs3 demoBlocks3 demoX3) {} 32 {} = .ok (demoX3, tr) :=
  frame_roundtrip_compressed_treeless _ _ _ {} demo3_ok rfl 32 (by decide) {} rfl rfl

/-! ### non-vacuity, FSE-COMPRESSED TREE DESCRIPTION: one compressed block of 120 literals over 28 symbols (weights `demoWsF ++ [1]`,
depth 5) and a raw block.  HUF_writeCTable_wksp's FSE form takes 12 bytes (size byte 11; counts of the weight values 0 .. 4 normalised to
15, 8, 3, 4, 2 at table log 5) where the direct form takes 15; `Huf.readStats` reads it back (`WeightsRT.readStats_fse`). -/

def demoLitsF : ByteArray :=
  ofList [0, 1, 2, 3, 0, 5, 6, 3, 8, 9, 2, 2, 12, 1, 5, 15, 0, 8, 18, 3, 2, 21, 2, 5, 24, 1, 8, 27, 0, 2, 0, 3, 5, 3, 2, 8, 6, 1,
    2, 9, 0, 5, 12, 3, 8, 15, 2, 2, 18, 1, 5, 21, 0, 8, 24, 3, 2, 27, 2, 5, 0, 1, 8, 3, 0, 2, 6, 3, 5, 9, 2, 8, 12, 1, 2, 15, 0,
    5, 18, 3, 8, 21, 2, 2, 24, 1, 5, 27, 0, 8, 0, 3, 2, 3, 2, 5, 6, 1, 8, 9, 0, 2, 12, 3, 5, 15, 2, 8, 18, 1, 2, 21, 0, 5, 24, 3,
    8, 27, 2, 2]
def demoWsF : List Nat := [3, 2, 4, 3, 0, 2, 1, 0, 3, 1, 0, 0, 1, 0, 0, 1, 0, 0, 1, 0, 0, 1, 0, 0, 1, 0, 0]
def demoNormF : Array Int := #[15, 8, 3, 4, 2]
def demoXF : ByteArray := demoLitsF ++ ofList [1, 2, 3, 4, 5, 6, 7, 8, 9, 10]
def demoBlocksF : List BlockChoice2 := [.compressed (.huffmanFse demoWsF 1 5 demoNormF 5) {} demoLitsF [], .raw 10]
def demoArgsF : HArgs := ⟨10, 130, true, 0, false, false, false⟩

example : (treeDescr demoNormF 5 demoWsF).map (·.data) = some #[11, 0, 147, 29, 152, 170, 170, 162, 49, 11, 106, 1] := by decide +kernel
example : (directWeights demoWsF).map (·.size) = some 15 := by decide +kernel

/-- the gain test of the literals section and the size of the block body, in one evaluation (both compute the tree description and the
Huffman streams) -/
theorem demoF_eval :
    ((treeDescr demoNormF 5 demoWsF).bind fun wh =>
      (hufStreams (decide ((symsOf demoLitsF).length < 256)) (HufEnc.codesOf (demoWsF.toArray.push 1) 5) (symsOf demoLitsF)).map fun st =>
        decide (wh.size + st.size < demoLitsF.size)) = some true ∧
    (serializeBlockBody (.huffmanFse demoWsF 1 5 demoNormF 5) demoLitsF {} (BlockEnc.storeAll repStart []).1
      ((none : Option Tables).getD {}) none).size ≤ 130 := by decide +kernel

theorem demoF_hufOK : HufFseOK demoWsF 1 5 demoNormF 5 demoLitsF :=
  have hN : NormOK demoNormF 5 := by decide +kernel
  have hE := spreadEnc_eq_spread hN
  { ok := by decide +kernel, last_pos := by decide, log_le := by decide, two_ones := by decide, ws_ne := by decide, ws_le := by decide,
    fse := { normOK := hN, log_ge := by decide, log_le := by decide, last_ne := by decide, size_le := by decide,
             spread := by rw [hE]; exact (spreadOK_iff _ _ _).2 (spread_ok hN (by decide)), spreadEq := hE,
             covers := by decide +kernel, not_rle := by decide +kernel },
    syms := by decide +kernel,
    gain := gain_of_check demoF_eval.1 }

theorem demoF_valid : ValidParse ByteArray.empty (demoXF.extract 0 0) (demoXF.extract 0 (0 + parseLen demoLitsF [])) demoLitsF
    (([] : List BlockEnc.RawSeq).map toRT |>.map toSeq) := by
  have h1 : 0 + parseLen demoLitsF [] = demoLitsF.size := by simp [parseLen]
  have h2 : demoXF.extract 0 (0 + parseLen demoLitsF []) = demoLitsF := by
    rw [h1, demoXF, ByteArray.extract_append]; simp
  rw [h2, ByteArray.extract_same]
  show Exec.ValidFrom _ _ _ _ _ []
  unfold Exec.ValidFrom
  rw [ByteArray.empty_append, ByteArray.size_empty]
  exact ⟨Nat.zero_le _, Nat.zero_le _, rfl⟩

theorem demoF_ok : FrameOKT ByteArray.empty demoArgsF demoBlocksF demoXF := by
  refine ⟨by unfold HArgs.wf; decide, Or.inr rfl, rfl, fun _ => rfl, ?_⟩
  have hb : FrameRT.blockSizeMaxOf demoArgsF = 130 := by decide
  rw [hb]
  refine ⟨by decide +kernel, by decide +kernel, demoF_valid, by decide, demoF_hufOK, by decide, by decide, by decide, demoF_eval.2, ?_⟩
  refine ⟨by decide +kernel, by decide +kernel, ?_⟩
  show 0 + parseLen demoLitsF [] + 10 = demoXF.size
  decide +kernel

example : ∃ tr, Frame.decompressAll (serializeFrame2 demoArgsF demoBlocksF demoXF) {} 130 {} = .ok (demoXF, tr) :=
  frame_roundtrip_compressed_treeless _ _ _ {} demoF_ok rfl 130 (by decide +kernel) {} rfl rfl

end ZstdVerif.BlockRT
