/-
ZSTD_compressBound is always enough for what the proved frame serializer emits (property C06).

`Props/C06.raw_fallback_fits` is pure arithmetic on a hand-written layout (`Bound.rawFrameSize`: 18 + 3 per 128 KiB block + n + 4).
Here the SIZE OF THE BYTES the serializer of Model/Serialize.lean / Model/BlockEnc.lean really emits (ZSTD_writeFrameHeader +
ZSTD_noCompressBlock per block of ZSTD_compress_frameChunk + ZSTD_writeEpilogue; the same bytes `FrameRT.frame_roundtrip_raw` and
`BlockRT.frame_roundtrip_compressed` decode) is computed exactly and compared with `Bound.compressBound` (= the ZSTD_COMPRESSBOUND
macro, `Props/C06.bound_matches_source`), for EVERY block size, not only 128 KiB.

Side conditions: the per-block cost of 3 bytes must be paid by the `n/256` term of the macro, i.e. 3/blockSize ≤ 1/256 up to
rounding and the constant 22 of header + checksum: the exact threshold is blockSize ≥ 808.  The library never uses a block size
below 1024 with more than one block (ZSTD_c_windowLog ≥ 10, ZSTD_c_maxBlockSize ≥ ZSTD_BLOCKSIZE_MAX_MIN = 1024;
`blockSize = MIN(maxBlockSize, windowSize)`, windowSize = MAX(1, MIN(1 << windowLog, pledgedSrcSize)) is below 1024 only when
the whole input is), so no reachable corner fails.  In the MODEL a block size below 808 arises only from a pledged size that is
not the input size (`blockSize a` follows `a.pledged`), which the library refuses (srcSize_wrong).
-/
import ZstdVerif.Model.Bound
import ZstdVerif.Lemmas.BlockRT
namespace ZstdVerif.BoundRT
open ZstdVerif ZstdVerif.Gen ZstdVerif.Serialize ZstdVerif.HeaderW ZstdVerif.Bound ZstdVerif.BlockEnc

/-! ### the frame header -/

/-- ZSTD_writeFrameHeader writes at most ZSTD_FRAMEHEADERSIZE_MAX = 18 bytes (magic 4, descriptor 1, window 1, dictID 4, content
size 8) and at least ZSTD_FRAMEHEADERSIZE_MIN = 6 bytes (2 in the magicless format) -/
theorem writeHeader_size_le (a : HArgs) :
    (writeHeader a).length ≤ 18 ∧ (if a.magicless then 2 else 6) ≤ (writeHeader a).length := by
  refine ⟨?_, FrameRT.writeHeader_length_ge a⟩
  unfold writeHeader
  simp only [List.length_append]
  -- field by field, instead of all combinations of the fields' forms
  show _ ≤ 4 + 1 + 1 + 4 + 8
  refine Nat.add_le_add (Nat.add_le_add (Nat.add_le_add (Nat.add_le_add ?_ (Nat.le_refl 1)) ?_) ?_) ?_
  all_goals repeat' split
  all_goals simp only [le2, le4, le8, List.length_append, List.length_cons, List.length_nil]; omega

example : (writeHeader ⟨10, 2 ^ 32, true, 70000, false, true, false⟩).length = 18 := by decide
example : (writeHeader ⟨17, 0, false, 0, false, false, false⟩).length = 6 := by decide

/-! ### how many blocks ZSTD_compress_frameChunk cuts -/

theorem rawBlocksFuel_length (bsz : Nat) (h1 : 1 ≤ bsz) : ∀ (fuel remaining : Nat), remaining ≤ fuel →
    (rawBlocksFuel bsz fuel remaining).length = (remaining + bsz - 1) / bsz := by
  intro fuel
  induction fuel with
  | zero =>
    intro remaining hf
    have : remaining = 0 := by omega
    subst this
    rw [rawBlocksFuel, List.length_nil, Nat.div_eq_of_lt (by omega)]
  | succ k ih =>
    intro remaining hf
    unfold rawBlocksFuel
    by_cases h0 : remaining = 0
    · rw [if_pos h0, h0, List.length_nil, Nat.div_eq_of_lt (by omega)]
    · rw [if_neg h0, List.length_cons]
      by_cases hle : remaining ≤ bsz
      · rw [Nat.min_eq_right hle, Nat.sub_self, ih 0 (Nat.zero_le _), Nat.div_eq_of_lt (by omega)]
        have : (remaining + bsz - 1) / bsz = 1 := by
          rw [Nat.div_eq_iff (by omega)]; omega
        omega
      · have hlt : bsz ≤ remaining := by omega
        rw [Nat.min_eq_left hlt, ih _ (by omega)]
        have : remaining + bsz - 1 = (remaining - bsz + bsz - 1) + bsz := by omega
        rw [this, Nat.add_div_right _ (by omega)]

/-- **number of blocks**: the cutting loop of ZSTD_compress_frameChunk (`blockSize = MIN(blockSizeMax, remaining)` until nothing
remains) makes ⌈n / blockSize⌉ blocks -/
theorem rawBlocks_length (bsz n : Nat) (h1 : 1 ≤ bsz) : (rawBlocks bsz n).length = (n + bsz - 1) / bsz :=
  rawBlocksFuel_length bsz h1 n n (Nat.le_refl _)

theorem serializeBlocks_rawFuel_size (x : ByteArray) (bsz : Nat) (h1 : 1 ≤ bsz) : ∀ (fuel remaining pos : Nat), remaining ≤ fuel →
    pos + remaining = x.size →
    (serializeBlocks x (rawBlocksFuel bsz fuel remaining) pos).size = remaining + 3 * (rawBlocksFuel bsz fuel remaining).length := by
  intro fuel
  induction fuel with
  | zero =>
    intro remaining pos hf _
    have : remaining = 0 := by omega
    subst this
    simp only [rawBlocksFuel, serializeBlocks, ByteArray.size_empty, List.length_nil]
  | succ k ih =>
    intro remaining pos hf hp
    unfold rawBlocksFuel
    by_cases h0 : remaining = 0
    · rw [if_pos h0, h0]; simp only [serializeBlocks, ByteArray.size_empty, List.length_nil]
    · rw [if_neg h0]
      have hm : min bsz remaining ≤ remaining := Nat.min_le_right _ _
      have hm1 : 1 ≤ min bsz remaining := by rw [Nat.le_min]; omega
      have hi := ih (remaining - min bsz remaining) (pos + min bsz remaining) (by omega) (by omega)
      simp only [serializeBlocks, noCompressBlock, ByteArray.size_append, FrameRT.blockHeader24_size, ByteArray.size_extract,
        List.length_cons, hi]
      omega

/-! ### exact size of the all-raw frame -/

/-- **rawFrameWith_size**: the frame that stores every block raw, cut into blocks of `bsz` bytes, has exactly
header + content + 3 bytes per block (one empty block for an empty input) + 4 bytes of checksum when asked for -/
theorem rawFrameWith_size (a : HArgs) (bsz : Nat) (h1 : 1 ≤ bsz) (x : ByteArray) :
    (rawFrameWith a bsz x).size =
      (writeHeader a).length + x.size + 3 * max 1 ((x.size + bsz - 1) / bsz) + (if a.checksum then 4 else 0) := by
  unfold rawFrameWith
  rw [FrameRT.serializeFrame_eq]
  simp only [ByteArray.size_append, FrameRT.size_ofList, FrameRT.checksumBytes_size]
  have hlen := rawBlocks_length bsz x.size h1
  have hsz := serializeBlocks_rawFuel_size x bsz h1 x.size x.size 0 (Nat.le_refl _) (Nat.zero_add _)
  unfold FrameRT.effBlocks
  by_cases h0 : x.size = 0
  · have hnil : rawBlocks bsz x.size = [] := by rw [h0]; rfl
    rw [hnil, h0, Nat.div_eq_of_lt (by omega)]
    simp only [List.isEmpty_nil, if_true, serializeBlocks, noCompressBlock, ByteArray.size_append, FrameRT.blockHeader24_size,
      ByteArray.size_extract, ByteArray.size_empty]
    omega
  · have hk : 1 ≤ (x.size + bsz - 1) / bsz := by
      rw [Nat.le_div_iff_mul_le (by omega)]; omega
    have hne : (rawBlocks bsz x.size).isEmpty = false := by
      cases hl : rawBlocks bsz x.size with
      | nil => rw [hl] at hlen; simp only [List.length_nil] at hlen; omega
      | cons _ _ => rfl
    rw [hne]
    simp only [Bool.false_eq_true, if_false]
    unfold rawBlocks at hlen ⊢
    rw [hsz, hlen, Nat.max_eq_right hk]
    omega

/-- **rawFrame_size**: exact size of the canonical total fallback `Serialize.rawFrame a x` =
|header| + |x| + 3 · max 1 ⌈|x| / blockSize a⌉ + (4 if checksum) -/
theorem rawFrame_size (a : HArgs) (x : ByteArray) :
    (rawFrame a x).size =
      (writeHeader a).length + x.size + 3 * max 1 ((x.size + blockSize a - 1) / blockSize a) + (if a.checksum then 4 else 0) :=
  rawFrameWith_size a (blockSize a) (FrameRT.blockSize_bounds a).1 x

/-! ### the bound -/

/-- the arithmetic core: header ≤ 18, `k` blocks with `(k - 1) · 808 ≤ n` (all blocks but the last hold at least 808 bytes), 4 bytes
of checksum: within ZSTD_COMPRESSBOUND(n) -/
theorem bound_arith (H n k C : Nat) (hH : H ≤ 18) (hC : C ≤ 4) (hk : k ≤ n / 808 + 1) (hn : n < ZSTD_MAX_INPUT_SIZE) :
    H + n + 3 * k + C ≤ compressBound n := by
  unfold compressBound BLK
  rw [if_neg (by omega)]
  unfold ZSTD_MAX_INPUT_SIZE at hn
  split <;> omega

/-- blocks of at least 808 bytes: at most `n / 808 + 1` of them -/
theorem ceil_le_of_le (n b : Nat) (hb : 808 ≤ b) : (n + b - 1) / b ≤ n / 808 + 1 := by
  have h1 : (n + b - 1) / b ≤ n / b + 1 := by
    rw [Nat.div_le_iff_le_mul_add_pred (by omega)]
    have := Nat.div_add_mod n b
    have := Nat.mod_lt n (show b > 0 by omega)
    rw [Nat.mul_add, Nat.mul_one]
    omega
  have h2 : n / b ≤ n / 808 := Nat.div_le_div_left hb (by omega)
  omega

/-- **rawFrameWith_within_bound** (C06, any block size): the all-raw frame of `x` cut into blocks of `bsz` bytes is never larger than
ZSTD_compressBound(|x|), for every header (any window log, dictionary ID, content-size field, checksum) provided the block size is at
least 808 bytes - or the input fits one block.  (The library's smallest block size is 1024: windowLog ≥ 10, ZSTD_c_maxBlockSize ≥ 1024.) -/
theorem rawFrameWith_within_bound (a : HArgs) (bsz : Nat) (h1 : 1 ≤ bsz) (x : ByteArray)
    (hb : 808 ≤ bsz ∨ x.size ≤ bsz) (hx : x.size < ZSTD_MAX_INPUT_SIZE) :
    (rawFrameWith a bsz x).size ≤ compressBound x.size := by
  rw [rawFrameWith_size a bsz h1 x]
  refine bound_arith _ _ _ _ (writeHeader_size_le a).1 (by split <;> omega) ?_ hx
  rcases hb with hb | hb
  · have := ceil_le_of_le x.size bsz hb
    omega
  · have : (x.size + bsz - 1) / bsz ≤ 1 := by
      rw [Nat.div_le_iff_le_mul_add_pred (by omega)]; omega
    omega

/-- the block size of the compressor is at least 808 (in fact 1024) unless the whole input is one block, when the pledged size is
the truth (or no size is pledged) and the window log is in the accepted range -/
theorem blockSize_ok (a : HArgs) (ha : a.wf) (x : ByteArray) (hp : a.contentSizeFlag = true → a.pledged = x.size) :
    1024 ≤ blockSize a ∨ x.size ≤ blockSize a := by
  have hw : 2 ^ 10 ≤ 2 ^ a.windowLog := Nat.pow_le_pow_right (by omega) (by have := ha.1; simpa [ZSTD_WINDOWLOG_ABSOLUTEMIN] using this)
  unfold blockSize
  simp only [ZSTD_BLOCKSIZE_MAX]
  cases hc : a.contentSizeFlag
  · simp only [Bool.false_eq_true, if_false]; omega
  · simp only [if_true, hp hc]; omega

/-- **rawFrame_within_bound** (C06, MAIN): for every accepted parameter tuple `a` (window log 10..31, any dictionary ID, checksum or
not, content size written or not - and truthful when written) and every input below ZSTD_MAX_INPUT_SIZE, the compressor's total
fallback - every block raw, cut as ZSTD_compress_frameChunk cuts with the block size ZSTD_resetCCtx_internal derives from window and
pledged size - is never larger than ZSTD_compressBound(|x|): the bytes `FrameRT.frame_roundtrip_raw` decodes back to `x` always fit
the documented bound, whatever the window / block size. -/
theorem rawFrame_within_bound (a : HArgs) (ha : a.wf) (x : ByteArray) (hp : a.contentSizeFlag = true → a.pledged = x.size)
    (hx : x.size < ZSTD_MAX_INPUT_SIZE) : (rawFrame a x).size ≤ compressBound x.size := by
  refine rawFrameWith_within_bound a (blockSize a) (FrameRT.blockSize_bounds a).1 x ?_ hx
  rcases blockSize_ok a ha x hp with h | h
  · exact Or.inl (by omega)
  · exact Or.inr h

/-- the same without any assumption on the pledged size, in terms of the block size it leads to -/
theorem rawFrame_within_bound_of_blockSize (a : HArgs) (x : ByteArray) (hb : 808 ≤ blockSize a ∨ x.size ≤ blockSize a)
    (hx : x.size < ZSTD_MAX_INPUT_SIZE) : (rawFrame a x).size ≤ compressBound x.size :=
  rawFrameWith_within_bound a (blockSize a) (FrameRT.blockSize_bounds a).1 x hb hx

/-! ### the side conditions are needed -/

/-- 808 is sharp: with blocks of 807 bytes, a maximal header and a checksum, an input of 129121 bytes (161 blocks) exceeds the bound
by one byte.  (Not reachable in the library: block sizes below 1024 occur only for single-block inputs.) -/
theorem bound_fails_below_808 (x : ByteArray) (hx : x.size = 129121) :
    compressBound x.size < (rawFrameWith ⟨10, 2 ^ 32, true, 70000, false, true, false⟩ 807 x).size := by
  rw [rawFrameWith_size _ 807 (by omega) x, hx]
  decide

/-- a pledged size that is not the input size (refused by the library: srcSize_wrong) makes the MODEL's block size follow the lie:
pledged 1 → one block per byte → 4 bytes per byte of content -/
theorem bound_fails_lying_pledge (x : ByteArray) (hx : x.size = 1000) :
    compressBound x.size < (rawFrame ⟨10, 1, true, 0, false, false, false⟩ x).size := by
  rw [rawFrame_size, hx]
  decide

/-! ### frames with RLE and compressed blocks -/

/-- no block is stored larger than a raw block of its content: RLE blocks stand for at least one byte, and the body of a compressed
block is smaller than its content (`cSize < srcSize`; ZSTD_compressBlock_internal / ZSTD_isRLE guarantee it by emitting the block raw
otherwise: `if (cSize == 0 …) cSize = ZSTD_noCompressBlock(…)`, with `cSize = 0` when `maxCSize = srcSize - minGain` is reached).
`prev` = the resolved table decisions of the last block with sequences, threaded by `BlockEnc.nextTables` as `serializeBlocks2`
threads it: the body of a block that describes its tables (`set_compressed`) counts the description, one that repeats them does not;
`hp` = the Huffman table of the last block that wrote one, threaded by `BlockEnc.nextHuf` (looked at by treeless literals only). -/
def Shrinks (bs : List BlockChoice2) (rep : Rep.R) (prev : Option Tables := none) (hp : Option HufTab := none) : Prop :=
  match bs with
  | [] => True
  | .raw _ :: rest => Shrinks rest rep prev hp
  | .rle _ n :: rest => 1 ≤ n ∧ Shrinks rest rep prev hp
  | .compressed c t lits raws :: rest =>
    (serializeBlockBody c lits t (storeAll rep raws).1 (prev.getD {}) hp).size < parseLen lits raws ∧
      Shrinks rest (storeAll rep raws).2 (nextTables prev t (storeAll rep raws).1) (nextHuf hp c lits)

/-- content bytes a block list stands for -/
def contentLen (bs : List BlockChoice2) : Nat := (bs.map BlockChoice2.len).sum

theorem serializeBlocks2_size_le (x : ByteArray) : ∀ (bs : List BlockChoice2) (pos : Nat) (rep : Rep.R) (prev : Option Tables)
    (hp : Option HufTab),
    Shrinks bs rep prev hp → (serializeBlocks2 x bs pos rep prev hp).size ≤ 3 * bs.length + contentLen bs := by
  intro bs
  induction bs with
  | nil => intro _ _ _ _ _; simp [serializeBlocks2, contentLen]
  | cons c rest ih =>
    intro pos rep prev hp hs
    cases c with
    | raw n =>
      have := ih (pos + n) rep prev hp hs
      simp only [serializeBlocks2, noCompressBlock, ByteArray.size_append, FrameRT.blockHeader24_size, ByteArray.size_extract,
        List.length_cons, contentLen, List.map_cons, List.sum_cons, BlockChoice2.len] at this ⊢
      omega
    | rle b n =>
      have := ih (pos + n) rep prev hp hs.2
      have h1 := hs.1
      have hos : (ofList [b]).size = 1 := rfl
      simp only [serializeBlocks2, rleCompressBlock, ByteArray.size_append, FrameRT.blockHeader24_size, hos,
        List.length_cons, contentLen, List.map_cons, List.sum_cons, BlockChoice2.len] at this ⊢
      omega
    | compressed c t lits raws =>
      have := ih (pos + parseLen lits raws) _ _ _ hs.2
      have h1 := hs.1
      simp only [serializeBlocks2, compressedBlock, ByteArray.size_append, FrameRT.blockHeader24_size,
        List.length_cons, contentLen, List.map_cons, List.sum_cons, BlockChoice2.len] at this ⊢
      omega

/-- **serializeFrame2_size_le**: a frame of raw / RLE / compressed blocks in which no block is stored larger than raw is at most
header + content + 3 per block (one block for an empty list) + checksum -/
theorem serializeFrame2_size_le (a : HArgs) (bs : List BlockChoice2) (x : ByteArray) (hs : Shrinks bs repStart) :
    (serializeFrame2 a bs x).size ≤
      (writeHeader a).length + contentLen bs + 3 * max 1 bs.length + (if a.checksum then 4 else 0) := by
  unfold serializeFrame2 epilogue
  have := serializeBlocks2_size_le x bs 0 repStart none none hs
  have hck : (if a.checksum = true then ofList (le4 ((XXH64.hashRange x 0 x.size).toNat &&& 0xFFFFFFFF)) else ByteArray.empty).size =
      if a.checksum then 4 else 0 := by
    cases a.checksum <;> rfl
  simp only [ByteArray.size_append, FrameRT.size_ofList, hck]
  cases bs with
  | nil =>
    simp only [List.isEmpty_nil, if_true, FrameRT.blockHeader24_size, serializeBlocks2, ByteArray.size_empty, List.length_nil]
    omega
  | cons c rest =>
    simp only [List.isEmpty_cons, Bool.false_eq_true, if_false, ByteArray.size_empty, List.length_cons] at this ⊢
    omega

/-- all blocks but the last stand for at least `bsz` bytes (ZSTD_compress_frameChunk: every block but the last is a full block) -/
def FullBlocks (bsz : Nat) : List BlockChoice2 → Prop
  | [] => True
  | [_] => True
  | c :: d :: rest => bsz ≤ c.len ∧ FullBlocks bsz (d :: rest)

theorem fullBlocks_count (bsz : Nat) : ∀ bs : List BlockChoice2, FullBlocks bsz bs → (bs.length - 1) * bsz ≤ contentLen bs := by
  intro bs
  induction bs with
  | nil => intro _; simp [contentLen]
  | cons c rest ih =>
    intro h
    cases rest with
    | nil => simp [contentLen]
    | cons d rest2 =>
      have := ih h.2
      have h1 := h.1
      simp only [List.length_cons, contentLen, List.map_cons, List.sum_cons, Nat.add_sub_cancel] at this ⊢
      rw [Nat.add_mul, Nat.one_mul]
      omega

/-- **serialized_within_bound** (C06): a frame of raw / RLE / compressed blocks (`BlockEnc.serializeFrame2`, the bytes
`BlockRT.frame_roundtrip_compressed` decodes) fits ZSTD_compressBound(|x|) whenever the blocks stand for the `|x|` bytes of the input,
no block is stored larger than raw (`Shrinks`: what ZSTD_compressBlock_internal guarantees by falling back to ZSTD_noCompressBlock),
and every block but the last stands for at least `bsz ≥ 808` bytes (the library: full blocks of at least 1024 bytes) -/
theorem serialized_within_bound (a : HArgs) (bs : List BlockChoice2) (x : ByteArray) (bsz : Nat) (hb : 808 ≤ bsz)
    (hsum : contentLen bs = x.size) (hs : Shrinks bs repStart) (hfull : FullBlocks bsz bs) (hx : x.size < ZSTD_MAX_INPUT_SIZE) :
    (serializeFrame2 a bs x).size ≤ compressBound x.size := by
  refine Nat.le_trans (serializeFrame2_size_le a bs x hs) ?_
  rw [hsum]
  refine bound_arith _ _ _ _ (writeHeader_size_le a).1 (by split <;> omega) ?_ hx
  have h1 := fullBlocks_count bsz bs hfull
  rw [hsum] at h1
  have h2 : (bs.length - 1) * 808 ≤ (bs.length - 1) * bsz := Nat.mul_le_mul_left _ hb
  have h3 : bs.length - 1 ≤ x.size / 808 := by
    rw [Nat.le_div_iff_mul_le (by omega)]; omega
  omega

/-- the tiling hypothesis of the round-trip theorems gives `contentLen bs = |x|` -/
theorem contentLen_of_tiles2 (dc : ByteArray) (bsm : Nat) (x : ByteArray) : ∀ (bs : List BlockChoice2) (pos : Nat) (rep : Rep.R)
    (prev : Option Tables), BlockRT.Tiles2 dc bsm x bs pos rep prev → pos + contentLen bs = x.size := by
  intro bs
  induction bs with
  | nil =>
    intro pos rep prev h
    have h2 : pos = x.size := by simpa only [BlockRT.Tiles2] using h
    simp only [contentLen, List.map_nil, List.sum_nil]; omega
  | cons c rest ih =>
    intro pos rep prev h
    cases c with
    | raw n =>
      obtain ⟨-, -, h⟩ := h
      have := ih _ _ _ h
      simp only [contentLen, List.map_cons, List.sum_cons, BlockChoice2.len] at this ⊢; omega
    | rle b n =>
      obtain ⟨-, -, -, h⟩ := h
      have := ih _ _ _ h
      simp only [contentLen, List.map_cons, List.sum_cons, BlockChoice2.len] at this ⊢; omega
    | compressed c t lits raws =>
      obtain ⟨-, -, -, -, -, -, -, -, -, h⟩ := h
      have := ih _ _ _ h
      simp only [contentLen, List.map_cons, List.sum_cons, BlockChoice2.len] at this ⊢; omega

/-- the bound under the hypotheses of the round trip: a frame that `BlockRT.frame_roundtrip_compressed` decodes to `x` (`FrameOK2`) and
whose blocks shrink and are full but the last fits ZSTD_compressBound(|x|) -/
theorem serialized_within_bound_of_frameOK2 (dc : ByteArray) (a : HArgs) (bs : List BlockChoice2) (x : ByteArray) (bsz : Nat)
    (hb : 808 ≤ bsz) (hok : BlockRT.FrameOK2 dc a bs x) (hs : Shrinks bs repStart) (hfull : FullBlocks bsz bs)
    (hx : x.size < ZSTD_MAX_INPUT_SIZE) : (serializeFrame2 a bs x).size ≤ compressBound x.size := by
  have := contentLen_of_tiles2 dc _ x bs 0 repStart none hok.2.2.2.2
  exact serialized_within_bound a bs x bsz hb (by omega) hs hfull hx

/-- non-vacuity: the demo frame of Lemmas/BlockRT.lean (a raw block and a compressed block with 11 body bytes for 13 content bytes) -/
example : Shrinks BlockRT.demoBlocks repStart ∧ contentLen BlockRT.demoBlocks = BlockRT.demoX.size := by
  simp only [BlockRT.demoBlocks, Shrinks, BlockRT.demo_body]
  decide

end ZstdVerif.BoundRT
