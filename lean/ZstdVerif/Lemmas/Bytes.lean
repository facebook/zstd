/-
Reading bytes: `u8` and the little-endian readers `le16` .. `le64` of Model/Bytes on a pushed byte, a concatenation, a slice and an
array given by a list; the little-endian value `toNatLE` of a run of bytes.
`ByteArray.le24/le32/le64` are opened with `unfold`, never with `rw` / `simp only`: realising their equation lemmas evaluates the
shifts in unary and does not come back.
-/
import ZstdVerif.Model.Bytes

namespace ZstdVerif

theorem and3 (x : Nat) : x &&& 3 = x % 4 := Nat.and_two_pow_sub_one_eq_mod x 2

end ZstdVerif

namespace ByteArray
open ZstdVerif

theorem u8_lt (b : ByteArray) (i : Nat) : b.u8 i < 256 := by
  unfold ByteArray.u8
  split
  · exact UInt8.toNat_lt _
  · decide

theorem u8_of_lt (b : ByteArray) (i : Nat) (h : i < b.size) : b.u8 i = (b[i]'h).toNat := by
  unfold ByteArray.u8; rw [dif_pos h]

theorem u8_of_ge (b : ByteArray) (i : Nat) (h : b.size ≤ i) : b.u8 i = 0 := by
  unfold ByteArray.u8; rw [dif_neg (by omega)]

theorem u8_push_lt (b : ByteArray) (x : UInt8) (i : Nat) (h : i < b.size) : (b.push x).u8 i = b.u8 i := by
  have h' : i < (b.push x).size := by rw [ByteArray.size_push]; omega
  rw [u8_of_lt _ _ h', u8_of_lt _ _ h]
  congr 1
  simp only [ByteArray.getElem_eq_getElem_data, ByteArray.data_push]
  exact Array.getElem_push_lt h

theorem u8_push_eq (b : ByteArray) (x : UInt8) : (b.push x).u8 b.size = x.toNat := by
  have h' : b.size < (b.push x).size := by rw [ByteArray.size_push]; omega
  rw [u8_of_lt _ _ h']
  congr 1
  simp only [ByteArray.getElem_eq_getElem_data, ByteArray.data_push]
  exact Array.getElem_push_eq

theorem ext_u8 (a b : ByteArray) (hs : a.size = b.size) (h : ∀ i, i < a.size → a.u8 i = b.u8 i) : a = b := by
  apply ByteArray.ext_getElem hs
  intro i hi hi'
  have := h i hi
  rw [u8_of_lt _ _ hi, u8_of_lt _ _ hi'] at this
  exact UInt8.toNat_inj.mp this

/-- a byte of a slice; beyond the end of `src` both sides read 0 -/
theorem u8_extract (src : ByteArray) (s e i : Nat) (h : s + i < e) : (src.extract s e).u8 i = src.u8 (s + i) := by
  by_cases h2 : s + i < src.size
  · have hi : i < (src.extract s e).size := by rw [ByteArray.size_extract]; omega
    rw [u8_of_lt _ _ hi, u8_of_lt _ _ h2, ByteArray.getElem_extract]
  · rw [u8_of_ge _ _ (by rw [ByteArray.size_extract]; omega), u8_of_ge _ _ (by omega)]

theorem u8_append_left (a b : ByteArray) (i : Nat) (h : i < a.size) : (a ++ b).u8 i = a.u8 i := by
  rw [u8_of_lt _ _ (by rw [ByteArray.size_append]; omega), u8_of_lt _ _ h, ByteArray.getElem_append_left h]

theorem u8_append_right (a b : ByteArray) (i : Nat) : (a ++ b).u8 (a.size + i) = b.u8 i := by
  by_cases h : i < b.size
  · rw [u8_of_lt _ _ (by rw [ByteArray.size_append]; omega), u8_of_lt _ _ h, ByteArray.getElem_append_right (by omega)]
    congr 2; omega
  · rw [u8_of_ge _ _ (by rw [ByteArray.size_append]; omega), u8_of_ge _ _ (by omega)]

theorem le16_append_right (a b : ByteArray) (i : Nat) : (a ++ b).le16 (a.size + i) = b.le16 i := by
  unfold ByteArray.le16
  simp only [Nat.add_assoc, u8_append_right]

theorem le24_append_right (a b : ByteArray) (i : Nat) : (a ++ b).le24 (a.size + i) = b.le24 i := by
  unfold ByteArray.le24
  simp only [Nat.add_assoc, u8_append_right]

theorem le32_append_right (a b : ByteArray) (i : Nat) : (a ++ b).le32 (a.size + i) = b.le32 i := by
  unfold ByteArray.le32
  simp only [Nat.add_assoc, u8_append_right]

theorem le64_append_right (a b : ByteArray) (i : Nat) : (a ++ b).le64 (a.size + i) = b.le64 i := by
  unfold ByteArray.le64
  simp only [Nat.add_assoc, le32_append_right]

theorem le32_eq_le24 (b : ByteArray) (i : Nat) : b.le32 i = b.le24 i + b.u8 (i + 3) * 2 ^ 24 := by
  unfold ByteArray.le32 ByteArray.le24; rw [Nat.shiftLeft_eq (b.u8 (i + 3))]

theorem le32_lt (b : ByteArray) (i : Nat) : b.le32 i < 2 ^ 32 := by
  unfold ByteArray.le32
  have h0 := u8_lt b i; have h1 := u8_lt b (i + 1); have h2 := u8_lt b (i + 2); have h3 := u8_lt b (i + 3)
  rw [Nat.shiftLeft_eq, Nat.shiftLeft_eq, Nat.shiftLeft_eq]
  generalize b.u8 i = a0 at *; generalize b.u8 (i + 1) = a1 at *; generalize b.u8 (i + 2) = a2 at *; generalize b.u8 (i + 3) = a3 at *
  omega

theorem u8_eq_toList (b : ByteArray) (i : Nat) : b.u8 i = (b.data.toList[i]?.map UInt8.toNat).getD 0 := by
  unfold ByteArray.u8
  split
  · next h =>
    have h2 : i < b.data.toList.length := by rw [Array.length_toList]; exact h
    rw [List.getElem?_eq_getElem h2]
    simp [ByteArray.getElem_eq_getElem_data]
  · next h =>
    have h2 : b.data.toList.length ≤ i := by rw [Array.length_toList]; exact Nat.le_of_not_lt h
    rw [List.getElem?_eq_none h2]; rfl

theorem size_mk (l : List UInt8) : (ByteArray.mk l.toArray).size = l.length := by
  simp [ByteArray.size]

theorem u8_mk (l : List UInt8) (i : Nat) : (ByteArray.mk l.toArray).u8 i = (l[i]?.map UInt8.toNat).getD 0 :=
  u8_eq_toList _ i

theorem u8_mk_append (A B : List UInt8) (i : Nat) :
    (ByteArray.mk (A ++ B).toArray).u8 (A.length + i) = (ByteArray.mk B.toArray).u8 i := by
  rw [u8_mk, u8_mk, List.getElem?_append_right (Nat.le_add_right _ _), Nat.add_sub_cancel_left]

theorem le16_mk_append (A B : List UInt8) (i : Nat) :
    (ByteArray.mk (A ++ B).toArray).le16 (A.length + i) = (ByteArray.mk B.toArray).le16 i := by
  unfold ByteArray.le16
  simp only [Nat.add_assoc, u8_mk_append]

theorem le32_mk_append (A B : List UInt8) (i : Nat) :
    (ByteArray.mk (A ++ B).toArray).le32 (A.length + i) = (ByteArray.mk B.toArray).le32 i := by
  unfold ByteArray.le32
  simp only [Nat.add_assoc, u8_mk_append]

/-- little-endian value of the `cnt` bytes starting at index `frm` (bytes beyond the array count as 0, like `u8`) -/
def toNatLE (b : ByteArray) (frm : Nat) : Nat → Nat
  | 0 => 0
  | cnt + 1 => b.u8 frm + 256 * toNatLE b (frm + 1) cnt

theorem toNatLE_lt (b : ByteArray) (frm cnt : Nat) : toNatLE b frm cnt < 2 ^ (8 * cnt) := by
  induction cnt generalizing frm with
  | zero => simp [toNatLE]
  | succ c ih =>
    have h1 := u8_lt b frm
    have h2 := ih (frm + 1)
    have e : 2 ^ (8 * (c + 1)) = 256 * 2 ^ (8 * c) := by
      rw [Nat.mul_add, Nat.pow_add, Nat.mul_comm]
    rw [toNatLE, e]
    omega

theorem toNatLE_add (b : ByteArray) (frm a c : Nat) :
    toNatLE b frm (a + c) = toNatLE b frm a + 2 ^ (8 * a) * toNatLE b (frm + a) c := by
  induction a generalizing frm with
  | zero => simp [toNatLE]
  | succ a ih =>
    have e : 2 ^ (8 * (a + 1)) = 256 * 2 ^ (8 * a) := by
      rw [Nat.mul_add, Nat.pow_add, Nat.mul_comm]
    have e2 : a + 1 + c = (a + c) + 1 := by omega
    have e3 : frm + (a + 1) = frm + 1 + a := by omega
    rw [e2, toNatLE, toNatLE, ih (frm + 1), e, e3, Nat.mul_add, Nat.mul_assoc]
    omega

theorem toNatLE_window (b : ByteArray) (frm len k m : Nat) (h : k + m ≤ len) :
    toNatLE b frm len / 2 ^ (8 * k) % 2 ^ (8 * m) = toNatLE b (frm + k) m := by
  obtain ⟨r, rfl⟩ : ∃ r, len = k + (m + r) := ⟨len - k - m, by omega⟩
  rw [toNatLE_add b frm k, toNatLE_add b (frm + k) m]
  have hk := toNatLE_lt b frm k
  have hm := toNatLE_lt b (frm + k) m
  rw [Nat.add_mul_div_left _ _ (Nat.two_pow_pos _), Nat.div_eq_of_lt hk, Nat.zero_add,
    Nat.add_mul_mod_self_left, Nat.mod_eq_of_lt hm]

theorem le32_eq_toNatLE (b : ByteArray) (k : Nat) : b.le32 k = toNatLE b k 4 := by
  unfold le32
  rw [toNatLE, toNatLE, toNatLE, toNatLE, toNatLE, Nat.shiftLeft_eq, Nat.shiftLeft_eq, Nat.shiftLeft_eq]
  generalize b.u8 k = a0
  generalize b.u8 (k + 1) = a1
  generalize b.u8 (k + 1 + 1) = a2
  generalize b.u8 (k + 1 + 1 + 1) = a3
  omega

/-- MEM_readLE64 (mem.h) as modelled by `le64` is the little-endian value of eight bytes -/
theorem le64_eq_toNatLE (b : ByteArray) (k : Nat) : b.le64 k = toNatLE b k 8 := by
  unfold le64
  rw [le32_eq_toNatLE, le32_eq_toNatLE, show (8 : Nat) = 4 + 4 from rfl, toNatLE_add, Nat.shiftLeft_eq, Nat.mul_comm]

theorem toNatLE_congr (a b : ByteArray) (f g cnt : Nat) (h : ∀ i, i < cnt → a.u8 (f + i) = b.u8 (g + i)) :
    toNatLE a f cnt = toNatLE b g cnt := by
  induction cnt generalizing f g with
  | zero => rfl
  | succ c ih =>
    rw [toNatLE, toNatLE, ih (f + 1) (g + 1) (fun i hi => by
      have := h (i + 1) (by omega)
      rwa [show f + 1 + i = f + (i + 1) by omega, show g + 1 + i = g + (i + 1) by omega])]
    have := h 0 (by omega)
    rw [Nat.add_zero, Nat.add_zero] at this
    rw [this]

end ByteArray
