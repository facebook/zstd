/-
What C02 / C10 demand of EVERY call history of the streaming compressor, proved of the deterministic model of
`ZSTD_compressStream2` (Model/CStream.lean; tied call by call to the real code by tools/ent_cstream.py).
A turn of the loop is made of three kinds of moves, each recorded by a ghost event (take input, compress a chunk, emit output):
`Delta` says what moves do to the ghost totals and the event list, `LInv` is the invariant of the buffer machine, and the stage
functions are followed from the innermost (`stFlush`) outwards (`Tail`, `Turn`, `mu`, `loop_ok`).  What Props/C02 and Props/C10
take from this file is read off `step_spec` (a call is: enter, run the loop to a stop, report) or, for histories, off `run_ranges`.
`chunkOk` (in `Delta`) and `Flag` (in `Tail` / `Turn`) are carried along only for `chunks_le_blockSize` and `frameEnded_eq_lastFlag`.
-/
import ZstdVerif.Model.CStream
import ZstdVerif.Lemmas.ExceptLoop
namespace ZstdVerif.CStream

/-- positions (in the chunk-output stream) of the bytes written to the caller's output, in order -/
def emitted : List Event → List Nat
  | [] => []
  | .emit pos len :: es => List.range' pos len ++ emitted es
  | _ :: es => emitted es

/-- positions (in the chunk-output stream) of the bytes the chunk compressor produced, in order -/
def chunkOut : List Event → List Nat
  | [] => []
  | .chunk _ _ _ outAt cSize _ _ :: es => List.range' outAt cSize ++ chunkOut es
  | _ :: es => chunkOut es

/-- positions (in the input) of the bytes the chunk compressor was given, in order -/
def chunkSrc : List Event → List Nat
  | [] => []
  | .chunk _ srcAt srcSize _ _ _ _ :: es => List.range' srcAt srcSize ++ chunkSrc es
  | _ :: es => chunkSrc es

theorem emitted_append (a b : List Event) : emitted (a ++ b) = emitted a ++ emitted b := by
  induction a with
  | nil => rfl
  | cons e es ih => cases e <;> simp [emitted, ih]

theorem chunkOut_append (a b : List Event) : chunkOut (a ++ b) = chunkOut a ++ chunkOut b := by
  induction a with
  | nil => rfl
  | cons e es ih => cases e <;> simp [chunkOut, ih]

theorem chunkSrc_append (a b : List Event) : chunkSrc (a ++ b) = chunkSrc a ++ chunkSrc b := by
  induction a with
  | nil => rfl
  | cons e es ih => cases e <;> simp [chunkSrc, ih]

theorem range_glue {a n b m k : Nat} (hb : b = a + n) (hk : k = n + m) : List.range' a n ++ List.range' b m = List.range' a k := by
  subst hb hk; rw [List.range'_append_1]

theorem range_stretch {x y z : Nat} (h1 : x ≤ y) (h2 : y ≤ z) :
    List.range' x (y - x) ++ List.range' y (z - y) = List.range' x (z - x) :=
  range_glue (Nat.add_sub_of_le h1).symm (by rw [Nat.add_comm, Nat.sub_add_sub_cancel h2 h1])

/-- a chunk taken from `inBuff` is at most `B` bytes long, and not empty unless it is the last chunk of the frame -/
def chunkOk (B : Nat) : Event → Prop
  | .chunk _ _ srcSize _ _ last true => srcSize ≤ B ∧ (last = false → 0 < srcSize)
  | _ => True

theorem ok_snoc {B : Nat} {es : List Event} {e : Event} (h : chunkOk B e) (h0 : ∀ e ∈ es, chunkOk B e) :
    ∀ e' ∈ es ++ [e], chunkOk B e' := by
  intro e' he
  rcases List.mem_append.1 he with he | he
  · exact h0 e' he
  · rw [List.mem_singleton.1 he]; exact h

/-- holds between calls (with `l = {}`) and at every turn of the loop.  `inSize` is the input of the call under way, `B` the bound
on the distance `inBuffTarget - inToCompress` (the block size, plus one in a frame whose pledged size equals the block size). -/
structure LInv (inSize B : Nat) (s : State) (l : Loc) : Prop where
  blk : s.streamStage ≠ .init → 0 < s.blockSize
  blkB : s.streamStage ≠ .init → s.blockSize ≤ B
  pos_lt : s.streamStage ≠ .init → s.inBuffPos < s.inBuffTarget
  bnd : s.streamStage ≠ .init → s.inBuffTarget ≤ s.inToCompress + B
  toC_le : s.inToCompress ≤ s.inBuffPos
  fl_le : s.outBuffFlushedSize ≤ s.outBuffContentSize
  /-- stage flush: `outBuff` holds the chunk-output bytes `[outBase, outDone)`, of which `[outBase, outBase+flushed)` are out -/
  out_flush : s.streamStage = .flush →
    s.outBase + s.outBuffFlushedSize = s.totalOut + l.op ∧ s.outBase + s.outBuffContentSize = s.outDone
  /-- otherwise `outBuff` is empty and every chunk-output byte has been written to the caller -/
  out_load : s.streamStage ≠ .flush → s.outBuffContentSize = 0 ∧ s.outBuffFlushedSize = 0 ∧ s.totalOut + l.op = s.outDone
  /-- the input taken from the caller = what the chunk compressor has been given + the section of `inBuff` waiting -/
  in_acct : s.srcDone + (s.inBuffPos - s.inToCompress) = s.totalIn + l.ip
  in_base : s.inToCompress < s.inBuffPos → s.inBase = s.srcDone
  fl_empty : s.streamStage = .flush → s.inBuffPos = s.inToCompress
  init_empty : s.streamStage = .init → s.inBuffPos = s.inToCompress
  ip_le : l.ip ≤ inSize

/-- what a turn of the loop (or a whole call) does to the ghost totals and to the event list -/
structure Delta (B : Nat) (s : State) (l : Loc) (s1 : State) (l1 : Loc) : Prop where
  ip_mono : l.ip ≤ l1.ip
  op_mono : l.op ≤ l1.op
  tin : s1.totalIn = s.totalIn
  tout : s1.totalOut = s.totalOut
  out_mono : s.outDone ≤ s1.outDone
  src_mono : s.srcDone ≤ s1.srcDone
  ev_emit : emitted l1.events = emitted l.events ++ List.range' (s.totalOut + l.op) (l1.op - l.op)
  ev_out : chunkOut l1.events = chunkOut l.events ++ List.range' s.outDone (s1.outDone - s.outDone)
  ev_src : chunkSrc l1.events = chunkSrc l.events ++ List.range' s.srcDone (s1.srcDone - s.srcDone)
  ev_ok : (∀ e ∈ l.events, chunkOk B e) → ∀ e ∈ l1.events, chunkOk B e
  blk_same : s1.blockSize = s.blockSize
  pl_same : s1.streamStage ≠ .init → s1.pledgedSrcSizePlusOne = s.pledgedSrcSizePlusOne
  stage_init : s.streamStage = .init → s1.streamStage = .init

theorem Delta.refl (B : Nat) (s : State) (l : Loc) : Delta B s l s l := by
  constructor <;> simp

section turn
variable {co : Nat → Nat} {inSize B outSize pend : Nat} {flushMode : EndOp} {last : Bool} {s s1 S : State} {l l1 L : Loc} {o : Out}

theorem Delta.trans {s2 : State} {l2 : Loc} (a : Delta B s l s1 l1) (b : Delta B s1 l1 s2 l2) : Delta B s l s2 l2 where
  ip_mono := Nat.le_trans a.ip_mono b.ip_mono
  op_mono := Nat.le_trans a.op_mono b.op_mono
  tin := b.tin.trans a.tin
  tout := b.tout.trans a.tout
  out_mono := Nat.le_trans a.out_mono b.out_mono
  src_mono := Nat.le_trans a.src_mono b.src_mono
  ev_emit := by
    rw [b.ev_emit, a.ev_emit, List.append_assoc, a.tout, ← Nat.add_sub_add_left s.totalOut l1.op l.op,
      ← Nat.add_sub_add_left s.totalOut l2.op l1.op, ← Nat.add_sub_add_left s.totalOut l2.op l.op,
      range_stretch (Nat.add_le_add_left a.op_mono _) (Nat.add_le_add_left b.op_mono _)]
  ev_out := by rw [b.ev_out, a.ev_out, List.append_assoc, range_stretch a.out_mono b.out_mono]
  ev_src := by rw [b.ev_src, a.ev_src, List.append_assoc, range_stretch a.src_mono b.src_mono]
  ev_ok := fun hh => b.ev_ok (a.ev_ok hh)
  blk_same := b.blk_same.trans a.blk_same
  pl_same := fun hh => (b.pl_same hh).trans (a.pl_same fun h1 => hh (b.stage_init h1))
  stage_init := fun hh => b.stage_init (a.stage_init hh)

/-- `s1` is in the frame of `s` (or back in stage init) and has reported the same totals to the caller: what every move keeps.
In the lemmas about moves the hypotheses that hold by computation, the new state being the old one with some fields changed, are
left to `rfl`. -/
structure Same (s s1 : State) : Prop where
  tin : s1.totalIn = s.totalIn
  tout : s1.totalOut = s.totalOut
  blk : s1.blockSize = s.blockSize
  pl : s1.streamStage ≠ .init → s1.pledgedSrcSizePlusOne = s.pledgedSrcSizePlusOne
  st : s.streamStage = .init → s1.streamStage = .init

theorem Same.frame (hne : s.streamStage ≠ .init) (tin : s1.totalIn = s.totalIn := by rfl)
    (tout : s1.totalOut = s.totalOut := by rfl) (blk : s1.blockSize = s.blockSize := by rfl)
    (pl : s1.pledgedSrcSizePlusOne = s.pledgedSrcSizePlusOne := by rfl) : Same s s1 :=
  ⟨tin, tout, blk, fun _ => pl, fun hh => absurd hh hne⟩

theorem Same.reset (hst : s1.streamStage = .init := by rfl) (tin : s1.totalIn = s.totalIn := by rfl)
    (tout : s1.totalOut = s.totalOut := by rfl) (blk : s1.blockSize = s.blockSize := by rfl) : Same s s1 :=
  ⟨tin, tout, blk, fun hh => absurd hst hh, fun _ => hst⟩

theorem Delta.emit {p n : Nat} (hs : Same s s1) (hp : p = s.totalOut + l.op)
    (hev : l1.events = l.events ++ [.emit p n] := by rfl) (hop : l1.op = l.op + n := by rfl) (hip : l1.ip = l.ip := by rfl)
    (hout : s1.outDone = s.outDone := by rfl) (hsrc : s1.srcDone = s.srcDone := by rfl) : Delta B s l s1 l1 := by
  refine ⟨Nat.le_of_eq hip.symm, hop ▸ Nat.le_add_right _ _, hs.tin, hs.tout, Nat.le_of_eq hout.symm, Nat.le_of_eq hsrc.symm,
    ?_, ?_, ?_, ?_, hs.blk, hs.pl, hs.st⟩
  · rw [hev, emitted_append, hp, hop, Nat.add_sub_cancel_left]; simp [emitted]
  · rw [hev, chunkOut_append, hout, Nat.sub_self]; simp [chunkOut]
  · rw [hev, chunkSrc_append, hsrc, Nat.sub_self]; simp [chunkSrc]
  · rw [hev]; exact ok_snoc trivial

theorem Delta.take {p n : Nat} (hs : Same s s1) (hip : l.ip ≤ l1.ip) (hev : l1.events = l.events ++ [.take p n] := by rfl)
    (hop : l1.op = l.op := by rfl) (hout : s1.outDone = s.outDone := by rfl) (hsrc : s1.srcDone = s.srcDone := by rfl) :
    Delta B s l s1 l1 := by
  refine ⟨hip, Nat.le_of_eq hop.symm, hs.tin, hs.tout, Nat.le_of_eq hout.symm, Nat.le_of_eq hsrc.symm, ?_, ?_, ?_, ?_, hs.blk,
    hs.pl, hs.st⟩
  · rw [hev, emitted_append, hop, Nat.sub_self]; simp [emitted]
  · rw [hev, chunkOut_append, hout, Nat.sub_self]; simp [chunkOut]
  · rw [hev, chunkSrc_append, hsrc, Nat.sub_self]; simp [chunkSrc]
  · rw [hev]; exact ok_snoc trivial

/-- a chunk is compressed: `n` bytes from position `a` of the input (which is where the chunk compressor stands, unless the chunk
is empty) become `c` bytes of the chunk-output stream -/
theorem Delta.chunk {i a n c : Nat} {b : Bool} (hs : Same s s1) (ha : n = 0 ∨ a = s.srcDone)
    (hok : chunkOk B (.chunk i a n s.outDone c last b)) (hip : l.ip ≤ l1.ip)
    (hev : l1.events = l.events ++ [.chunk i a n s.outDone c last b] := by rfl) (hop : l1.op = l.op := by rfl)
    (hsrc : s1.srcDone = s.srcDone + n := by rfl) (hout : s1.outDone = s.outDone + c := by rfl) : Delta B s l s1 l1 := by
  refine ⟨hip, Nat.le_of_eq hop.symm, hs.tin, hs.tout, hout ▸ Nat.le_add_right _ _, hsrc ▸ Nat.le_add_right _ _, ?_, ?_, ?_, ?_,
    hs.blk, hs.pl, hs.st⟩
  · rw [hev, emitted_append, hop, Nat.sub_self]; simp [emitted]
  · rw [hev, chunkOut_append, hout, Nat.add_sub_cancel_left]; simp [chunkOut]
  · rw [hev, chunkSrc_append, hsrc, Nat.add_sub_cancel_left]
    rcases ha with ha | ha <;> simp [chunkSrc, ha]
  · rw [hev]; exact ok_snoc hok

theorem Delta.chunk_emit {i a n c : Nat} {b : Bool} (hs : Same s s1) (ha : n = 0 ∨ a = s.srcDone)
    (hok : chunkOk B (.chunk i a n s.outDone c last b)) (hp : s.outDone = s.totalOut + l.op) (hip : l.ip ≤ l1.ip)
    (hev : l1.events = l.events ++ [.chunk i a n s.outDone c last b, .emit s.outDone c] := by rfl)
    (hop : l1.op = l.op + c := by rfl) (hsrc : s1.srcDone = s.srcDone + n := by rfl) (hout : s1.outDone = s.outDone + c := by rfl) :
    Delta B s l s1 l1 :=
  (Delta.chunk (l1 := { l1 with op := l.op, events := l.events ++ [.chunk i a n s.outDone c last b] }) hs ha hok hip rfl rfl hsrc
    hout).trans
    (.emit ⟨rfl, rfl, rfl, fun _ => rfl, id⟩ (hs.tout ▸ hp) (hev.trans (List.append_assoc _ [_] [_]).symm) hop)

def Frame (B : Nat) (s : State) : Prop :=
  0 < s.blockSize ∧ s.blockSize ≤ B ∧ s.inBuffPos < s.inBuffTarget ∧ s.inBuffTarget ≤ s.inToCompress + B

theorem LInv.frame (h : LInv inSize B s l) (hne : s.streamStage ≠ .init) : Frame B s :=
  ⟨h.blk hne, h.blkB hne, h.pos_lt hne, h.bnd hne⟩

theorem LInv.of_init (hst : s.streamStage = .init) (he : s.inBuffPos = s.inToCompress)
    (ho : s.outBuffContentSize = 0 ∧ s.outBuffFlushedSize = 0 ∧ s.totalOut + l.op = s.outDone)
    (ha : s.srcDone = s.totalIn + l.ip) (hip : l.ip ≤ inSize) : LInv inSize B s l where
  blk := fun hh => absurd hst hh
  blkB := fun hh => absurd hst hh
  pos_lt := fun hh => absurd hst hh
  bnd := fun hh => absurd hst hh
  toC_le := Nat.le_of_eq he.symm
  fl_le := by rw [ho.1, ho.2.1]; exact Nat.le_refl 0
  out_flush := fun hh => by rw [hst] at hh; cases hh
  out_load := fun _ => ho
  in_acct := by rw [he, Nat.sub_self]; exact ha
  in_base := fun hh => absurd hh (by rw [he]; exact Nat.lt_irrefl _)
  fl_empty := fun _ => he
  init_empty := fun _ => he
  ip_le := hip

theorem LInv.of_load (hst : s.streamStage = .load) (fr : Frame B s) (htc : s.inToCompress ≤ s.inBuffPos)
    (ho : s.outBuffContentSize = 0 ∧ s.outBuffFlushedSize = 0 ∧ s.totalOut + l.op = s.outDone)
    (ha : s.srcDone + (s.inBuffPos - s.inToCompress) = s.totalIn + l.ip) (hb : s.inToCompress < s.inBuffPos → s.inBase = s.srcDone)
    (hip : l.ip ≤ inSize) : LInv inSize B s l where
  blk := fun _ => fr.1
  blkB := fun _ => fr.2.1
  pos_lt := fun _ => fr.2.2.1
  bnd := fun _ => fr.2.2.2
  toC_le := htc
  fl_le := by rw [ho.1, ho.2.1]; exact Nat.le_refl 0
  out_flush := fun hh => by rw [hst] at hh; cases hh
  out_load := fun _ => ho
  in_acct := ha
  in_base := hb
  fl_empty := fun hh => by rw [hst] at hh; cases hh
  init_empty := fun hh => by rw [hst] at hh; cases hh
  ip_le := hip

theorem LInv.of_flush (hst : s.streamStage = .flush) (fr : Frame B s) (he : s.inBuffPos = s.inToCompress)
    (hfl : s.outBuffFlushedSize ≤ s.outBuffContentSize)
    (ho : s.outBase + s.outBuffFlushedSize = s.totalOut + l.op ∧ s.outBase + s.outBuffContentSize = s.outDone)
    (ha : s.srcDone = s.totalIn + l.ip) (hip : l.ip ≤ inSize) : LInv inSize B s l where
  blk := fun _ => fr.1
  blkB := fun _ => fr.2.1
  pos_lt := fun _ => fr.2.2.1
  bnd := fun _ => fr.2.2.2
  toC_le := Nat.le_of_eq he.symm
  fl_le := hfl
  out_flush := fun _ => ho
  out_load := fun hh => absurd hst hh
  in_acct := by rw [he, Nat.sub_self]; exact ha
  in_base := fun hh => absurd hh (by rw [he]; exact Nat.lt_irrefl _)
  fl_empty := fun _ => he
  init_empty := fun _ => he
  ip_le := hip

/-- the `last` flag of the most recent chunk event (`d` when there is none) -/
def lastFlag (d : Bool) : List Event → Bool
  | [] => d
  | .chunk _ _ _ _ _ last _ :: es => lastFlag last es
  | _ :: es => lastFlag d es

theorem lastFlag_append (d : Bool) (a b : List Event) : lastFlag d (a ++ b) = lastFlag (lastFlag d a) b := by
  induction a generalizing d with
  | nil => rfl
  | cons e es ih => cases e <;> simp [lastFlag, ih]

/-- `frameEnded` stays the flag of the most recent chunk -/
def Flag (s : State) (l : Loc) (s1 : State) (l1 : Loc) : Prop :=
  ∀ f0, s.frameEnded = lastFlag f0 l.events → s1.frameEnded = lastFlag f0 l1.events

theorem Flag.keep (t : List Event) (hf : s1.frameEnded = s.frameEnded := by rfl) (hev : l1.events = l.events ++ t := by rfl)
    (ht : ∀ b, lastFlag b t = b := by exact fun _ => rfl) : Flag s l s1 l1 := by
  intro f0 h
  rw [hev, lastFlag_append, ht, hf]; exact h

theorem Flag.set (t : List Event) (hev : l1.events = l.events ++ t := by rfl)
    (ht : ∀ b, lastFlag b t = s1.frameEnded := by exact fun _ => rfl) : Flag s l s1 l1 := by
  intro f0 _
  rw [hev, lastFlag_append, ht]

/-- the end of a turn, from `(s, l)` with `pend` bytes about to be written out -/
structure Tail (inSize B outSize pend : Nat) (s : State) (l : Loc) (s1 : State) (l1 : Loc) : Prop where
  inv : LInv inSize B s1 l1
  delta : Delta B s l s1 l1
  empty : s1.inBuffPos = s1.inToCompress
  ip : l1.ip = l.ip
  prog : 0 < pend → l.op < outSize → l.op < l1.op
  flag : Flag s l s1 l1

/-- the postcondition shared by `stFlush` and `compressChunk`; `last`: the chunk being written out ends the frame -/
def TailPost (inSize B outSize pend : Nat) (last : Bool) (s : State) (l : Loc) : Out → Prop
  | .cont s1 l1 => Tail inSize B outSize pend s l s1 l1 ∧ s1.streamStage = .load ∧ last = false
  | .stop s1 l1 => Tail inSize B outSize pend s l s1 l1 ∧
      ((s1.streamStage = .flush ∧ s1.outBuffFlushedSize < s1.outBuffContentSize) ∨
       (s1.streamStage = .init ∧ s1.frameEnded = true ∧ last = true))
  | .fail _ _ => False

theorem TailPost.prefix (hT : TailPost inSize B outSize pend last S L o) (hD : Delta B s l S L) (hF : Flag s l S L)
    (hip : L.ip = l.ip) (hop : L.op = l.op) : TailPost inSize B outSize pend last s l o := by
  have tr : ∀ {s1 l1}, Tail inSize B outSize pend S L s1 l1 → Tail inSize B outSize pend s l s1 l1 :=
    fun t => ⟨t.inv, hD.trans t.delta, t.empty, t.ip.trans hip, hop ▸ t.prog, fun f0 hf => t.flag f0 (hF f0 hf)⟩
  cases o with
  | cont s1 l1 => exact ⟨tr hT.1, hT.2⟩
  | stop s1 l1 => exact ⟨tr hT.1, hT.2⟩
  | fail _ _ => exact hT

/-- the flush stage copies `n` of the `ct - fl` bytes waiting in `outBuff` to the caller's room (`ZSTD_limitCopy`) -/
theorem flush_arith {room ct fl n : Nat} (hn : min room (ct - fl) = n) (hfl : fl ≤ ct) :
    fl + n ≤ ct ∧ (0 < ct - fl → 0 < room → 0 < n) ∧ (ct - fl ≠ n → fl + n < ct) ∧ (¬ ct - fl ≠ n → fl + n = ct) := by
  omega

theorem stFlush_ok (outSize : Nat) (h : LInv inSize B s l) (hst : s.streamStage = .flush) :
    TailPost inSize B outSize (s.outBuffContentSize - s.outBuffFlushedSize) s.frameEnded s l (stFlush s l outSize) := by
  obtain ⟨ho1, ho2⟩ := h.out_flush hst
  have hpe := h.fl_empty hst
  have hne : s.streamStage ≠ .init := by rw [hst]; decide
  have hia := h.in_acct
  rw [hpe, Nat.sub_self] at hia
  unfold stFlush
  simp only []
  generalize hn : min (outSize - l.op) (s.outBuffContentSize - s.outBuffFlushedSize) = n
  obtain ⟨hle, hpos, hlt, heq⟩ := flush_arith hn h.fl_le
  have hop : 0 < s.outBuffContentSize - s.outBuffFlushedSize → l.op < outSize → l.op < l.op + n :=
    fun hp hr => Nat.lt_add_of_pos_right (hpos hp (Nat.sub_pos_of_lt hr))
  refine ite_cases (fun hc => ?_) fun hc => ?_
  · -- the caller's room is exhausted
    exact ⟨⟨{ h with
          fl_le := hle
          out_flush := fun _ => ⟨show s.outBase + (s.outBuffFlushedSize + n) = s.totalOut + (l.op + n) by
            rw [← Nat.add_assoc, ho1, Nat.add_assoc], ho2⟩
          out_load := fun hh => absurd hst hh },
        .emit (.frame hne) ho1, hpe, rfl, hop, .keep _⟩, Or.inl ⟨hst, hlt hc⟩⟩
  · have ho : s.totalOut + (l.op + n) = s.outDone := by rw [← Nat.add_assoc, ← ho1, Nat.add_assoc, heq hc, ho2]
    refine ite_cases (fun hfe => ?_) fun hfe => ?_
    · -- the frame is complete
      exact ⟨⟨.of_init rfl hpe ⟨rfl, rfl, ho⟩ hia h.ip_le, .emit .reset ho1, hpe, rfl, hop, .keep _⟩,
        Or.inr ⟨rfl, hfe, hfe⟩⟩
    · exact ⟨⟨.of_load rfl (h.frame hne) h.toC_le ⟨rfl, rfl, ho⟩ h.in_acct h.in_base h.ip_le,
        .emit (.frame hne) ho1, hpe, rfl, hop, .keep _⟩, rfl, by simpa using hfe⟩

/-- "prepare next block" leaves room for a whole block, at the start of `inBuff` when the end is too near -/
theorem nextBlock_frame (h : 0 < s.blockSize) (hB : s.blockSize ≤ B) (e1 : s1.blockSize = s.blockSize)
    (e2 : s1.inBuffPos = (nextBlock s).1) (e3 : s1.inBuffTarget = (nextBlock s).2) (e4 : s1.inToCompress = (nextBlock s).1) :
    Frame B s1 := by
  have : (nextBlock s).1 < (nextBlock s).2 ∧ (nextBlock s).2 ≤ (nextBlock s).1 + B := by
    unfold nextBlock
    simp only []
    split
    · exact ⟨h, Nat.le_trans hB (Nat.le_add_left _ _)⟩
    · exact ⟨Nat.lt_add_of_pos_right h, Nat.add_le_add_left hB _⟩
  exact ⟨e1 ▸ h, e1 ▸ hB, e2 ▸ e3 ▸ this.1, e3 ▸ e4 ▸ this.2⟩

/-- what `compressChunk` is entitled to: the state right after the loading step of zcss_load -/
structure CPre (inSize B : Nat) (last : Bool) (s : State) (l : Loc) : Prop where
  st : s.streamStage = .load
  blk : 0 < s.blockSize
  blkB : s.blockSize ≤ B
  sz : s.inBuffPos ≤ s.inToCompress + B
  out0 : s.outBuffContentSize = 0 ∧ s.outBuffFlushedSize = 0 ∧ s.totalOut + l.op = s.outDone
  in_acct : s.srcDone + (s.inBuffPos - s.inToCompress) = s.totalIn + l.ip
  in_base : s.inToCompress < s.inBuffPos → s.inBase = s.srcDone
  ip_le : l.ip ≤ inSize
  nonlast : last = false → s.inToCompress < s.inBuffPos

theorem compressChunk_ok (co : Nat → Nat) (outSize : Nat) (flushMode : EndOp)
    (h : CPre inSize B (decide (flushMode = .eEnd) && decide (l.ip = inSize)) s l) :
    TailPost inSize B outSize (co s.nbChunks) (decide (flushMode = .eEnd) && decide (l.ip = inSize)) s l
      (compressChunk co s l inSize outSize flushMode) := by
  obtain ⟨hst, hblk, hblkB, hsz, ⟨ho1, ho2, ho3⟩, hia, hib, hip, hnl⟩ := h
  have hne : s.streamStage ≠ .init := by rw [hst]; decide
  have hat : s.inBuffPos - s.inToCompress = 0 ∨ s.inBase = s.srcDone :=
    (Nat.lt_or_ge s.inToCompress s.inBuffPos).elim (fun hz => Or.inr (hib hz)) (fun hz => Or.inl (Nat.sub_eq_zero_of_le hz))
  unfold compressChunk
  simp only []
  generalize (decide (flushMode = .eEnd) && decide (l.ip = inSize)) = last at hnl ⊢
  have hck : ∀ a b c d, chunkOk B (.chunk a b (s.inBuffPos - s.inToCompress) c d last true) :=
    fun _ _ _ _ => ⟨Nat.sub_le_iff_le_add'.2 hsz, fun hl => Nat.sub_pos_of_lt (hnl hl)⟩
  have ho : s.totalOut + (l.op + co s.nbChunks) = s.outDone + co s.nbChunks := by rw [← Nat.add_assoc, ho3]
  refine ite_cases (fun _ => ?_) fun _ => ?_
  · -- the chunk goes straight into the caller's buffer
    refine ite_cases (fun hl => ?_) fun hl => ?_
    · exact ⟨⟨.of_init rfl rfl ⟨ho1, ho2, ho⟩ hia hip,
        .chunk_emit .reset hat (hck _ _ _ _) ho3.symm (Nat.le_refl _),
        rfl, rfl, fun hc _ => Nat.lt_add_of_pos_right hc, .set _⟩, Or.inr ⟨rfl, hl, hl⟩⟩
    · exact ⟨⟨.of_load hst (nextBlock_frame hblk hblkB rfl rfl rfl rfl) (Nat.le_refl _) ⟨ho1, ho2, ho⟩
          (show _ + ((nextBlock s).1 - (nextBlock s).1) = _ by rw [Nat.sub_self]; exact hia) (fun hh => absurd hh (Nat.lt_irrefl _)) hip,
        .chunk_emit (.frame hne) hat (hck _ _ _ _) ho3.symm (Nat.le_refl _),
        rfl, rfl, fun hc _ => Nat.lt_add_of_pos_right hc, .set _⟩, hst, by simpa using hl⟩
  · -- the chunk goes to `outBuff`, and the flush stage follows at once
    refine (stFlush_ok outSize ?_ rfl).prefix
      (.chunk (.frame hne) hat (hck _ _ _ _) (Nat.le_refl _)) (.set _) rfl rfl
    exact .of_flush rfl (nextBlock_frame hblk hblkB rfl rfl rfl rfl) rfl (Nat.zero_le _) ⟨ho3.symm, rfl⟩ hia hip

/-- how a call can come to rest: (a) a flush the caller's room could not take entirely; (b) e_continue with a block not yet full;
(c) e_flush with nothing left anywhere; (d) the frame is complete -/
def StopOk (inSize : Nat) (flushMode : EndOp) (s0 s1 : State) (l1 : Loc) : Prop :=
  (s1.streamStage = .flush ∧ s1.outBuffFlushedSize < s1.outBuffContentSize) ∨
  (flushMode = .eContinue ∧ s1.streamStage = .load) ∨
  (flushMode = .eFlush ∧ s1.streamStage = .load ∧ s1.inBuffPos = s1.inToCompress ∧ l1.ip = inSize) ∨
  (s1.streamStage = .init ∧ s1.frameEnded = true ∧
    ((flushMode = .eEnd ∧ l1.ip = inSize) ∨ (s0.frameEnded = true ∧ s0.streamStage = .flush)))

/-- bounds the number of turns: a turn that does not stop completes the flush, or takes input, or compresses what waited in `inBuff`
(written as a `min`, so that `omega` meets no `if`); the start value is below `loopFuel` -/
def mu (inSize : Nat) (s : State) (l : Loc) : Nat :=
  2 * (inSize - l.ip) + (if s.streamStage = .flush then 2 else 0) + min 1 (s.inBuffPos - s.inToCompress)

def Prog (co : Nat → Nat) (inSize outSize : Nat) (flushMode : EndOp) (s : State) (l l1 : Loc) : Prop :=
  (s.streamStage = .load → l.ip < inSize → l.ip < l1.ip) ∧
  (s.streamStage = .flush → l.op < outSize → l.op < l1.op) ∧
  (s.streamStage = .load → (∀ i, 0 < co i) → l.op < outSize →
    (flushMode = .eEnd ∨ (flushMode = .eFlush ∧ (s.inToCompress < s.inBuffPos ∨ l.ip < inSize))) → l.op < l1.op)

theorem Prog.mono {l2 : Loc} (h : Prog co inSize outSize flushMode s l l1) (hip : l1.ip ≤ l2.ip) (hop : l1.op ≤ l2.op) :
    Prog co inSize outSize flushMode s l l2 :=
  ⟨fun a b => Nat.lt_of_lt_of_le (h.1 a b) hip, fun a b => Nat.lt_of_lt_of_le (h.2.1 a b) hop,
    fun a b c d => Nat.lt_of_lt_of_le (h.2.2 a b c d) hop⟩

/-- one or more turns, from `(s, l)` to `(s1, l1)` -/
structure Turn (co : Nat → Nat) (inSize B outSize : Nat) (flushMode : EndOp) (s : State) (l : Loc) (s1 : State) (l1 : Loc) :
    Prop where
  inv : LInv inSize B s1 l1
  delta : Delta B s l s1 l1
  prog : Prog co inSize outSize flushMode s l l1
  flag : Flag s l s1 l1

def OutOk (co : Nat → Nat) (inSize B outSize : Nat) (flushMode : EndOp) (s : State) (l : Loc) : Out → Prop
  | .cont s1 l1 => Turn co inSize B outSize flushMode s l s1 l1 ∧ s1.streamStage = .load ∧ mu inSize s1 l1 < mu inSize s l
  | .stop s1 l1 => Turn co inSize B outSize flushMode s l s1 l1 ∧ StopOk inSize flushMode s s1 l1
  | .fail _ _ => False

/-- a turn that begins with moves from `(s, l)` to `(S, L)` and ends as `TailPost` says -/
theorem OutOk.of_tail (hT : TailPost inSize B outSize pend last S L o) (hD : Delta B s l S L) (hF : Flag s l S L)
    (hop : L.op = l.op)
    (hmu : last = false → 2 * (inSize - L.ip) < mu inSize s l)
    (hend : last = true → (flushMode = .eEnd ∧ L.ip = inSize) ∨ (s.frameEnded = true ∧ s.streamStage = .flush))
    (hP : ∀ {l1 : Loc}, L.ip = l1.ip → (0 < pend → l.op < outSize → l.op < l1.op) → Prog co inSize outSize flushMode s l l1) :
    OutOk co inSize B outSize flushMode s l o := by
  have tr : ∀ {s1 l1}, Tail inSize B outSize pend S L s1 l1 → Turn co inSize B outSize flushMode s l s1 l1 :=
    fun t => ⟨t.inv, hD.trans t.delta, hP t.ip.symm (hop ▸ t.prog), fun f0 hf => t.flag f0 (hF f0 hf)⟩
  cases o with
  | cont s1 l1 =>
    obtain ⟨t, hs1, hl⟩ := hT
    refine ⟨tr t, hs1, ?_⟩
    have := hmu hl
    unfold mu at this ⊢
    rw [if_neg (by rw [hs1]; decide), t.empty, Nat.sub_self, t.ip]
    exact this
  | stop s1 l1 =>
    obtain ⟨t, hk⟩ := hT
    exact ⟨tr t, hk.elim Or.inl fun ⟨k1, k2, k3⟩ => Or.inr (Or.inr (Or.inr ⟨k1, k2, t.ip ▸ hend k3⟩))⟩
  | fail _ _ => exact hT

/-- the loading step of zcss_load (`ZSTD_limitCopy` of `n` bytes).  In `stLoad_ok` the first four facts serve every branch, the next
two the stop of e_flush with nothing waiting, the last the chunk that is compressed. -/
theorem take_arith {pos tgt toC ip inSize src tin n : Nat} (hn : min (tgt - pos) (inSize - ip) = n) (hpos : pos < tgt)
    (htc : toC ≤ pos) (hia : src + (pos - toC) = tin + ip) (hip : ip ≤ inSize) :
    pos + n ≤ tgt ∧ src + (pos + n - toC) = tin + (ip + n) ∧ ip + n ≤ inSize ∧ (ip < inSize → 0 < n) ∧
    (pos + n < tgt → ip + n = inSize) ∧ (pos + n = toC → pos + n < tgt ∧ ¬ (toC < pos ∨ ip < inSize)) ∧
    (¬ pos + n < tgt ∨ pos + n ≠ toC ∨ ip + n ≠ inSize → toC < pos + n) := by
  omega

theorem mu_take {inSize ip n pos toC : Nat} (hip : ip + n ≤ inSize) (h : toC < pos + n) :
    2 * (inSize - (ip + n)) < 2 * (inSize - ip) + 0 + min 1 (pos - toC) := by
  omega

theorem stLoad_ok (co : Nat → Nat) (outSize : Nat) (flushMode : EndOp) (h : LInv inSize B s l) (hst : s.streamStage = .load) :
    OutOk co inSize B outSize flushMode s l (stLoad co s l inSize outSize flushMode) := by
  have hne : s.streamStage ≠ .init := by rw [hst]; decide
  have hnf : s.streamStage ≠ .flush := by rw [hst]; decide
  obtain ⟨hblk, hblkB, hpos, hbnd⟩ := h.frame hne
  have htc := h.toC_le; have ho := h.out_load hnf; have hia := h.in_acct; have hip := h.ip_le
  unfold stLoad
  refine ite_cases (fun hc => ?_) fun _ => ?_
  · -- the whole rest of the input goes through `ZSTD_compressEnd_public` in one piece
    obtain ⟨hc1, -, hc3⟩ := hc
    have hemp : s.inBuffPos = s.inToCompress := Nat.le_antisymm (hc3 ▸ Nat.zero_le _) htc
    rw [hemp, Nat.sub_self, Nat.add_zero] at hia
    exact ⟨⟨.of_init rfl hemp
        ⟨ho.1, ho.2.1, show s.totalOut + (l.op + co s.nbChunks) = s.outDone + co s.nbChunks by rw [← Nat.add_assoc, ho.2.2]⟩
        (show s.srcDone + (inSize - l.ip) = s.totalIn + inSize by rw [hia, Nat.add_assoc, Nat.add_sub_of_le hip]) (Nat.le_refl _),
      .chunk_emit (b := false) .reset (Or.inr hia.symm) trivial ho.2.2.symm hip,
      ⟨fun _ hh => hh, fun hh => absurd hh hnf, fun _ hco _ _ => Nat.lt_add_of_pos_right (hco _)⟩, .set _⟩,
      Or.inr (Or.inr (Or.inr ⟨rfl, rfl, Or.inl ⟨hc1, rfl⟩⟩))⟩
  · simp only []
    generalize hn : min (s.inBuffTarget - s.inBuffPos) (inSize - l.ip) = n
    obtain ⟨hpos1, hacct, hip1, hn0, hfull, hnone, hsome⟩ := take_arith hn hpos htc hia hip
    have htc1 : s.inToCompress ≤ s.inBuffPos + n := Nat.le_trans htc (Nat.le_add_right _ _)
    have hbase : s.inToCompress < s.inBuffPos + n →
        (if s.inBuffPos = s.inToCompress then s.totalIn + l.ip else s.inBase) = s.srcDone := by
      intro; split
      · rename_i he; rw [he, Nat.sub_self] at hia; exact hia.symm
      · rename_i he; exact h.in_base (Nat.lt_of_le_of_ne htc (Ne.symm he))
    have hD : Delta B s l
        { s with inBuffPos := s.inBuffPos + n, inBase := if s.inBuffPos = s.inToCompress then s.totalIn + l.ip else s.inBase }
        { l with ip := l.ip + n, events := l.events ++ [.take (s.totalIn + l.ip) n] } :=
      .take (.frame hne) (Nat.le_add_right _ _)
    have hP1 : s.streamStage = .load → l.ip < inSize → l.ip < l.ip + n := fun _ hh => Nat.lt_add_of_pos_right (hn0 hh)
    refine ite_cases (fun hs => ?_) fun hs1 => ?_
    · -- e_continue, and the block is not full yet
      exact ⟨⟨.of_load hst ⟨hblk, hblkB, hs.2, hbnd⟩ htc1 ho hacct hbase hip1, hD,
        ⟨hP1, fun hh => absurd hh hnf, fun _ _ _ hm => by rw [hs.1] at hm; simp at hm⟩, .keep _⟩, Or.inr (Or.inl ⟨hs.1, hst⟩)⟩
    · refine ite_cases (fun hs => ?_) fun hs2 => ?_
      · -- e_flush, and nothing waits in `inBuff`
        obtain ⟨hlt, hno⟩ := hnone hs.2
        exact ⟨⟨.of_load hst ⟨hblk, hblkB, hlt, hbnd⟩ htc1 ho hacct hbase hip1, hD,
          ⟨hP1, fun hh => absurd hh hnf,
            fun _ _ _ hm => hm.elim (fun hm => by rw [hs.1] at hm; cases hm) (fun hm => absurd hm.2 hno)⟩, .keep _⟩,
          Or.inr (Or.inr (Or.inl ⟨hs.1, hst, hs.2, hfull hlt⟩))⟩
      · -- a chunk is compressed; it is not empty unless it ends the frame
        have hpend : (decide (flushMode = .eEnd) && decide (l.ip + n = inSize)) = false → s.inToCompress < s.inBuffPos + n := by
          intro hl
          refine hsome ?_
          cases flushMode with
          | eContinue => exact Or.inl fun hh => hs1 ⟨rfl, hh⟩
          | eFlush => exact Or.inr (Or.inl fun hh => hs2 ⟨rfl, hh⟩)
          | eEnd => exact Or.inr (Or.inr (by simpa using hl))
        refine .of_tail (compressChunk_ok co outSize flushMode
          ⟨hst, hblk, hblkB, Nat.le_trans hpos1 hbnd, ho, hacct, hbase, hip1, hpend⟩) hD (.keep _) rfl ?_ ?_ ?_
        · intro hl
          unfold mu
          rw [if_neg hnf]
          exact mu_take hip1 (hpend hl)
        · intro hl
          exact Or.inl (by simpa using hl)
        · intro l1 e hp
          exact ⟨fun a b => e ▸ hP1 a b, fun hh => absurd hh hnf, fun _ hco hr _ => hp (hco _) hr⟩

def TurnPre (inSize B : Nat) (s : State) (l : Loc) : Prop :=
  LInv inSize B s l ∧ s.streamStage ≠ .init ∧ (s.streamStage = .flush → s.outBuffFlushedSize < s.outBuffContentSize)

theorem micro_ok (co : Nat → Nat) (outSize : Nat) (flushMode : EndOp) (h : TurnPre inSize B s l) :
    OutOk co inSize B outSize flushMode s l (micro co s l inSize outSize flushMode) := by
  obtain ⟨hi, hne, hfl⟩ := h
  unfold micro
  split
  · rename_i hs; exact absurd hs hne
  · rename_i hs; exact stLoad_ok co outSize flushMode hi hs
  · rename_i hs
    have hnl : s.streamStage ≠ .load := by rw [hs]; decide
    refine .of_tail (stFlush_ok outSize hi hs) (.refl B s l) (fun _ hf => hf) rfl (fun _ => ?_) (fun hl => Or.inr ⟨hl, hs⟩)
      (fun _ hp => ⟨fun hh => absurd hh hnl, fun _ hr => hp (Nat.sub_pos_of_lt (hfl hs)) hr, fun hh => absurd hh hnl⟩)
    unfold mu
    rw [if_pos hs]
    exact Nat.lt_add_right _ (Nat.lt_add_of_pos_right (by decide))

theorem loop_ok (co : Nat → Nat) (outSize : Nat) (flushMode : EndOp) (fuel : Nat) (h : TurnPre inSize B s l)
    (hfuel : mu inSize s l < fuel) :
    ∃ s1 l1, loop co fuel s l inSize outSize flushMode = .stop s1 l1 ∧ Turn co inSize B outSize flushMode s l s1 l1 ∧
      StopOk inSize flushMode s s1 l1 := by
  induction fuel generalizing s l with
  | zero => exact absurd hfuel (Nat.not_lt_zero _)
  | succ fuel ih =>
    have hm := micro_ok co outSize flushMode h
    unfold loop
    generalize micro co s l inSize outSize flushMode = o at hm
    cases o with
    | cont s1 l1 =>
      obtain ⟨t, hs1, hmu⟩ := hm
      have hnf : s1.streamStage ≠ .flush := by rw [hs1]; decide
      obtain ⟨s2, l2, e, t2, k⟩ := ih ⟨t.inv, by rw [hs1]; decide, fun hh => absurd hh hnf⟩
        (Nat.lt_of_lt_of_le hmu (Nat.le_of_lt_succ hfuel))
      exact ⟨s2, l2, e, ⟨t2.inv, t.delta.trans t2.delta, t.prog.mono t2.delta.ip_mono t2.delta.op_mono,
        fun f0 hf => t2.flag f0 (t.flag f0 hf)⟩,
        k.imp_right (Or.imp_right (Or.imp_right fun ⟨k1, k2, k3⟩ => ⟨k1, k2, k3.imp_right fun k4 => absurd k4.2 hnf⟩))⟩
    | stop s1 l1 => exact ⟨s1, l1, rfl, hm⟩
    | fail _ _ => exact hm.elim

end turn

/-- the bound on a chunk taken from `inBuff`: the block size, plus one in a frame whose pledged size equals the block size
(`inBuffTarget = blockSize + (blockSize == pledgedSrcSize)`) -/
def Bof (s : State) : Nat := s.blockSize + (if s.blockSize = pledgedOf s.pledgedSrcSizePlusOne then 1 else 0)

/-- the invariant between calls -/
def Inv (s : State) : Prop :=
  LInv 0 (Bof s) s {} ∧ (s.streamStage = .flush → s.outBuffFlushedSize < s.outBuffContentSize)

theorem inv_start (w m : Nat) (p : Option Nat) : Inv (State.start w m p) :=
  ⟨.of_init rfl rfl ⟨rfl, rfl, rfl⟩ rfl (Nat.le_refl 0), nofun⟩

/-- the state `ZSTD_compressStream_generic` is entered with -/
def entry (s : State) (endOp : EndOp) (inSize : Nat) : State :=
  if s.streamStage = .init then initStream s endOp inSize else s

theorem entry_of_not_init (s : State) (endOp : EndOp) (inSize : Nat) (h : s.streamStage ≠ .init) : entry s endOp inSize = s :=
  if_neg h

theorem entry_totals (s : State) (endOp : EndOp) (inSize : Nat) :
    (entry s endOp inSize).totalIn = s.totalIn ∧ (entry s endOp inSize).totalOut = s.totalOut ∧
    (entry s endOp inSize).srcDone = s.srcDone ∧ (entry s endOp inSize).outDone = s.outDone := by
  unfold entry; split <;> exact ⟨rfl, rfl, rfl, rfl⟩

theorem entry_load (s : State) (endOp : EndOp) (inSize : Nat) (h : s.streamStage ≠ .flush) :
    (entry s endOp inSize).streamStage = .load := by
  unfold entry
  split
  · rfl
  · cases hx : s.streamStage <;> simp_all

theorem resolveMaxBlockSize_pos (m : Nat) : 0 < resolveMaxBlockSize m := by
  unfold resolveMaxBlockSize
  split
  · decide
  · exact Nat.pos_of_ne_zero ‹_›

theorem mu_lt_fuel (inSize : Nat) (s : State) : mu inSize s {} < loopFuel inSize := by
  unfold mu loopFuel
  have : (if s.streamStage = .flush then 2 else 0) ≤ 2 := by split <;> decide
  omega

theorem entry_pre (s : State) (endOp : EndOp) (inSize : Nat) (h : Inv s) :
    TurnPre inSize (Bof (entry s endOp inSize)) (entry s endOp inSize) {} := by
  obtain ⟨hi, hfl⟩ := h
  by_cases hs : s.streamStage = .init
  · rw [entry, if_pos hs]
    have hnf : s.streamStage ≠ .flush := by rw [hs]; decide
    have hb : 0 < (initStream s endOp inSize).blockSize :=
      Nat.lt_min.2 ⟨resolveMaxBlockSize_pos _, Nat.lt_of_lt_of_le Nat.one_pos (Nat.le_max_left _ _)⟩
    have ia := hi.in_acct
    rw [hi.init_empty hs, Nat.sub_self] at ia
    -- `inBuffTarget` is set to `Bof`, `inBuffPos` and `inToCompress` to 0
    exact ⟨.of_load rfl ⟨hb, Nat.le_add_right _ _, Nat.lt_add_right _ hb, Nat.le_of_eq (Nat.zero_add _).symm⟩ (Nat.le_refl 0)
      ⟨rfl, rfl, (hi.out_load hnf).2.2⟩ ia nofun (Nat.zero_le _), show Stage.load ≠ .init by decide, nofun⟩
  · rw [entry_of_not_init s endOp inSize hs]
    exact ⟨{ hi with ip_le := Nat.zero_le _ }, hs, hfl⟩

/-- the loop of `ZSTD_compressStream_generic` comes to rest within `loopFuel` turns (the model's error outcome is never taken) -/
theorem step_spec (co : Nat → Nat) (s : State) (inSize outSize : Nat) (endOp : EndOp) (h : Inv s) :
    ∃ s1 l1, step co s inSize outSize endOp = finish s1 l1 (decide (s.streamStage = .init)) ∧
      Turn co inSize (Bof (entry s endOp inSize)) outSize endOp (entry s endOp inSize) {} s1 l1 ∧
      StopOk inSize endOp (entry s endOp inSize) s1 l1 := by
  obtain ⟨s1, l1, hl, t, k⟩ := loop_ok co outSize endOp (loopFuel inSize) (entry_pre s endOp inSize h) (mu_lt_fuel _ _)
  refine ⟨s1, l1, ?_, t, k⟩
  unfold entry at hl
  unfold step
  simp only [decide_eq_true_eq]
  rw [hl]

theorem Bof_le (s : State) : Bof s ≤ s.blockSize + 1 := by
  unfold Bof
  split
  · exact Nat.le_refl _
  · exact Nat.le_add_right _ _

theorem step_inv (co : Nat → Nat) (s : State) (inSize outSize : Nat) (endOp : EndOp) (h : Inv s) :
    Inv (step co s inSize outSize endOp).1 := by
  obtain ⟨s1, l1, he, ⟨hi, hd, -⟩, hk⟩ := step_spec co s inSize outSize endOp h
  rw [he]
  have hB : s1.streamStage ≠ .init → Bof s1 = Bof (entry s endOp inSize) := by
    intro hh; unfold Bof; rw [hd.blk_same, hd.pl_same hh]
  -- `finish` moves `l1.ip`, `l1.op` into the totals
  refine ⟨{ hi with
      blkB := fun hh => hB hh ▸ hi.blkB hh
      bnd := fun hh => hB hh ▸ hi.bnd hh
      ip_le := Nat.le_refl 0 }, fun hh => ?_⟩
  have hh : s1.streamStage = .flush := hh
  rcases hk with hk | hk | hk | hk
  · exact hk.2
  · rw [hk.2] at hh; cases hh
  · rw [hk.2.1] at hh; cases hh
  · rw [hk.1] at hh; cases hh

theorem step_ret (co : Nat → Nat) (s : State) (inSize outSize : Nat) (endOp : EndOp) (h : Inv s) :
    (step co s inSize outSize endOp).2.ret =
      .val ((step co s inSize outSize endOp).1.outBuffContentSize - (step co s inSize outSize endOp).1.outBuffFlushedSize) := by
  obtain ⟨s1, l1, he, -⟩ := step_spec co s inSize outSize endOp h
  rw [he]; rfl

/-- bytes of the chunk-output stream sitting in `outBuff`, not yet handed to the caller -/
def pendingOut (s : State) : List Nat :=
  List.range' (s.outBase + s.outBuffFlushedSize) (s.outBuffContentSize - s.outBuffFlushedSize)

/-- bytes of the input sitting in `inBuff`, not yet handed to the chunk compressor -/
def pendingIn (s : State) : List Nat := List.range' s.inBase (s.inBuffPos - s.inToCompress)

/-- `output_eq_chunks` for one call -/
theorem step_ranges (co : Nat → Nat) (s : State) (inSize outSize : Nat) (endOp : EndOp) (h : Inv s) :
    let r := step co s inSize outSize endOp
    (emitted r.2.events = List.range' s.totalOut (r.1.totalOut - s.totalOut) ∧ s.totalOut ≤ r.1.totalOut) ∧
    (chunkOut r.2.events = List.range' s.outDone (r.1.outDone - s.outDone) ∧ s.outDone ≤ r.1.outDone) ∧
    (chunkSrc r.2.events = List.range' s.srcDone (r.1.srcDone - s.srcDone) ∧ s.srcDone ≤ r.1.srcDone) := by
  obtain ⟨s1, l1, he, ⟨-, hd, -⟩, -⟩ := step_spec co s inSize outSize endOp h
  obtain ⟨-, e2, e3, e4⟩ := entry_totals s endOp inSize
  have a := hd.ev_emit; have b := hd.ev_out; have c := hd.ev_src; have m1 := hd.out_mono; have m2 := hd.src_mono
  rw [e2] at a; rw [e4] at b m1; rw [e3] at c m2
  simp only [he]
  refine ⟨⟨?_, ?_⟩, ⟨b, m1⟩, ⟨c, m2⟩⟩
  · show _ = List.range' s.totalOut (s1.totalOut + l1.op - s.totalOut)
    rw [hd.tout, e2, Nat.add_sub_cancel_left]
    exact a
  · show s.totalOut ≤ s1.totalOut + l1.op
    rw [hd.tout, e2]
    exact Nat.le_add_right _ _

theorem inv_out (s : State) (h : Inv s) :
    List.range' 0 s.totalOut ++ pendingOut s = List.range' 0 s.outDone := by
  obtain ⟨hi, _⟩ := h
  have := hi.fl_le
  unfold pendingOut
  by_cases hs : s.streamStage = .flush
  · obtain ⟨a, b⟩ := hi.out_flush hs
    have a : s.outBase + s.outBuffFlushedSize = s.totalOut := a
    exact range_glue (a.trans (Nat.zero_add _).symm) (by omega)
  · obtain ⟨a, b, c⟩ := hi.out_load hs
    have c : s.totalOut = s.outDone := c
    rw [a, b, c]; simp

theorem inv_in (s : State) (h : Inv s) :
    List.range' 0 s.srcDone ++ pendingIn s = List.range' 0 s.totalIn := by
  obtain ⟨hi, _⟩ := h
  have a : s.srcDone + (s.inBuffPos - s.inToCompress) = s.totalIn := hi.in_acct
  unfold pendingIn
  rcases Nat.lt_or_ge s.inToCompress s.inBuffPos with hz | hz
  · rw [hi.in_base hz]; exact range_glue (Nat.zero_add _).symm a.symm
  · rw [Nat.sub_eq_zero_of_le hz] at a ⊢
    rw [← a]; simp

def emittedAll (rs : List CallResult) : List Nat := rs.flatMap (fun r => emitted r.events)
def chunkOutAll (rs : List CallResult) : List Nat := rs.flatMap (fun r => chunkOut r.events)
def chunkSrcAll (rs : List CallResult) : List Nat := rs.flatMap (fun r => chunkSrc r.events)

theorem run_inv (co : Nat → Nat) (cs : List (Nat × Nat × EndOp)) (s : State) (h : Inv s) : Inv (run co s cs).1 := by
  induction cs generalizing s with
  | nil => exact h
  | cons c cs ih => exact ih _ (step_inv co s c.1 c.2.1 c.2.2 h)

/-- one induction for the three streams: `f` is `emitted`, `chunkOut` or `chunkSrc`, `t` its counter -/
theorem run_ranges (co : Nat → Nat) (f : List Event → List Nat) (t : State → Nat)
    (hstep : ∀ s i o d, Inv s →
      f (step co s i o d).2.events = List.range' (t s) (t (step co s i o d).1 - t s) ∧ t s ≤ t (step co s i o d).1)
    (cs : List (Nat × Nat × EndOp)) (s : State) (h : Inv s) :
    (run co s cs).2.flatMap (fun r => f r.events) = List.range' (t s) (t (run co s cs).1 - t s) ∧ t s ≤ t (run co s cs).1 := by
  induction cs generalizing s with
  | nil => simp [run]
  | cons c cs ih =>
    obtain ⟨i, o, d⟩ := c
    obtain ⟨a1, a2⟩ := hstep s i o d h
    obtain ⟨b1, b2⟩ := ih _ (step_inv co s i o d h)
    simp only [run, List.flatMap_cons]
    rw [a1, b1]
    exact ⟨range_stretch a2 b2, Nat.le_trans a2 b2⟩

/-- conservation under ANY history: emitted bytes + what waits in `outBuff` = the chunk outputs, and the chunks' sources + what waits
in `inBuff` = the input consumed, in order.  (Each chunk output decodes to its source: the emitted stream decodes to the consumed
input as soon as nothing waits.) -/
theorem output_eq_chunks (co : Nat → Nat) (w m : Nat) (p : Option Nat) (cs : List (Nat × Nat × EndOp)) :
    let r := run co (State.start w m p) cs
    emittedAll r.2 ++ pendingOut r.1 = chunkOutAll r.2 ∧ chunkSrcAll r.2 ++ pendingIn r.1 = List.range' 0 r.1.totalIn ∧
    emittedAll r.2 = List.range' 0 r.1.totalOut ∧ chunkOutAll r.2 = List.range' 0 r.1.outDone := by
  intro r
  have h0 := inv_start w m p
  have hi : Inv r.1 := run_inv co cs _ h0
  have e1 : emittedAll r.2 = List.range' 0 r.1.totalOut :=
    (run_ranges co emitted (·.totalOut) (fun s i o d h => (step_ranges co s i o d h).1) cs _ h0).1
  have e2 : chunkOutAll r.2 = List.range' 0 r.1.outDone :=
    (run_ranges co chunkOut (·.outDone) (fun s i o d h => (step_ranges co s i o d h).2.1) cs _ h0).1
  have e3 : chunkSrcAll r.2 = List.range' 0 r.1.srcDone :=
    (run_ranges co chunkSrc (·.srcDone) (fun s i o d h => (step_ranges co s i o d h).2.2) cs _ h0).1
  refine ⟨?_, ?_, e1, e2⟩
  · rw [e1, e2]; exact inv_out _ hi
  · rw [e3]; exact inv_in _ hi

/-- the return value of `ZSTD_compressStream2` is truthful, whatever the directive -/
theorem ret_zero_iff_all_emitted (co : Nat → Nat) (s : State) (inSize outSize : Nat) (endOp : EndOp) (h : Inv s) :
    (step co s inSize outSize endOp).2.ret = .val 0 ↔
      (step co s inSize outSize endOp).1.totalOut = (step co s inSize outSize endOp).1.outDone := by
  have hr := step_ret co s inSize outSize endOp h
  obtain ⟨hi, hfl⟩ := step_inv co s inSize outSize endOp h
  generalize (step co s inSize outSize endOp).1 = s2 at *
  rw [hr]
  by_cases hs : s2.streamStage = .flush
  · obtain ⟨a, b⟩ := hi.out_flush hs
    have := hfl hs
    have a : s2.outBase + s2.outBuffFlushedSize = s2.totalOut := a
    constructor
    · intro hh; injection hh with hh; exact absurd (Nat.sub_eq_zero_iff_le.1 hh) (Nat.not_le.2 this)
    · intro hh; omega
  · obtain ⟨a, b, c⟩ := hi.out_load hs
    exact ⟨fun _ => c, fun _ => by rw [a, b]⟩

/-- a flush / end call that returns 0 leaves nothing buffered anywhere.  It has taken all the input it was offered, unless all it did
was to finish flushing a frame that an earlier call had already ended. -/
theorem flush_complete (co : Nat → Nat) (s : State) (inSize outSize : Nat) (endOp : EndOp) (h : Inv s)
    (hd : endOp ≠ .eContinue) (hz : (step co s inSize outSize endOp).2.ret = .val 0) :
    let r := step co s inSize outSize endOp
    r.1.inBuffPos = r.1.inToCompress ∧ r.1.outBuffContentSize = 0 ∧ r.1.outBuffFlushedSize = 0 ∧
    r.1.totalOut = r.1.outDone ∧ r.1.srcDone = r.1.totalIn ∧
    (r.2.consumed = inSize ∨ (s.streamStage = .flush ∧ s.frameEnded = true)) := by
  have hall := (ret_zero_iff_all_emitted co s inSize outSize endOp h).1 hz
  obtain ⟨s1, l1, he, ⟨hi, -, -⟩, hk⟩ := step_spec co s inSize outSize endOp h
  rw [he] at hz hall
  simp only [he]
  have hz : Ret.val (s1.outBuffContentSize - s1.outBuffFlushedSize) = .val 0 := hz
  have ia : s1.srcDone + (s1.inBuffPos - s1.inToCompress) = s1.totalIn + l1.ip := hi.in_acct
  have key : s1.streamStage ≠ .flush ∧ s1.inBuffPos = s1.inToCompress ∧
      (l1.ip = inSize ∨ (s.streamStage = .flush ∧ s.frameEnded = true)) := by
    rcases hk with hk | hk | hk | hk
    · injection hz with hz; exact absurd (Nat.sub_eq_zero_iff_le.1 hz) (Nat.not_le.2 hk.2)
    · exact absurd hk.1 hd
    · exact ⟨by rw [hk.2.1]; decide, hk.2.2.1, Or.inl hk.2.2.2⟩
    · refine ⟨by rw [hk.1]; decide, hi.init_empty hk.1, hk.2.2.imp And.right fun k => ?_⟩
      -- a frame already ended was being flushed: the call did not initialise one
      by_cases hs : s.streamStage = .init
      · rw [entry_load s endOp inSize (by rw [hs]; decide)] at k; cases k.2
      · rw [entry_of_not_init s endOp inSize hs] at k; exact ⟨k.2, k.1⟩
  obtain ⟨k1, k2, k3⟩ := key
  obtain ⟨a, b, c⟩ := hi.out_load k1
  rw [k2, Nat.sub_self] at ia
  exact ⟨k2, a, b, hall, ia, k3⟩

theorem run_snoc (co : Nat → Nat) (cs : List (Nat × Nat × EndOp)) (s : State) (i o : Nat) (d : EndOp) :
    run co s (cs ++ [(i, o, d)]) =
      ((step co (run co s cs).1 i o d).1, (run co s cs).2 ++ [(step co (run co s cs).1 i o d).2]) := by
  induction cs generalizing s with
  | nil => rfl
  | cons c cs ih => simp only [List.cons_append, run, ih, List.cons_append]

/-- flush point ⇒ decodable: at a completed flush the bytes the caller holds are the chunk outputs of exactly the input it handed in -/
theorem flush_point (co : Nat → Nat) (w m : Nat) (p : Option Nat) (cs : List (Nat × Nat × EndOp)) (i o : Nat) (d : EndOp)
    (hd : d ≠ .eContinue) (hz : (step co (run co (State.start w m p) cs).1 i o d).2.ret = .val 0) :
    let r := run co (State.start w m p) cs
    let c := step co r.1 i o d
    emittedAll (r.2 ++ [c.2]) = chunkOutAll (r.2 ++ [c.2]) ∧ chunkSrcAll (r.2 ++ [c.2]) = List.range' 0 c.1.totalIn := by
  obtain ⟨f1, f2, f3, -⟩ := flush_complete co _ i o d (run_inv co cs _ (inv_start w m p)) hd hz
  obtain ⟨h1, h2, -⟩ := output_eq_chunks co w m p (cs ++ [(i, o, d)])
  simp only [run_snoc, pendingOut, pendingIn, f1, f2, f3, Nat.sub_self, List.range'_zero, List.append_nil] at h1 h2
  exact ⟨h1, h2⟩

/-- a call with output room and anything at all to do consumes or produces a byte (`hco`: a block has a 3-byte header).  Without
room a call can make internal progress only. -/
theorem progress (co : Nat → Nat) (s : State) (inSize outSize : Nat) (endOp : EndOp) (h : Inv s) (hco : ∀ i, 0 < co i)
    (hout : 0 < outSize)
    (hw : 0 < inSize ∨ s.streamStage = .flush ∨ endOp = .eEnd ∨
          (endOp = .eFlush ∧ s.streamStage = .load ∧ s.inToCompress < s.inBuffPos)) :
    0 < (step co s inSize outSize endOp).2.consumed + (step co s inSize outSize endOp).2.produced := by
  obtain ⟨s1, l1, he, ⟨-, -, ⟨hp1, hp2, hp3⟩, -⟩, -⟩ := step_spec co s inSize outSize endOp h
  rw [he]
  show 0 < l1.ip + l1.op
  by_cases hf : s.streamStage = .flush
  · rw [entry_of_not_init s endOp inSize (by rw [hf]; decide)] at hp2
    exact Nat.add_pos_right _ (hp2 hf hout)
  · have hl := entry_load s endOp inSize hf
    rcases hw with hw | hw | hw | ⟨hw1, hw2, hw3⟩
    · exact Nat.add_pos_left (hp1 hl hw) _
    · exact absurd hw hf
    · exact Nat.add_pos_right _ (hp3 hl hco hout (Or.inl hw))
    · rw [entry_of_not_init s endOp inSize (by rw [hw2]; decide)] at hp3
      exact Nat.add_pos_right _ (hp3 hw2 hco hout (Or.inr ⟨hw1, Or.inl hw3⟩))

/-- input is taken even without any output room, unless an earlier flush is still stuck in `outBuff` -/
theorem progress_in (co : Nat → Nat) (s : State) (inSize outSize : Nat) (endOp : EndOp) (h : Inv s)
    (hf : s.streamStage ≠ .flush) (hin : 0 < inSize) : 0 < (step co s inSize outSize endOp).2.consumed := by
  obtain ⟨s1, l1, he, ⟨-, -, ⟨hp1, -⟩, -⟩, -⟩ := step_spec co s inSize outSize endOp h
  rw [he]
  exact hp1 (entry_load s endOp inSize hf) hin

/-- e_end returns 0 exactly when the frame is complete: the last chunk went through `ZSTD_compressEnd_public` (`frameEnded`: last
block and epilogue are part of its output) and the session has been reset (the next call starts a new frame) -/
theorem end_zero_iff_frame_complete (co : Nat → Nat) (s : State) (inSize outSize : Nat) (h : Inv s) :
    (step co s inSize outSize .eEnd).2.ret = .val 0 ↔
      ((step co s inSize outSize .eEnd).1.streamStage = .init ∧ (step co s inSize outSize .eEnd).1.frameEnded = true) := by
  obtain ⟨s1, l1, he, ⟨hi, -, -⟩, hk⟩ := step_spec co s inSize outSize .eEnd h
  rw [he]
  show Ret.val (s1.outBuffContentSize - s1.outBuffFlushedSize) = .val 0 ↔ s1.streamStage = .init ∧ s1.frameEnded = true
  constructor
  · intro hz
    rcases hk with hk | hk | hk | hk
    · injection hz with hz; exact absurd (Nat.sub_eq_zero_iff_le.1 hz) (Nat.not_le.2 hk.2)
    · cases hk.1
    · cases hk.1
    · exact ⟨hk.1, hk.2.1⟩
  · intro ⟨a, _⟩
    obtain ⟨x, y, _⟩ := hi.out_load (by rw [a]; decide)
    rw [x, y]

/-- chunks taken from `inBuff` are at most a block long (`+ 1`: see `Bof`) and not empty unless final.  (The single-pass shortcut
hands the whole remaining input to `ZSTD_compressEnd_public` as one chunk: `buffered = false`, not bounded.) -/
theorem chunks_le_blockSize (co : Nat → Nat) (s : State) (inSize outSize : Nat) (endOp : EndOp) (h : Inv s)
    (idx srcAt srcSize outAt cSize : Nat) (last : Bool)
    (hm : Event.chunk idx srcAt srcSize outAt cSize last true ∈ (step co s inSize outSize endOp).2.events) :
    srcSize ≤ Bof (entry s endOp inSize) ∧ srcSize ≤ (step co s inSize outSize endOp).1.blockSize + 1 ∧
    (last = false → 0 < srcSize) := by
  obtain ⟨s1, l1, he, ⟨-, hd, -⟩, -⟩ := step_spec co s inSize outSize endOp h
  rw [he] at hm ⊢
  obtain ⟨a, b⟩ := hd.ev_ok nofun _ hm
  exact ⟨a, Nat.le_trans a (hd.blk_same ▸ Bof_le _), b⟩

/-- `ZSTD_nextInputSizeHint` (what `ZSTD_compressStream` returns) is exactly what is missing to fill the block being gathered -/
theorem hint_bounds (s : State) (h : Inv s) (hs : s.streamStage ≠ .init) :
    0 < nextInputSizeHint s ∧ nextInputSizeHint s ≤ Bof s ∧ s.inBuffPos + nextInputSizeHint s = s.inBuffTarget := by
  obtain ⟨-, -, a, b⟩ := h.1.frame hs
  have c := h.1.toC_le
  unfold nextInputSizeHint
  simp only []
  rw [if_neg (by omega)]
  omega

theorem Bof_eq (s : State) (h : s.blockSize ≠ pledgedOf s.pledgedSrcSizePlusOne) : Bof s = s.blockSize := by
  unfold Bof; rw [if_neg h]; rfl

example : (step (fun _ => 20) (State.start 10 0 none) 5 100 .eEnd).2.ret = .val 0 := by decide
example : (step (fun _ => 20) (State.start 10 0 none) 5 7 .eEnd).2.ret = .val 13 := by decide
example : (step (fun _ => 20) (State.start 10 0 none) 2000 7 .eFlush).2.consumed = 1024 := by decide

/-- `frameEnded` says whether the most recent chunk, of this call or of the frame so far, went through `ZSTD_compressEnd_public`;
with `end_zero_iff_frame_complete`: e_end returns 0 exactly when that chunk was the closing one and all of it is out -/
theorem frameEnded_eq_lastFlag (co : Nat → Nat) (s : State) (inSize outSize : Nat) (endOp : EndOp) (h : Inv s) :
    (step co s inSize outSize endOp).1.frameEnded =
      lastFlag (if s.streamStage = .init then false else s.frameEnded) (step co s inSize outSize endOp).2.events := by
  obtain ⟨s1, l1, he, ⟨-, -, -, hf⟩, -⟩ := step_spec co s inSize outSize endOp h
  rw [he]
  exact hf _ (by unfold entry; split <;> rfl)

end ZstdVerif.CStream
