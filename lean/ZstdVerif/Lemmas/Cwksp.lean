/-
The workspace allocator model never fails, and never returns NULL for a non-empty request, on a reservation sequence whose
rounded sizes plus two alignment gaps fit between the cursors.  Two invariants carry the argument: `Early` (object phase, room
for one more 63-byte gap) and `Room` (later phases, room between the cursors); every request leads from one to the next.
-/
import ZstdVerif.Model.Cwksp
namespace ZstdVerif.Cwksp

theorem align_mul (k a : Nat) (ha : 0 < a) : align (k * a) a = k * a := by
  unfold align
  rw [Nat.mul_comm k a, Nat.mul_add_div ha, Nat.div_eq_of_lt (Nat.sub_lt ha Nat.one_pos), Nat.add_zero, Nat.mul_comm]

theorem align_ge (n a : Nat) (ha : 0 < a) : n ≤ align n a := by
  unfold align
  have h1 := Nat.div_add_mod (n + (a - 1)) a
  have h2 := Nat.mod_lt (n + (a - 1)) ha
  have h3 : a * ((n + (a - 1)) / a) = (n + (a - 1)) / a * a := Nat.mul_comm _ _
  omega

theorem align_mono {a b : Nat} (n : Nat) (h : a ≤ b) : align a n ≤ align b n :=
  Nat.mul_le_mul_right _ (Nat.div_le_div_right (Nat.add_le_add_right h _))

/-- a table of 2^h 8-byte entries, h ≥ 3, is a whole number of 64-byte lines -/
theorem ldm_table_aligned (h : Nat) (h3 : 3 ≤ h) : align (2 ^ h * 8) 64 = 2 ^ h * 8 := by
  obtain ⟨k, rfl⟩ := Nat.exists_eq_add_of_le' h3
  rw [Nat.pow_add, Nat.mul_assoc]
  exact align_mul _ 64 (by decide)

theorem need_nil : need [] = 0 := rfl

theorem need_cons (r : Req) (rs : List Req) : need (r :: rs) = r.bytes + need rs := rfl

theorem need_append (a b : List Req) : need (a ++ b) = need a + need b := by
  simp only [need, List.map_append, List.sum_append]

theorem need_ite (c : Prop) [Decidable c] (rs : List Req) : need (if c then rs else []) = if c then need rs else 0 := by
  split <;> rfl

/-- result summary of a run: not failed, no NULL for a non-empty request -/
def Clean (x : Ws × List (Nat × Nat) × Nat) : Prop := x.1.failed = false ∧ x.2.2 = 0

/-- a run is clean when its first request is not answered NULL unless empty, and the rest of the run is clean -/
theorem clean_cons {w : Ws} {r : Req} {rs : List Req} (hnull : (step w r).2 = none → r.bytes = 0)
    (h : Clean (run (step w r).1 rs)) : Clean (run w (r :: rs)) := by
  unfold run
  rcases hs : step w r with ⟨w1, reg⟩
  rw [hs] at hnull h
  cases reg with
  | some g => exact h
  | none => exact ⟨h.1, by simp only [hnull rfl, if_true]; exact h.2⟩

/-- past the object phase, not failed, `m` bytes free between the cursors -/
structure Room (w : Ws) (m : Nat) : Prop where
  late : 1 ≤ w.phase
  ok : w.failed = false
  fits : w.tableEnd + m ≤ w.allocStart

/-- in the object phase, not failed, `m` bytes free after the largest gap the alignment of the table area can cost -/
structure Early (w : Ws) (m : Nat) : Prop where
  phase : w.phase = 0
  tables : w.tableEnd = w.objectEnd
  top : w.allocStart ≤ w.hi
  ok : w.failed = false
  fits : w.objectEnd + 63 + m ≤ w.allocStart

theorem advance_late {w : Ws} {m : Nat} (ph : Nat) (h : Room w m) : ∃ w1, advance w ph = some w1 ∧ Room w1 m := by
  have hl := h.late
  unfold advance
  by_cases h1 : ph > w.phase
  · rw [if_pos h1, if_neg (by omega)]
    exact ⟨_, rfl, by show 1 ≤ ph; omega, h.ok, h.fits⟩
  · rw [if_neg h1]
    exact ⟨_, rfl, h⟩

theorem advance_early {w : Ws} {m : Nat} (ph : Nat) (hph : 1 ≤ ph) (h : Early w m) : ∃ w1, advance w ph = some w1 ∧ Room w1 m := by
  have h0 := h.phase
  have ht := h.top
  have hf := h.fits
  unfold advance
  rw [if_pos (by omega), if_pos (by omega), if_neg (by omega)]
  exact ⟨_, rfl, hph, h.ok, by show w.objectEnd + (64 - w.objectEnd % 64) % 64 + m ≤ w.allocStart; omega⟩

theorem reserveInternal_room {w w1 : Ws} {bytes ph m : Nat} (ha : advance w ph = some w1) (h : Room w1 (bytes + m)) :
    Room (reserveInternal w bytes ph).1 m ∧ ((reserveInternal w bytes ph).2 = none → bytes = 0) := by
  have hf := h.fits
  simp only [reserveInternal, ha]
  by_cases hz : bytes = 0
  · rw [if_pos hz]
    exact ⟨⟨h.late, h.ok, by show w1.tableEnd + m ≤ w1.allocStart; omega⟩, fun _ => hz⟩
  · rw [if_neg hz]
    unfold reserveDown
    rw [if_neg (by omega)]
    exact ⟨⟨h.late, h.ok, by show w1.tableEnd + m ≤ w1.allocStart - bytes; omega⟩, fun hn => nomatch hn⟩

/-- a request other than an object, from a state whose phase advance leaves room for it, leaves room for the rest -/
theorem step_room {w : Ws} {r : Req} {m : Nat} (hr : isObject r = false)
    (hadv : ∀ ph, 1 ≤ ph → ∃ w1, advance w ph = some w1 ∧ Room w1 (r.bytes + m)) :
    Room (step w r).1 m ∧ ((step w r).2 = none → r.bytes = 0) := by
  cases r with
  | object n => cases hr
  | table n =>
    obtain ⟨w1, ha, h⟩ := hadv 1 (Nat.le_refl 1)
    have hf : w1.tableEnd + (n + m) ≤ w1.allocStart := h.fits
    have hpre : (if w.phase < 1 then advance w 1 else some w) = some w1 := by
      split
      · exact ha
      · rw [← ha, advance, if_neg (by omega)]
    unfold step
    simp only [hpre]
    rw [if_neg (by omega)]
    exact ⟨⟨h.late, h.ok, by show w1.tableEnd + n + m ≤ w1.allocStart; omega⟩, fun hn => nomatch hn⟩
  | aligned n io =>
    obtain ⟨w1, ha, h⟩ := hadv (if io then 1 else 2) (by split <;> decide)
    exact reserveInternal_room ha h
  | buffer n =>
    obtain ⟨w1, ha, h⟩ := hadv 3 (by decide)
    exact reserveInternal_room ha h

theorem run_clean_late (rs : List Req) : ∀ (w : Ws), (∀ r ∈ rs, isObject r = false) → Room w (need rs) → Clean (run w rs) := by
  induction rs with
  | nil => intro w _ h; exact ⟨h.ok, rfl⟩
  | cons r rs ih =>
    intro w hobj h
    have hs := step_room (hobj r (List.mem_cons_self ..)) (fun ph _ => advance_late ph h)
    exact clean_cons hs.2 (ih _ (fun q hq => hobj q (List.mem_cons_of_mem _ hq)) hs.1)

theorem isObject_object (n : Nat) : isObject (.object n) = true := rfl
theorem isObject_table (n : Nat) : isObject (.table n) = false := rfl
theorem isObject_aligned (n : Nat) (b : Bool) : isObject (.aligned n b) = false := rfl
theorem isObject_buffer (n : Nat) : isObject (.buffer n) = false := rfl

/-- an object is served in place and leaves the workspace in the object phase -/
theorem step_object {w : Ws} {n m : Nat} (h : Early w (align n 8 + m)) :
    Early (step w (.object n)).1 m ∧ (step w (.object n)).2 ≠ none := by
  have h0 := h.phase
  have ht := h.top
  have hf := h.fits
  unfold step
  simp only []
  rw [if_neg (by omega)]
  exact ⟨⟨h0, rfl, ht, h.ok, by show w.objectEnd + align n 8 + 63 + m ≤ w.allocStart; omega⟩, fun hn => nomatch hn⟩

theorem run_clean_early (rs : List Req) : ∀ (w : Ws), objectsFirst rs = true → Early w (need rs) → Clean (run w rs) := by
  induction rs with
  | nil => intro w _ h; exact ⟨h.ok, rfl⟩
  | cons r rs ih =>
    intro w hof h
    rw [need_cons] at h
    unfold objectsFirst at hof
    by_cases hr : isObject r = true
    · rw [if_pos hr] at hof
      cases r with
      | object n =>
        have hs := step_object h
        exact clean_cons (fun hn => absurd hn hs.2) (ih _ hof hs.1)
      | _ => cases hr
    · rw [if_neg hr] at hof
      have hs := step_room (Bool.not_eq_true _ ▸ hr) (fun ph hph => advance_early ph hph h)
      refine clean_cons hs.2 (run_clean_late rs _ (fun q hq => ?_) hs.1)
      simpa using List.all_eq_true.mp hof q hq

/-- the shape of the compressor's sequence: a block of objects, then none -/
theorem objectsFirst_append {a b : List Req} (ha : a.all isObject = true) (hb : b.all (fun q => !isObject q) = true) :
    objectsFirst (a ++ b) = true := by
  induction a with
  | nil =>
    cases b with
    | nil => rfl
    | cons r rs =>
      simp only [List.all_cons, Bool.and_eq_true, Bool.not_eq_true'] at hb
      simp only [List.nil_append, objectsFirst, hb.1, Bool.false_eq_true, if_false]
      exact hb.2
  | cons r rs ih =>
    simp only [List.all_cons, Bool.and_eq_true] at ha
    simp only [List.cons_append, objectsFirst, ha.1, if_true]
    exact ih ha.2

theorem all_ite_nil {α : Type} (c : Prop) [Decidable c] (l : List α) (f : α → Bool) :
    (if c then l else []).all f = (!decide c || l.all f) := by
  by_cases h : c <;> simp [h]

/-- **the sizing rule**: in a fresh workspace of `size` bytes at ANY address, a sequence (objects first) whose rounded sizes add up to
at most size - 126 never fails: the two alignment gaps cost at most 63 bytes each. -/
theorem init_run_clean (lo size : Nat) (rs : List Req) (hof : objectsFirst rs = true) (hfit : need rs + 126 ≤ size) :
    Clean (run (init lo size) rs) := by
  refine run_clean_early rs _ hof ⟨rfl, rfl, Nat.sub_le _ _, rfl, ?_⟩
  show lo + 63 + need rs ≤ lo + size - (lo + size) % 64
  omega

end ZstdVerif.Cwksp
