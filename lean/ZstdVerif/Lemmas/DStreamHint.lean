/-
Output-side progress (`progress_output`) and the exactness of the input-size hint (`hint_exact`) of the model of
`ZSTD_decompressStream` (Model/DStream.lean).  The hint part follows a run call by call, turn by turn, on the outcome-by-outcome
statements of DStreamRT.  Taken from here by others: `progress_output`, `hint_exact` and, at the end of the file, the comparison of the
pacing specification's frame shape with the frame (`shape_frameSize`, `shape_facts`, `hints_head`) for Props/C10; `flush_call`,
`finish_progress` and `InStage` for DStreamTotal.
-/
import ZstdVerif.Lemmas.DStreamRT
namespace ZstdVerif.DStream
open ZstdVerif.Gen ZstdVerif.Stream

/-! ## progress on the output side -/

/-- the stages a loop that started inside a frame can be in -/
def InStage (s : State) : Prop := s.ss = .read ∨ s.ss = .load ∨ s.ss = .flush

theorem stFlush_op (s : State) (l : Loc) (o : Nat) (hpend : s.outStart < s.outEnd) (ho : l.op < o) :
    (stFlush s l o).Sat (fun _ l1 => l.op < l1.op) (fun _ l1 => l.op < l1.op) (fun _ _ _ => False) := by
  obtain ⟨k, hk, ⟨_, ⟨-, -, e⟩ | ⟨-, e⟩⟩ | ⟨_, _, e⟩⟩ := stFlush_cases s l o <;> rw [e] <;> show l.op < l.op + k <;> omega

theorem finish_progress (s : State) (l : Loc) (i o : Nat) (h : l.op ≠ 0) :
    (finish s l i o).2.produced = l.op ∧ ∀ e, (finish s l i o).2.ret ≠ .err e := by
  obtain ⟨nf, ⟨e, _, _, _, h0, _⟩ | heq⟩ := finish_cases s l i o
  · exact absurd h0 h
  · rw [heq]; exact ⟨rfl, result_no_err _ l i⟩

/-- a call made in zdss_flush with pending output and output room: its loop is left after at least one byte has been handed over, unless
the input buffer cannot hold a stage's input.  (After the first turn, `1 ≤ op` rules out the returns of zdss_loadHeader.) -/
theorem flush_call (all : List FrameD) (hok : AllOk all) (s : State) (hinv : Inv all s) (i o : Nat)
    (hlim : s.totalIn + i ≤ sizeAll all) (hss : s.ss = .flush) (hpend : s.outStart < s.outEnd) (ho : 0 < o) :
    (∃ s1 l1, 1 ≤ l1.op ∧ step s i o = finish s1 l1 i o) ∨ ∃ s1, step s i o = returned s1 0 (.err .corruption) := by
  have hJ : ∀ s1 l1, LInv all s1 l1 → Bd s1 l1 s.totalIn s.totalOut s.maxWindowSize i o →
      1 ≤ l1.op ∨ (l1.op = 0 ∧ s1.ss = .flush ∧ s1.outStart < s1.outEnd) →
      (micro s1 l1 i o).Sat (fun s2 l2 => 1 ≤ l2.op ∨ (l2.op = 0 ∧ s2.ss = .flush ∧ s2.outStart < s2.outEnd)) (fun _ l2 => 1 ≤ l2.op)
        (fun _ c r => c = 0 ∧ r = .err .corruption) := by
    intro s1 l1 hl hb hj
    rcases hj with hj | ⟨h0, hf, hp⟩
    · have hm := micro_ok all hok _ _ _ i o s1 l1 hl hb hlim
      unfold OutOk at hm
      cases hmic : micro s1 l1 i o <;> rw [hmic] at hm
      · exact Or.inl (Nat.le_trans hj hm.2.2.2)
      · exact Nat.le_trans hj hm.2.2
      · cases hm with
        | corruption => exact ⟨rfl, rfl⟩
        | window _ h0 => omega
        | hint _ h0 => omega
    · have hfl := stFlush_op s1 l1 o hp (by omega)
      rw [show micro s1 l1 i o = stFlush s1 l1 o by unfold micro; rw [hf]]
      cases hst : stFlush s1 l1 o <;> rw [hst] at hfl
      · exact Or.inl (Nat.succ_le_of_lt (Nat.lt_of_le_of_lt (Nat.zero_le _) hfl))
      · exact Nat.succ_le_of_lt (Nat.lt_of_le_of_lt (Nat.zero_le _) hfl)
      · exact hfl.elim
  rcases step_cases hok hinv hlim hJ (Or.inr ⟨rfl, hss, hpend⟩) with ⟨s1, l1, ⟨_, h1⟩, heq⟩ | ⟨s1, c, r, ⟨_, rfl, rfl⟩, heq⟩
  · exact Or.inl ⟨s1, l1, h1, heq⟩
  · exact Or.inr ⟨s1, heq⟩

/-- **progress (output side)**: a call made in zdss_flush with pending output and output room hands over at least one byte unless it
reports an error — even with no input at all (`inAvail = 0`) -/
theorem progress_output (all : List FrameD) (_hok : AllOk all) (s : State) (_hinv : Inv all s) (inAvail outCap : Nat)
    (_hlim : s.totalIn + inAvail ≤ sizeAll all) (hss : s.ss = .flush) (hpend : s.outStart < s.outEnd) (ho : 0 < outCap)
    (hne : ∀ e, (step s inAvail outCap).2.ret ≠ .err e) : 0 < (step s inAvail outCap).2.produced := by
  rcases flush_call all _hok s _hinv inAvail outCap _hlim hss hpend ho with ⟨s1, l1, h1, heq⟩ | ⟨s1, heq⟩
  · rw [heq, (finish_progress s1 l1 inAvail outCap (by omega)).1]; exact h1
  · rw [heq] at hne; exact absurd rfl (hne _)

/-! ## the input-size hint is exact

A run in which every call is offered exactly the number of bytes the previous call asked for (`hintedRets`).  Each call of such a run
decodes one stage of the frame (and, after a block that is not the last, the next block header) in a short, fixed sequence of turns; so
the run follows the stage machine alone (`dRets`), and the stage machine's requests are `Stream.hints`. -/

def StopsIn (i o k : Nat) (s : State) (l : Loc) (s2 : State) (l2 : Loc) : Prop := ∀ n, k ≤ n → loop n s l i o = .stop s2 l2

theorem StopsIn.stop {i o : Nat} {s s2 : State} {l l2 : Loc} (h : micro s l i o = .stop s2 l2) : StopsIn i o 1 s l s2 l2 := fun n hn => by
  obtain ⟨m, rfl⟩ : ∃ m, n = m + 1 := ⟨n - 1, by omega⟩
  rw [loop, h]

theorem StopsIn.cont {i o k : Nat} {s s1 s2 : State} {l l1 l2 : Loc} (h : micro s l i o = .cont s1 l1) (h2 : StopsIn i o k s1 l1 s2 l2) :
    StopsIn i o (k + 1) s l s2 l2 := fun n hn => by
  obtain ⟨m, rfl⟩ : ∃ m, n = m + 1 := ⟨n - 1, by omega⟩
  rw [loop, h]
  exact h2 m (by omega)

theorem StopsIn.mono {i o k k' : Nat} {s s2 : State} {l l2 : Loc} (h : StopsIn i o k s l s2 l2) (hk : k ≤ k') : StopsIn i o k' s l s2 l2 :=
  fun n hn => h n (by omega)

/-- nothing buffered on the input side, nothing pending on the output side, no byte withheld -/
structure Quiet (s : State) : Prop where
  inp : s.inPos = 0
  fl : s.outStart = s.outEnd
  host : s.hostage = false

/-- the hint `ZSTD_decompressStream` computes from the stage machine when nothing is buffered or pending -/
def hintOf (d : DCtx) : Nat :=
  if d.expected = 0 then 0 else d.expected + (if d.nextIsBlock then ZSTD_blockHeaderSize else 0)

theorem finish_quiet (s : State) (l : Loc) (i o : Nat) (hip : l.ip ≠ 0) (q : Quiet s) :
    finish s l i o = ({ s with noFwd := 0, totalIn := s.totalIn + l.ip, totalOut := s.totalOut + l.op },
      ⟨l.ip, l.op, s.totalOut, .hint (hintOf s.d)⟩) := by
  unfold finish result hintOf
  simp only [hip, decide_false, Bool.false_and, Bool.false_eq_true, if_false, DCtx.nextSrcSize, q.fl, q.host, q.inp, Nat.sub_zero]
  split <;> rfl

theorem step_of_stops {s s2 : State} {l2 : Loc} {i o k : Nat} (h : StopsIn i o k s {} s2 l2) (hk : k ≤ loopFuel i) (hip : l2.ip ≠ 0)
    (q : Quiet s2) :
    step s i o = ({ s2 with noFwd := 0, totalIn := s2.totalIn + l2.ip, totalOut := s2.totalOut + l2.op },
      ⟨l2.ip, l2.op, s2.totalOut, .hint (hintOf s2.d)⟩) := by
  unfold step
  rw [h _ hk]
  exact finish_quiet s2 l2 i o hip q

/-! ### the turns of zdss_read and zdss_flush -/

theorem micro_read {s : State} (l : Loc) (i o : Nat) (hss : s.ss = .read) : micro s l i o = stRead s l i := by
  unfold micro; rw [hss]

theorem micro_loadHeader {s : State} (l : Loc) (i o : Nat) (hss : s.ss = .loadHeader) : micro s l i o = stLoadHeader s l i o := by
  unfold micro; rw [hss]

theorem read_stops (s : State) (l : Loc) (i o : Nat) (hss : s.ss = .read) (hst : stageOk s.d s.blocks) (hip : l.ip = i) :
    StopsIn i o 1 s l { s with ss := if s.d.expected = 0 then .init else .read } l := by
  obtain ⟨n0, _⟩ := needed_facts s.d s.blocks (i - l.ip) hst
  refine .stop ((micro_read l i o hss).trans ?_)
  rcases stRead_cases s l i with ⟨h0, e⟩ | ⟨h0, ⟨_, _⟩ | ⟨_, e⟩ | ⟨_, _, _⟩⟩
  · rw [e, if_pos (n0.1 h0)]
  · omega
  · rw [e, if_neg (fun he => h0 (n0.2 he))]
    exact congrArg (Out.stop · l) (by rw [← hss])
  · omega

theorem micro_flush_all (s : State) (l : Loc) (i o : Nat) (hss : s.ss = .flush) (hole : s.outStart ≤ s.outEnd)
    (hroom : s.outEnd - s.outStart ≤ o - l.op) :
    ∃ s1, micro s l i o = .cont s1 ⟨l.ip, l.op + (s.outEnd - s.outStart)⟩ ∧ s1.ss = .read ∧ s1.d = s.d ∧ s1.blocks = s.blocks ∧
      s1.cur = s.cur ∧ s1.inPos = s.inPos ∧ s1.hostage = s.hostage ∧ s1.outStart = s1.outEnd := by
  have hm : micro s l i o = stFlush s l o := by unfold micro; rw [hss]
  obtain ⟨k, hk, ⟨hk2, ⟨-, -, e⟩ | ⟨-, e⟩⟩ | ⟨_, _, _⟩⟩ := stFlush_cases s l o
  · exact ⟨{ s with ss := .read, segEnd := s.outStart + k, outStart := 0, outEnd := 0 }, by rw [hm, e, hk2], rfl, rfl, rfl, rfl, rfl, rfl, rfl⟩
  · exact ⟨{ s with ss := .read, outStart := s.outStart + k }, by rw [hm, e, hk2], rfl, rfl, rfl, rfl, rfl, rfl,
      by show s.outStart + k = s.outEnd; omega⟩
  · omega

/-! ### a call that is offered what the previous one asked for -/

theorem needed_full (d : DCtx) (a : Nat) (he : d.expected ≠ 0) (ha : d.expected ≤ a) : d.nextSrcSizeWithInput a = d.expected := by
  unfold DCtx.nextSrcSizeWithInput
  split
  · rfl
  · split
    · rfl
    · omega

/-- one `ZSTD_decompressContinue` on the whole input of the stage, as `continueStream` makes it: the stage reached and the blocks ahead -/
def DCtx.eat (d : DCtx) (cur : FrameD) (bs : List BlockD) : DCtx × List BlockD :=
  ((d.continue cur (bs.head?.getD default) d.expected).1, if d.stage == .decodeBlockHeader then bs.tail else bs)

/-- zdss_read with the whole stage in the input and room for what it writes: the stage is decoded and its output handed over, in one
turn or two; the loop goes on in zdss_read with nothing pending -/
theorem take_turns (s : State) (l : Loc) (i o k : Nat) (P : State → Loc → Prop) (hss : s.ss = .read) (q : Quiet s)
    (he : s.d.expected ≠ 0) (hin : s.d.expected ≤ i - l.ip)
    (hw : (s.d.continue s.cur (s.blocks.head?.getD default) s.d.expected).2 ≤ o - l.op)
    (hk : ∀ s3, s3.ss = .read → Quiet s3 → s3.d = (s.d.eat s.cur s.blocks).1 → s3.blocks = (s.d.eat s.cur s.blocks).2 → s3.cur = s.cur →
      ∃ s2 l2, StopsIn i o k s3 ⟨l.ip + s.d.expected, l.op + (s.d.continue s.cur (s.blocks.head?.getD default) s.d.expected).2⟩ s2 l2 ∧
        P s2 l2) :
    ∃ s2 l2, StopsIn i o (k + 2) s l s2 l2 ∧ P s2 l2 := by
  have hm : micro s l i o = .cont (continueStream s s.d.expected) { l with ip := l.ip + s.d.expected } := by
    rw [micro_read l i o hss]
    rcases stRead_cases s l i with ⟨h0, _⟩ | ⟨_, ⟨_, e⟩ | ⟨_, _⟩ | ⟨_, _, _⟩⟩
    · exact absurd ((needed_full s.d _ he hin).symm.trans h0) he
    · rw [e, needed_full s.d _ he hin]
    all_goals rw [needed_full s.d _ he hin] at *; omega
  obtain ⟨v, oe, hv, e⟩ := continueStream_eq s s.d.expected
  rw [e] at hm
  unfold DCtx.eat at hk
  generalize s.d.continue s.cur (s.blocks.head?.getD default) s.d.expected = r at hm hw hk hv
  generalize (if (s.d.stage == .decodeBlockHeader) = true then s.blocks.tail else s.blocks) = rest at hm hk
  rcases hv with ⟨rfl, h0, rfl⟩ | ⟨rfl, rfl⟩
  · -- nothing was written
    obtain ⟨s2, l2, h2, hp⟩ := hk { s with d := r.1, blocks := rest, outEnd := s.outEnd, ss := .read } rfl ⟨q.inp, q.fl, q.host⟩ rfl rfl rfl
    rw [h0] at h2
    exact ⟨s2, l2, (StopsIn.cont hm h2).mono (by omega), hp⟩
  · obtain ⟨s3, hm2, a1, a2, a3, a4, a5, a6, a7⟩ := micro_flush_all { s with d := r.1, blocks := rest, outEnd := s.outStart + r.2, ss := .flush }
      { l with ip := l.ip + s.d.expected } i o rfl (Nat.le_add_right _ _) (by show s.outStart + r.2 - s.outStart ≤ o - l.op; omega)
    obtain ⟨s2, l2, h2, hp⟩ := hk s3 a1 ⟨a5.trans q.inp, a7, a6.trans q.host⟩ a2 a3 a4
    refine ⟨s2, l2, StopsIn.cont hm (StopsIn.cont hm2 ?_), hp⟩
    rw [show s.outStart + r.2 - s.outStart = r.2 from Nat.add_sub_cancel_left ..]
    exact h2

theorem stDecodeBlockHeader_snd (d : DCtx) (b : BlockD) : (d.stDecodeBlockHeader b).2 = 0 := by
  unfold DCtx.stDecodeBlockHeader
  dsimp only
  split
  · rfl
  · split <;> rfl

def Fits (room : Nat) (d : DCtx) (bs : List BlockD) : Prop :=
  (d.stage = .decompressBlock ∨ d.stage = .decompressLastBlock → curOut d ≤ room) ∧ ∀ b ∈ bs, b.regen ≤ room

theorem eat_hdr (cur : FrameD) {d : DCtx} (b : BlockD) (rest : List BlockD) (hs : d.stage = .decodeBlockHeader) :
    d.eat cur (b :: rest) = ((d.stDecodeBlockHeader b).1, rest) ∧ (d.continue cur ((b :: rest).head?.getD default) d.expected).2 = 0 := by
  simp only [DCtx.eat, DCtx.continue, hs, List.head?_cons, Option.getD_some, beq_self_eq_true, if_true, List.tail_cons,
    stDecodeBlockHeader_snd, and_self]

theorem eat_block (cur : FrameD) {d : DCtx} (bs : List BlockD) (hs : d.stage = .decompressBlock) :
    d.eat cur bs = ({ d with expected := ZSTD_blockHeaderSize, decodedSize := d.decodedSize + curOut d, stage := .decodeBlockHeader }, bs) ∧
    (d.continue cur (bs.head?.getD default) d.expected).2 = curOut d := by
  simp only [DCtx.eat, DCtx.continue, hs, stDecompressBlock_full, reduceCtorEq, beq_iff_eq, if_false, and_self]

theorem eat_last (cur : FrameD) {d : DCtx} (bs : List BlockD) (hs : d.stage = .decompressLastBlock) :
    d.eat cur bs = ({ d with expected := 0, decodedSize := d.decodedSize + curOut d }.endOfBlocks, bs) ∧
    (d.continue cur (bs.head?.getD default) d.expected).2 = curOut d := by
  simp only [DCtx.eat, DCtx.continue, hs, stDecompressBlock_full, reduceCtorEq, beq_iff_eq, beq_self_eq_true, if_true, if_false, and_self]

theorem eat_end (cur : FrameD) {d : DCtx} (bs : List BlockD) (hs : d.stage = .checkChecksum ∨ d.stage = .skipFrame) :
    d.eat cur bs = ({ d with expected := 0, stage := .getFrameHeaderSize }, bs) ∧
    (d.continue cur (bs.head?.getD default) d.expected).2 = 0 := by
  rcases hs with hs | hs <;> simp only [DCtx.eat, DCtx.continue, hs, reduceCtorEq, beq_iff_eq, if_false, and_self]

theorem eat_ok (cur : FrameD) (d : DCtx) (bs : List BlockD) (room : Nat) (hst : stageOk d bs) (he : d.expected ≠ 0) (hf : Fits room d bs) :
    (d.continue cur (bs.head?.getD default) d.expected).2 ≤ room ∧ stageOk (d.eat cur bs).1 (d.eat cur bs).2 ∧
    Fits room (d.eat cur bs).1 (d.eat cur bs).2 := by
  obtain ⟨_, _, a3, a4⟩ := continue_acct d bs cur d.expected hst he (Nat.le_refl _) (fun _ => rfl)
  refine ⟨?_, a4, ?_⟩ <;> have hs0 := hst <;> cases hs : d.stage <;> simp only [stageOk, hs] at hs0
  · exact absurd hs0 he
  · cases bs with
    | nil => exact absurd rfl (lastOk_ne_nil hs0.2.1)
    | cons b rest => rw [(eat_hdr cur b rest hs).2]; exact Nat.zero_le _
  · rw [(eat_block cur bs hs).2]; exact hf.1 (Or.inl hs)
  · rw [(eat_last cur bs hs).2]; exact hf.1 (Or.inr hs)
  · rw [(eat_end cur bs (Or.inl hs)).2]; exact Nat.zero_le _
  · rw [(eat_end cur bs (Or.inr hs)).2]; exact Nat.zero_le _
  · exact absurd hs0 he
  · -- a block header: the block it announces is one of the blocks ahead
    cases bs with
    | nil => exact absurd rfl (lastOk_ne_nil hs0.2.1)
    | cons b rest =>
      obtain ⟨e1, e2⟩ := eat_hdr cur b rest hs
      have a4' : stageOk (d.eat cur (b :: rest)).1 (d.eat cur (b :: rest)).2 := a4
      have a3' : remRegen (d.eat cur (b :: rest)).1 (d.eat cur (b :: rest)).2 + _ = _ := a3
      rw [e2] at a3'
      rw [e1] at a3' a4' ⊢
      have hb := hf.2 b (by simp)
      simp only [remRegen, hs, blocksRegen] at a3'
      refine ⟨fun hblk => ?_, fun x hx => hf.2 x (by simp [hx])⟩
      dsimp only at hblk a3' a4' ⊢
      rcases hblk with hblk | hblk <;> simp only [stageOk, hblk] at a3' a4'
      · omega
      · rw [a4'.2] at a3'; simp only [blocksRegen] at a3'; omega
  · rw [(eat_block cur bs hs).1]; exact ⟨(fun h => by rcases h with h | h <;> cases h), hf.2⟩
  · rw [(eat_last cur bs hs).1]
    refine ⟨fun h => ?_, hf.2⟩
    unfold DCtx.endOfBlocks at h
    split at h <;> rcases h with h | h <;> cases h
  · rw [(eat_end cur bs (Or.inl hs)).1]; exact ⟨(fun h => by rcases h with h | h <;> cases h), hf.2⟩
  · rw [(eat_end cur bs (Or.inr hs)).1]; exact ⟨(fun h => by rcases h with h | h <;> cases h), hf.2⟩

/-- what a call of a hint-following run decodes: one stage, and after a block body that is not the last the header of the next block -/
def next (cur : FrameD) (d : DCtx) (bs : List BlockD) : DCtx × List BlockD :=
  if d.stage = .decompressBlock then (d.eat cur bs).1.eat cur (d.eat cur bs).2 else d.eat cur bs

/-- the decoder waits in zdss_read for the input of a stage, nothing is buffered or pending, and what the blocks regenerate fits the
caller's room -/
structure Wait (room : Nat) (s : State) : Prop where
  ss : s.ss = .read
  q : Quiet s
  ne : s.d.expected ≠ 0
  stg : stageOk s.d s.blocks
  fit : Fits room s.d s.blocks

theorem hintOf_eq (d : DCtx) (he : d.expected ≠ 0) : hintOf d = d.expected + (if d.stage = .decompressBlock then 3 else 0) := by
  simp [hintOf, he, DCtx.nextIsBlock, ZSTD_blockHeaderSize]

theorem call_turns (s : State) (l : Loc) (i room : Nat) (h : Wait room s) (hop : l.op = 0) (hi : i = l.ip + hintOf s.d) :
    ∃ s2 l2, StopsIn i room 5 s l s2 l2 ∧ l2.ip = i ∧ Quiet s2 ∧ s2.cur = s.cur ∧ s2.d = (next s.cur s.d s.blocks).1 ∧
      s2.blocks = (next s.cur s.d s.blocks).2 ∧ s2.ss = (if s2.d.expected = 0 then .init else .read) ∧ stageOk s2.d s2.blocks ∧
      Fits room s2.d s2.blocks := by
  obtain ⟨w1, st1, f1⟩ := eat_ok s.cur s.d s.blocks room h.stg h.ne h.fit
  have hh := hintOf_eq s.d h.ne
  -- the last turn: zdss_read stops
  have last : ∀ (s3 : State) (l3 : Loc), s3.ss = .read → Quiet s3 → stageOk s3.d s3.blocks → l3.ip = i →
      StopsIn i room 1 s3 l3 { s3 with ss := if s3.d.expected = 0 then .init else .read } l3 := fun s3 l3 a b c d => read_stops s3 l3 i room a c d
  unfold next
  by_cases hb : s.d.stage = .decompressBlock
  · rw [if_pos hb] at hh ⊢
    have e1 := (eat_block s.cur s.blocks hb).1
    refine (take_turns s l i room 3 _ h.ss h.q h.ne (by omega) (by omega) fun s3 a1 a2 a3 a4 a5 => ?_).imp fun s2 => id
    have hst3 : stageOk s3.d s3.blocks := by rw [a3, a4]; exact st1
    have he3 : s3.d.expected = 3 := by rw [a3, e1]; rfl
    obtain ⟨_, st2, f2⟩ := eat_ok s3.cur s3.d s3.blocks room hst3 (by omega) (by rw [a3, a4]; exact f1)
    have hw2 : (s3.d.continue s3.cur (s3.blocks.head?.getD default) s3.d.expected).2 = 0 := by
      simp only [DCtx.continue, show s3.d.stage = .decodeBlockHeader by rw [a3, e1], stDecodeBlockHeader_snd]
    refine (take_turns s3 _ i room 1 _ a1 a2 (by omega) (by dsimp only; omega) (by rw [hw2]; exact Nat.zero_le _)
      fun s4 b1 b2 b3 b4 b5 => ?_).imp fun s2 => id
    have hst4 : stageOk s4.d s4.blocks := by rw [b3, b4]; exact st2
    rw [a3, a4, a5] at b3 b4
    exact ⟨_, _, last s4 _ b1 b2 hst4 (by dsimp only; omega), by dsimp only; omega, ⟨b2.inp, b2.fl, b2.host⟩, b5.trans a5, b3, b4, rfl, hst4,
      by rw [b3, b4, ← a3, ← a4, ← a5]; exact f2⟩
  · rw [if_neg hb] at hh ⊢
    refine (take_turns s l i room 1 _ h.ss h.q h.ne (by omega) (by omega) fun s3 a1 a2 a3 a4 a5 => ?_).imp fun s2 h2 => h2.imp fun l2 h3 =>
      ⟨h3.1.mono (by omega), h3.2⟩
    have hst3 : stageOk s3.d s3.blocks := by rw [a3, a4]; exact st1
    exact ⟨_, _, last s3 _ a1 a2 hst3 (by dsimp only; omega), by dsimp only; omega, ⟨a2.inp, a2.fl, a2.host⟩, a5, a3, a4, rfl, hst3,
      by rw [a3, a4]; exact f1⟩

/-- **a call that is offered what the stage machine asks for** decodes `next`, and asks for what the stage machine asks for then.  The
call may have begun in zdss_loadHeader (`s0`) and reached zdss_read (`s`, at position `l`) in `k` turns -/
theorem call_from (s0 s : State) (l : Loc) (i room k : Nat) (h : Wait room s) (hop : l.op = 0) (hi : i = l.ip + hintOf s.d) (hk : k ≤ 1)
    (hreach : ∀ s2 l2, StopsIn i room 5 s l s2 l2 → StopsIn i room (5 + k) s0 {} s2 l2) :
    (step s0 i room).2.ret = .hint (hintOf (next s.cur s.d s.blocks).1) ∧ (step s0 i room).1.cur = s.cur ∧
    (step s0 i room).1.d = (next s.cur s.d s.blocks).1 ∧ (step s0 i room).1.blocks = (next s.cur s.d s.blocks).2 ∧
    ((next s.cur s.d s.blocks).1.expected ≠ 0 → Wait room (step s0 i room).1) := by
  obtain ⟨s2, l2, hstop, hip, q, c1, c2, c3, c4, c5, c6⟩ := call_turns s l i room h hop hi
  have := hintOf_eq s.d h.ne
  have hne := h.ne
  rw [step_of_stops (hreach s2 l2 hstop) (by unfold loopFuel; omega) (by omega) q]
  refine ⟨by rw [c2], c1, c2, c3, fun he => ⟨?_, ⟨q.inp, q.fl, q.host⟩, c2 ▸ he, c5, c6⟩⟩
  show s2.ss = _
  rw [c4, if_neg (c2 ▸ he)]

theorem hintedRets_hint (fuel : Nat) (s : State) (h room n : Nat) (hr : (step s h room).2.ret = .hint n) :
    hintedRets (fuel + 1) s h room = n :: if n = 0 then [] else hintedRets fuel (step s h room).1 n room := by
  rw [hintedRets, hr]
  cases n <;> simp

/-- the requests the stage machine alone makes from the call that decodes `next cur d bs` on, closed by the 0 that ends the frame -/
def dRets (cur : FrameD) : Nat → DCtx → List BlockD → List Nat
  | 0, _, _ => []
  | fuel + 1, d, bs =>
    hintOf (next cur d bs).1 :: if hintOf (next cur d bs).1 = 0 then [] else dRets cur fuel (next cur d bs).1 (next cur d bs).2

theorem hintedRets_eq (room : Nat) : ∀ (fuel : Nat) (s : State), Wait room s →
    hintedRets fuel s (hintOf s.d) room = dRets s.cur fuel s.d s.blocks := by
  intro fuel
  induction fuel with
  | zero => intro s _; rfl
  | succ n ih =>
    intro s h
    obtain ⟨c1, c2, c3, c4, c5⟩ := call_from s s {} _ room 0 h rfl (Nat.zero_add _).symm (Nat.zero_le _) (fun _ _ h => h)
    rw [hintedRets_hint n s _ room _ c1, dRets]
    by_cases h0 : hintOf (next s.cur s.d s.blocks).1 = 0
    · rw [if_pos h0, if_pos h0]
    · rw [if_neg h0, if_neg h0]
      have := ih _ (c5 (fun he => h0 (if_pos he)))
      rw [c2, c3, c4] at this
      rw [this]

theorem hintedRets_from (room fuel : Nat) (s s' : State) (h n : Nat) (hs : (step s h room).1 = s') (hr : (step s h room).2.ret = .hint n)
    (hn : hintOf s'.d = n) (hW : n ≠ 0 → Wait room s') :
    hintedRets (fuel + 1) s h room = n :: if n = 0 then [] else dRets s'.cur fuel s'.d s'.blocks := by
  rw [hintedRets_hint fuel s h room n hr]
  by_cases h0 : n = 0
  · rw [if_pos h0, if_pos h0]
  · rw [if_neg h0, if_neg h0, hs, ← hn, hintedRets_eq room fuel s' (hW h0)]

/-- the stage machine's requests over the blocks of a frame: after the header of `b` has been read, the body of `b` is asked for together
with the next header, the body of the last block alone, then the checksum -/
theorem dRets_blocks (cur : FrameD) (sh : FrameShape) : ∀ (rest : List BlockD) (b : BlockD) (d0 : DCtx) (fuel : Nat),
    d0.checksum = sh.checksum → lastOk (b :: rest) = true → rest.length + 2 ≤ fuel →
    hintOf (d0.stDecodeBlockHeader b).1 ::
      (if hintOf (d0.stDecodeBlockHeader b).1 = 0 then [] else dRets cur fuel (d0.stDecodeBlockHeader b).1 rest) =
      hints.go sh ((b :: rest).map (·.cSize)) ++ [0] := by
  have full : ∀ (d : DCtx) (n : Nat), n = d.expected → d.stDecompressBlock n =
      (if d.stage == .decompressLastBlock then { d with expected := 0, decodedSize := d.decodedSize + curOut d }.endOfBlocks
       else { d with expected := ZSTD_blockHeaderSize, decodedSize := d.decodedSize + curOut d, stage := .decodeBlockHeader }, curOut d) :=
    fun d n h => h ▸ stDecompressBlock_full d
  intro rest
  induction rest with
  | nil =>
    intro b d0 fuel hck hlast hfuel
    have hl : b.last = true := by simpa [lastOk] using hlast
    obtain ⟨f1, rfl⟩ : ∃ f1, fuel = f1 + 2 := ⟨fuel - 2, by simp only [List.length_nil] at hfuel; omega⟩
    by_cases hc : b.cSize = 0 <;> cases hk : sh.checksum <;> rw [hk] at hck <;>
      simp [DCtx.stDecodeBlockHeader, DCtx.endOfBlocks, hc, hl, hck, hk, hintOf, DCtx.nextIsBlock, hints.go, dRets, next, DCtx.eat,
        DCtx.continue, full]
  | cons b2 rest2 ih =>
    intro b d0 fuel hck hlast hfuel
    obtain ⟨hl, hlast2⟩ : b.last = false ∧ lastOk (b2 :: rest2) = true := by simpa [lastOk] using hlast
    obtain ⟨f1, rfl⟩ : ∃ f1, fuel = f1 + 1 := ⟨fuel - 1, by simp only [List.length_cons] at hfuel; omega⟩
    have hfuel2 : rest2.length + 2 ≤ f1 := by simp only [List.length_cons] at hfuel; omega
    by_cases hc : b.cSize = 0
    · -- an empty block that is not the last: the next block header alone
      obtain ⟨h1, h2, h3⟩ : (d0.stDecodeBlockHeader b).1.stage = .decodeBlockHeader ∧ (d0.stDecodeBlockHeader b).1.expected = 3 ∧
          (d0.stDecodeBlockHeader b).1.checksum = sh.checksum := by simp [DCtx.stDecodeBlockHeader, hc, hl, hck, ZSTD_blockHeaderSize]
      generalize (d0.stDecodeBlockHeader b).1 = d at h1 h2 h3 ⊢
      have hh : hintOf d = 3 := by simp [hintOf, DCtx.nextIsBlock, h1, h2]
      have hn : next cur d (b2 :: rest2) = ((d.stDecodeBlockHeader b2).1, rest2) := by
        unfold next; rw [if_neg (by rw [h1]; decide), (eat_hdr cur b2 rest2 h1).1]
      rw [hh, if_neg (by decide), dRets, hn, ih b2 d f1 h3 hlast2 hfuel2]
      simp only [List.map_cons, hints.go, hc, List.cons_append]
    · obtain ⟨h1, h2, h3⟩ : (d0.stDecodeBlockHeader b).1.stage = .decompressBlock ∧ (d0.stDecodeBlockHeader b).1.expected = b.cSize ∧
          (d0.stDecodeBlockHeader b).1.checksum = sh.checksum := by simp [DCtx.stDecodeBlockHeader, hc, hl, hck]
      generalize (d0.stDecodeBlockHeader b).1 = d at h1 h2 h3 ⊢
      have hh : hintOf d = b.cSize + 3 := by simp [hintOf, DCtx.nextIsBlock, h1, h2, hc, ZSTD_blockHeaderSize]
      obtain ⟨d1, hn, h4⟩ : ∃ d1 : DCtx, next cur d (b2 :: rest2) = ((d1.stDecodeBlockHeader b2).1, rest2) ∧ d1.checksum = sh.checksum := by
        unfold next; rw [if_pos h1, (eat_block cur _ h1).1, (eat_hdr cur b2 rest2 rfl).1]; exact ⟨_, rfl, h3⟩
      rw [hh, if_neg (by omega), dRets, hn, ih b2 d1 f1 h4 hlast2 hfuel2]
      simp only [List.map_cons, hints.go, List.cons_append]

/-! ### the calls that load the frame header -/

/-- between the first and the second call: the 5 prefix bytes of the header of `f` are loaded -/
structure HdrWait (s : State) (f : FrameD) : Prop where
  ss : s.ss = .loadHeader
  lh : s.lhSize = 5
  fr : s.frames = [f]
  q : Quiet s
  mw : s.maxWindowSize = ZSTD_MAXWINDOWSIZE_DEFAULT

/-- the first call: offered `ZSTD_startingInputLength` = 5 bytes, asks for the rest of the header (and the first block header) -/
theorem call_first (f : FrameD) (room : Nat) (h6 : 6 ≤ f.headerSize) :
    (step (State.start [f]) 5 room).2.ret = .hint (if f.skippable then f.headerSize - 5 else f.headerSize - 5 + 3) ∧
    HdrWait (step (State.start [f]) 5 room).1 f := by
  have hm1 : micro (State.start [f]) {} 5 room = .cont { stInit (State.start [f]) with lhSize := 5 } ⟨5, 0⟩ := by
    simp [micro, State.start, stLoadHeader, stInit, hdrNeed, ZSTD_FRAMEHEADERSIZE_PREFIX]
  have hn : hdrNeed (some f) 5 = f.headerSize := by
    unfold hdrNeed
    simp only [ZSTD_FRAMEHEADERSIZE_PREFIX, Nat.lt_irrefl, if_false]
    rw [if_pos (by omega)]
  have hm2 : micro { stInit (State.start [f]) with lhSize := 5 } ⟨5, 0⟩ 5 room =
      .ret { stInit (State.start [f]) with lhSize := 5 } 5
        (.hint (if f.skippable then f.headerSize - 5 else f.headerSize - 5 + 3)) := by
    unfold micro stInit State.start stLoadHeader
    simp only [List.head?_cons, hn]
    rw [if_pos (by omega), if_pos (by omega)]
    unfold hdrShort
    simp only [List.head?_cons, Nat.sub_self, Nat.add_zero, ZSTD_FRAMEHEADERSIZE_MIN, ZSTD_blockHeaderSize]
    cases f.skippable
    · simp only [Bool.and_false, Bool.false_eq_true, if_false]
      rw [show max 6 f.headerSize = f.headerSize by omega]
    · simp
  unfold step
  rw [show loopFuel 5 = 12 + 1 + 1 from rfl, loop, hm1]
  dsimp only
  rw [loop, hm2]
  exact ⟨rfl, rfl, rfl, rfl, ⟨rfl, rfl, rfl⟩, rfl⟩

theorem StopsIn.of_micro_eq {i o k : Nat} {s s' s2 : State} {l l' l2 : Loc} (h : micro s l i o = micro s' l' i o)
    (h2 : StopsIn i o (k + 1) s' l' s2 l2) : StopsIn i o (k + 1) s l s2 l2 := fun n hn => by
  obtain ⟨m, rfl⟩ : ∃ m, n = m + 1 := ⟨n - 1, by omega⟩
  have := h2 (m + 1) hn
  rw [loop] at this ⊢
  rw [h]; exact this

/-- the first two turns of the second call: the rest of the header is loaded and consumed (no single-pass shortcut: the call does not
begin with the frame; the window is accepted); the second turn goes on in zdss_read, on a state `sR` that waits for the first stage of
the frame -/
theorem hdr_turns (s : State) (i room : Nat) (f : FrameD) (h : HdrWait s f) (h6 : 6 ≤ f.headerSize)
    (hwin : DBuf.effectiveWindow f.windowSize ≤ ZSTD_MAXWINDOWSIZE_DEFAULT) (hi : f.headerSize - 5 ≤ i) :
    ∃ sR, (∀ k s2 l2, StopsIn i room (k + 1) sR ⟨f.headerSize - 5, 0⟩ s2 l2 → StopsIn i room (k + 2) s {} s2 l2) ∧
      sR.ss = .read ∧ Quiet sR ∧ sR.cur = f ∧ sR.blocks = f.blocks ∧ sR.d.checksum = f.checksum ∧
      sR.d.stage = (if f.skippable then .skipFrame else .decodeBlockHeader) ∧ sR.d.expected = (if f.skippable then f.payload else 3) := by
  have hhead : s.frames.head? = some f := by rw [h.fr]; rfl
  have hn : ∀ lh, hdrNeed s.frames.head? lh = hdrNeed (some f) lh := fun lh => by rw [hhead]
  obtain ⟨n1, n2⟩ := hdrNeed_some f 5 h6
  obtain ⟨n3, _⟩ := hdrNeed_some f f.headerSize h6
  have hm1 : micro s {} i room = .cont { s with lhSize := f.headerSize } ⟨f.headerSize - 5, 0⟩ := by
    have h5 : hdrNeed (some f) 5 = f.headerSize := by
      unfold hdrNeed; simp only [ZSTD_FRAMEHEADERSIZE_PREFIX, Nat.lt_irrefl, if_false]; rw [if_pos (by omega)]
    rw [micro_loadHeader _ i room h.ss]
    rcases stLoadHeader_cases s {} i room with ⟨_, ⟨hsh, _⟩ | ⟨_, e⟩⟩ | ⟨g, hg, hz, _⟩
    · rw [hn, h.lh, h5] at hsh; exact absurd hsh (by show ¬ (i - 0 < _); omega)
    · rw [e, hn, h.lh, h5]; exact congrArg (Out.cont _) (congrArg (Loc.mk · 0) (Nat.zero_add _))
    · rw [hhead] at hg; injection hg with hg; rw [← hg, h.lh] at hz; have := n1.1 hz; omega
  have hm2 : ∃ ov ib ob, micro { s with lhSize := f.headerSize } ⟨f.headerSize - 5, 0⟩ i room =
      stRead { consumeHeader { s with lhSize := f.headerSize } f with oversized := ov, inBuffSize := ib, outBuffSize := ob, ss := .read }
        ⟨f.headerSize - 5, 0⟩ i := by
    rw [micro_loadHeader (s := { s with lhSize := f.headerSize }) _ i room h.ss]
    rcases stLoadHeader_cases { s with lhSize := f.headerSize } ⟨f.headerSize - 5, 0⟩ i room with
      ⟨hz, _⟩ | ⟨g, hg, _, ⟨hsp, _⟩ | ⟨_, ⟨hw, _⟩ | ⟨_, ov, ib, ob, _, _, e⟩⟩⟩
    · exact absurd (n3.2 (Nat.le_refl _)) (by rw [← hn]; exact hz)
    all_goals have hg : f = g := by rw [show State.frames _ = s.frames from rfl, hhead] at hg; injection hg
    all_goals subst hg
    · unfold singlePass at hsp
      split at hsp
      · simp only [Bool.and_eq_true, decide_eq_true_eq] at hsp
        exact absurd hsp.1.2 (by show f.headerSize - 5 ≠ f.headerSize; omega)
      · cases hsp
    · rw [(consumeHeader_d _ f).2.2.2.1, show State.maxWindowSize _ = s.maxWindowSize from rfl, h.mw] at hw; omega
    · exact ⟨ov, ib, ob, e⟩
  obtain ⟨ov, ib, ob, hm2⟩ := hm2
  obtain ⟨_, p2, _, _, _, p6, p7, _⟩ := consumeHeader_d { s with lhSize := f.headerSize } f
  exact ⟨_, fun k s2 l2 hs => StopsIn.cont hm1 (StopsIn.of_micro_eq (hm2.trans (micro_read _ i room rfl).symm) hs), rfl,
    ⟨h.q.inp, h.q.fl, h.q.host⟩, rfl, rfl, p2, p6, p7⟩

/-- the decoder waits for the 4 checksum bytes -/
structure CkWait (s : State) : Prop where
  ss : s.ss = .read
  q : Quiet s
  stage : s.d.stage = .checkChecksum
  expected : s.d.expected = 4

/-- the decoder waits for the payload of a skippable frame -/
structure SkipWait (s : State) (p : Nat) : Prop where
  ss : s.ss = .read
  q : Quiet s
  stage : s.d.stage = .skipFrame
  expected : s.d.expected = p

theorem hint_exact_fuel (f : FrameD) (hok : f.ok = true) (room : Nat) (hroom : f.blockSizeMax ≤ room)
    (hwin : f.windowSize ≤ ZSTD_MAXWINDOWSIZE_DEFAULT) (fuel : Nat) (hfuel : f.blocks.length + 3 ≤ fuel) :
    hintedRets fuel (State.start [f]) 5 room = (Stream.hints f.shape).tail ++ [0] := by
  have hwin2 : DBuf.effectiveWindow f.windowSize ≤ ZSTD_MAXWINDOWSIZE_DEFAULT := by
    unfold DBuf.effectiveWindow ZSTD_MAXWINDOWSIZE_DEFAULT ZSTD_WINDOWLOG_ABSOLUTEMIN
    unfold ZSTD_MAXWINDOWSIZE_DEFAULT at hwin
    omega
  -- first call: `call_first`.  Second call: `hdr_turns` reaches zdss_read; a skippable frame stops there (`read_stops`), a zstd frame
  -- reads its first block header (`call_from`).  From then on the run follows the stage machine (`hintedRets_from`), whose requests
  -- over the blocks are `hints.go` (`dRets_blocks`).
  obtain ⟨_, _, h6⟩ := ok_size hok
  obtain ⟨f2, rfl⟩ : ∃ f2, fuel = f2 + 3 := ⟨fuel - 3, by omega⟩
  obtain ⟨c1, c2⟩ := call_first f room h6
  rw [hintedRets_hint _ _ 5 room _ c1]
  cases hsk : f.skippable with
  | true =>
    obtain ⟨h8, hbl, _⟩ := ok_skip hok hsk
    obtain ⟨sR, hreach, r1, r2, r3, r4, _, r6, r7⟩ := hdr_turns _ 3 room f c2 h6 hwin2 (by omega)
    simp only [hsk, if_true] at r6 r7
    have hst : stageOk sR.d sR.blocks := by simp only [stageOk, r6]
    have hstep := step_of_stops (hreach 0 _ _ (read_stops sR _ 3 room r1 hst (by show f.headerSize - 5 = 3; omega))) (by decide)
      (by show f.headerSize - 5 ≠ 0; omega) ⟨r2.inp, r2.fl, r2.host⟩
    have hh : hintOf sR.d = f.payload := by
      unfold hintOf DCtx.nextIsBlock
      rw [r7, r6]
      split <;> simp_all
    simp only [if_true, h8, Nat.reduceSub, Nat.reduceEqDiff, if_false, FrameD.shape, hsk, hints, List.cons_append, List.nil_append,
      List.tail_cons]
    rw [hintedRets_from room (f2 + 1) _ _ 3 f.payload (congrArg Prod.fst hstep) (by rw [hstep, hh]) hh fun hp =>
      ⟨by show (if sR.d.expected = 0 then SStage.init else .read) = .read; rw [r7, if_neg hp], ⟨r2.inp, r2.fl, r2.host⟩,
        by show sR.d.expected ≠ 0; rw [r7]; exact hp, hst, (fun h => by rw [show DCtx.stage _ = sR.d.stage from rfl, r6] at h; rcases h with h | h <;> cases h),
        by show ∀ b ∈ sR.blocks, _; rw [r4, hbl]; exact fun b hb => by cases hb⟩]
    by_cases hp : f.payload = 0
    · simp [hp]
    · simp [dRets, next, DCtx.eat, DCtx.continue, r6, hintOf, hp]
  | false =>
    obtain ⟨_, hl, hbok, _⟩ := ok_zstd hok hsk
    cases hbl : f.blocks with
    | nil => rw [hbl] at hl; simp [lastOk] at hl
    | cons b rest =>
      obtain ⟨sR, hreach, r1, r2, r3, r4, r5, r6, r7⟩ := hdr_turns _ (f.headerSize - 5 + 3) room f c2 h6 hwin2 (by omega)
      simp only [hsk, Bool.false_eq_true, if_false] at r6 r7
      have hW : Wait room sR := ⟨r1, r2, by rw [r7]; decide, by simp only [stageOk, r6, r7, r4]; exact ⟨trivial, hl, rawOk_of_ok hbok⟩,
        (fun h => by rw [r6] at h; rcases h with h | h <;> cases h),
        by rw [r4]; exact fun x hx => Nat.le_trans (BlockD.ok_spec (hbok x hx)).2.1 hroom⟩
      have hh : hintOf sR.d = 3 := by rw [hintOf_eq _ hW.ne, r7, r6]; rfl
      obtain ⟨k1, k2, k3, k4, k5⟩ := call_from _ sR ⟨f.headerSize - 5, 0⟩ (f.headerSize - 5 + 3) room 1 hW rfl (by rw [hh])
        (Nat.le_refl _) (fun s2 l2 h => hreach 4 s2 l2 h)
      have hn : next sR.cur sR.d sR.blocks = ((sR.d.stDecodeBlockHeader b).1, rest) := by
        unfold next; rw [if_neg (by rw [r6]; decide), r4, hbl, (eat_hdr _ b rest r6).1]
      rw [hn] at k1 k3 k4 k5
      have hne : f.headerSize - 5 + 3 ≠ 0 := by omega
      simp only [Bool.false_eq_true, if_false, hne]
      rw [hintedRets_from room (f2 + 1) _ _ _ _ rfl k1 (by rw [k3]) (fun h0 => k5 (fun he => h0 (if_pos he))), k2, k3, k4,
        dRets_blocks sR.cur f.shape rest b sR.d (f2 + 1) (by rw [r5]; simp [FrameD.shape, hsk]) (hbl ▸ hl)
          (by rw [hbl] at hfuel; simp only [List.length_cons] at hfuel; omega)]
      simp [hints, FrameD.shape, hsk, hbl]

/-- **the input-size hint is exact**: on a well-formed single frame `f` whose window the decoder accepts (at most
ZSTD_MAXWINDOWSIZE_DEFAULT = 2^27 + 1; a larger one is refused with the error `frameParameter_windowTooLarge`), with room for a whole
block in every call's output, feeding `ZSTD_decompressStream` exactly the number of bytes it asked for (5 at the start) yields exactly the
request sequence `Stream.hints` of the frame, closed by the 0 that reports the end of the frame -/
theorem hint_exact (f : FrameD) (hok : f.ok = true) (room : Nat) (hroom : f.blockSizeMax ≤ room)
    (hwin : f.windowSize ≤ ZSTD_MAXWINDOWSIZE_DEFAULT) :
    hintedRets (2 * f.blocks.length + 8) (State.start [f]) 5 room = (Stream.hints f.shape).tail ++ [0] :=
  hint_exact_fuel f hok room hroom hwin _ (by omega)

/-- non-vacuity of `hint_exact`: the requests on `exFrame` (35 bytes: header 6, blocks 3+5, 3+10, 3+1, checksum 4) -/
example : 5 :: hintedRets (2 * exFrame.blocks.length + 8) (State.start [exFrame]) 5 1024 = [5, 4, 8, 13, 1, 4, 0] := by
  rw [hint_exact exFrame (by decide) 1024 (by decide) (by decide)]
  decide

/-- a well-formed frame whose window (2^28) exceeds the decoder's default limit -/
def bigWindowFrame : FrameD :=
  { skippable := false, headerSize := 6, blocks := [⟨.raw, 1, 1, true⟩], checksum := false, fcs := none, windowSize := 2 ^ 28,
    blockSizeMax := 131072 }

/-- the window hypothesis of `hint_exact` cannot be dropped: on `bigWindowFrame` the second call of the hint-following run reports
`windowTooLarge` (as the C function does: `frameParameter_windowTooLarge`), so the run ends after the first request -/
example : bigWindowFrame.ok = true ∧ bigWindowFrame.blockSizeMax ≤ 131072 ∧
    hintedRets (2 * bigWindowFrame.blocks.length + 8) (State.start [bigWindowFrame]) 5 131072 = [4] ∧
    (Stream.hints bigWindowFrame.shape).tail ++ [0] = [4, 1, 0] := by decide +kernel

/-- non-vacuity of `progress_output`: after a call with 3 bytes of output room on the whole of `[exFrame]` two bytes of the first block
are pending in zdss_flush; a call with NO input hands them over -/
example : (step (State.start [exFrame]) 35 3).1.ss = .flush ∧
    (step (State.start [exFrame]) 35 3).1.outStart < (step (State.start [exFrame]) 35 3).1.outEnd ∧
    (step (step (State.start [exFrame]) 35 3).1 0 10).2 = ⟨0, 2, 3, .hint 3⟩ := by decide +kernel

/-! ### the pacing specification's frame size is the frame's compressed size -/

theorem shape_blocks_sum (bs : List BlockD) : ((bs.map (·.cSize)).map (· + 3)).sum = blocksSize bs := by
  induction bs with
  | nil => rfl
  | cons b r ih => simp only [List.map_cons, List.sum_cons, blocksSize, ZSTD_blockHeaderSize, ih]; omega

theorem shape_frameSize (f : FrameD) (hok : f.ok = true) : Stream.frameSize f.shape = frameSize f := by
  cases hsk : f.skippable with
  | true =>
    obtain ⟨h8, _⟩ := ok_skip hok hsk
    simp [FrameD.shape, Stream.frameSize, frameSize, hsk, h8, ZSTD_SKIPPABLEHEADERSIZE]
  | false =>
    simp only [FrameD.shape, Stream.frameSize, frameSize, hsk, Bool.false_eq_true, if_false, shape_blocks_sum, ckSize]

theorem shape_facts (f : FrameD) (hok : f.ok = true) :
    f.shape.blocks ≠ [] ∧ 5 ≤ f.shape.headerSize ∧ (f.shape.skippable = true → f.shape.headerSize = 8) := by
  obtain ⟨_, _, h6⟩ := ok_size hok
  cases hsk : f.skippable with
  | true =>
    obtain ⟨h8, _⟩ := ok_skip hok hsk
    simp [FrameD.shape, hsk, h8]
  | false =>
    obtain ⟨_, hl, _⟩ := ok_zstd hok hsk
    have := lastOk_ne_nil hl
    simp only [FrameD.shape, hsk, Bool.false_eq_true, if_false, ne_eq, List.map_eq_nil_iff]
    exact ⟨this, by omega, fun h => by cases h⟩

theorem hints_head (sh : FrameShape) : Stream.hints sh = 5 :: (Stream.hints sh).tail := by
  unfold Stream.hints
  split <;> rfl

end ZstdVerif.DStream
