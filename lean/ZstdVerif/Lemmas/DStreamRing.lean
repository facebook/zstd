/-
The output ring of the model of `ZSTD_decompressStream` (Model/DStream.lean, stage zdss_flush of zstd_decompress.c: "restart the ring
when the next block would not fit"): before every block there is room for it, and a restart never overwrites history the window
still reaches.  `RingInv` is kept by every turn (`ring_micro`, carried through a call by `step_cases` of DStreamRT) and every call
(`ring_step`).  Taken from here by others: `ring_keeps_window` (Props/C10); `after`, the state after a history of calls, and
`continue_params` (DStreamTotal).
-/
import ZstdVerif.Lemmas.DStreamRT
namespace ZstdVerif.DStream
open ZstdVerif.Gen ZstdVerif.Stream

/-- the ring is as large as `ZSTD_decodingBufferSize_internal` demands: window + 2 blocks + 2 * WILDCOPY_OVERLENGTH, or it holds the
whole declared content -/
def Geo (s : State) : Prop :=
  s.d.windowSize + 2 * s.d.blockSizeMax + 64 ≤ s.outBuffSize ∨ ∃ n, s.d.fcs = some n ∧ n ≤ s.outBuffSize

def Room (s : State) : Prop :=
  s.outStart + s.d.blockSizeMax ≤ s.outBuffSize ∨ ∃ n, s.d.fcs = some n ∧ n ≤ s.outBuffSize

/-- **the ring invariant** (holds between calls and after every turn of the loop) -/
structure RingInv (s : State) : Prop where
  /-- the last restart of the ring happened beyond a window and a block -/
  seg : s.segEnd ≠ 0 → s.d.blockSizeMax + s.d.windowSize ≤ s.segEnd
  hd : s.ss = .loadHeader → s.segEnd = 0 ∧ s.outStart = 0
  bigF : s.ss = .flush → Geo s
  big : s.ss = .read ∨ s.ss = .load → s.d.expected ≠ 0 → Geo s ∧ Room s

theorem ring_start (frames : List FrameD) : RingInv (State.start frames) :=
  ⟨fun h => absurd rfl h, (fun h => by cases h), (fun h => by cases h), fun h => by rcases h with h | h <;> cases h⟩

theorem RingInv.congr {s s2 : State} (h : RingInv s) (hss : s2.ss = s.ss) (hd : s2.d = s.d) (ho : s2.outBuffSize = s.outBuffSize)
    (hs : s2.outStart = s.outStart) (hg : s2.segEnd = s.segEnd) : RingInv s2 := by
  refine ⟨?_, ?_, ?_, ?_⟩
  · rw [hg, hd]; exact h.seg
  · rw [hss, hg, hs]; exact h.hd
  · rw [hss]; unfold Geo; rw [hd, ho]; exact h.bigF
  · rw [hss, hd]; unfold Geo Room; rw [hd, ho, hs]; exact h.big

theorem endOfBlocks_params (d : DCtx) : d.endOfBlocks.windowSize = d.windowSize ∧ d.endOfBlocks.blockSizeMax = d.blockSizeMax ∧
    d.endOfBlocks.fcs = d.fcs ∧ d.endOfBlocks.expected ≤ 4 := by
  unfold DCtx.endOfBlocks
  split <;> exact ⟨rfl, rfl, rfl, by dsimp only; omega⟩

theorem continue_params (d : DCtx) (f : FrameD) (b : BlockD) (n : Nat) (h : d.stage ≠ .decodeFrameHeader) :
    (d.continue f b n).1.windowSize = d.windowSize ∧ (d.continue f b n).1.blockSizeMax = d.blockSizeMax ∧
    (d.continue f b n).1.fcs = d.fcs := by
  cases hst : d.stage <;>
    simp only [DCtx.continue, hst, DCtx.stDecodeBlockHeader, DCtx.stDecompressBlock, DCtx.stGetFrameHeaderSize, apply_ite Prod.fst,
      apply_ite DCtx.windowSize, apply_ite DCtx.blockSizeMax, apply_ite DCtx.fcs, endOfBlocks_params, ite_self, and_self]
  · exact absurd hst h
theorem ring_continueStream (s : State) (n : Nat) (hseg : s.segEnd ≠ 0 → s.d.blockSizeMax + s.d.windowSize ≤ s.segEnd)
    (hg : Geo s) (hr : Room s) (h : s.d.stage ≠ .decodeFrameHeader) : RingInv (continueStream s n) := by
  obtain ⟨a, b, c⟩ := continue_params s.d s.cur (s.blocks.head?.getD default) n h
  obtain ⟨v, oe, hv, e⟩ := continueStream_eq s n
  rw [e]
  have hg2 : Geo { s with d := (s.d.continue s.cur (s.blocks.head?.getD default) n).1 } := by unfold Geo; dsimp only; rw [a, b, c]; exact hg
  have hr2 : Room { s with d := (s.d.continue s.cur (s.blocks.head?.getD default) n).1 } := by unfold Room; dsimp only; rw [b, c]; exact hr
  refine ⟨by dsimp only; rw [a, b]; exact hseg, fun h => ?_, fun _ => hg2, fun _ _ => ⟨hg2, hr2⟩⟩
  rcases hv with ⟨rfl, _⟩ | ⟨rfl, _⟩ <;> cases h

theorem ring_stLoad (s : State) (l : Loc) (i : Nat) (h : RingInv s) (hss : s.ss = .load) (hst : s.d.stage ≠ .decodeFrameHeader)
    (he : s.d.expected ≠ 0) : RingInv (stLoad s l i).st := by
  obtain ⟨hg, hr⟩ := h.big (Or.inr hss) he
  rcases stLoad_cases s l i with ⟨_, _, e⟩ | ⟨_, e⟩ | ⟨_, e⟩ <;> rw [e]
  · exact h
  · exact h.congr rfl rfl rfl rfl rfl
  · exact ring_continueStream { s with inPos := 0 } _ h.seg hg hr hst

theorem ring_stRead (s : State) (l : Loc) (i : Nat) (h : RingInv s) (hss : s.ss = .read)
    (hne : ∀ a, s.d.nextSrcSizeWithInput a ≠ 0 → s.d.expected ≠ 0 ∧ ¬ HdrStage s.d) : RingInv (stRead s l i).st := by
  rcases stRead_cases s l i with ⟨_, e⟩ | ⟨hn, ⟨_, e⟩ | ⟨_, e⟩ | ⟨_, _, e⟩⟩ <;> rw [e]
  · exact ⟨h.seg, (fun h => by cases h), (fun h => by cases h), fun h => by rcases h with h | h <;> cases h⟩
  all_goals
    obtain ⟨he, hst⟩ := hne _ hn
    obtain ⟨hg, hr⟩ := h.big (Or.inl hss) he
  · exact ring_continueStream s _ h.seg hg hr (fun e => hst (Or.inr (Or.inl e)))
  · exact h
  · exact ring_stLoad { s with ss := .load } l i ⟨h.seg, (fun h => by cases h), (fun h => by cases h), fun _ _ => ⟨hg, hr⟩⟩ rfl
      (fun e => hst (Or.inr (Or.inl e))) he

/-- zdss_flush keeps the invariant: the restart rule of the ring, once everything pending has been handed over, re-establishes room for
a block, and it restarts only beyond a window and a block -/
theorem ring_stFlush (s : State) (l : Loc) (o : Nat) (h : RingInv s) (hss : s.ss = .flush) : RingInv (stFlush s l o).st := by
  have hg := h.bigF hss
  obtain ⟨k, _, ⟨_, ⟨hsm, hover, e⟩ | ⟨hfit, e⟩⟩ | ⟨_, _, e⟩⟩ := stFlush_cases s l o <;> rw [e]
  · have hbig : s.d.windowSize + 2 * s.d.blockSizeMax + 64 ≤ s.outBuffSize := hg.resolve_right hsm
    refine ⟨fun _ => ?_, (fun h => by cases h), (fun h => by cases h), fun _ _ => ⟨Or.inl hbig, Or.inl ?_⟩⟩
    · show s.d.blockSizeMax + s.d.windowSize ≤ s.outStart + k; omega
    · show 0 + s.d.blockSizeMax ≤ s.outBuffSize; omega
  · exact ⟨h.seg, (fun h => by cases h), (fun h => by cases h), fun _ _ => ⟨hg, hfit.symm⟩⟩
  · exact ⟨h.seg, (fun h => by have h2 : s.ss = _ := h; rw [hss] at h2; cases h2), fun _ => hg, fun h => by
      have h2 : s.ss = .read ∨ s.ss = .load := h
      rw [hss] at h2
      rcases h2 with h2 | h2 <;> cases h2⟩

theorem ok_block_le {f : FrameD} (h : f.ok = true) :
    f.blockSizeMax ≤ DBuf.effectiveWindow f.windowSize ∧ f.blockSizeMax ≤ ZSTD_BLOCKSIZE_MAX := by
  unfold DBuf.effectiveWindow
  cases hs : f.skippable with
  | true => have := (ok_skip h hs).2.2.2.2; omega
  | false => have := (ok_zstd h hs).2.2.2.2; omega

/-- "Adapt buffer sizes to frame header instructions" gives the ring its size -/
theorem ring_after_header (s : State) (f : FrameD) (ov ib ob : Nat) (hok : f.ok = true) (hs0 : s.segEnd = 0) (ho0 : s.outStart = 0)
    (hob : DBuf.decodingBufferSize (consumeHeader s f).d.windowSize (consumeHeader s f).d.fcs (consumeHeader s f).d.blockSizeMax ≤ ob) :
    RingInv { consumeHeader s f with oversized := ov, inBuffSize := ib, outBuffSize := ob, ss := .read } := by
  obtain ⟨p3, _, p2, p1, _⟩ := consumeHeader_d s f
  obtain ⟨b1, b2⟩ := ok_block_le hok
  have hgeo : (consumeHeader s f).d.windowSize + 2 * (consumeHeader s f).d.blockSizeMax + 64 ≤ ob ∨
      ∃ n, (consumeHeader s f).d.fcs = some n ∧ n ≤ ob := by
    rw [p1, p2, p3] at hob ⊢
    unfold DBuf.decodingBufferSize at hob
    simp only [WILDCOPY_OVERLENGTH] at hob
    rw [show min (min (DBuf.effectiveWindow f.windowSize) ZSTD_BLOCKSIZE_MAX) f.blockSizeMax = f.blockSizeMax by omega] at hob
    cases hf : f.fcs with
    | none => rw [hf] at hob; left; dsimp only at hob; omega
    | some n =>
      rw [hf] at hob
      dsimp only at hob
      by_cases hn : n ≤ DBuf.effectiveWindow f.windowSize + f.blockSizeMax * 2 + 32 * 2
      · right; exact ⟨n, rfl, by omega⟩
      · left; omega
  refine ⟨fun hne => absurd hs0 hne, (fun h => by cases h), (fun h => by cases h), fun _ _ => ⟨hgeo, ?_⟩⟩
  show s.outStart + (consumeHeader s f).d.blockSizeMax ≤ ob ∨ _
  rcases hgeo with hg | hg
  · left; omega
  · right; exact hg

theorem ring_stLoadHeader (all : List FrameD) (hok : AllOk all) (s : State) (l : Loc) (i o : Nat) (h : RingInv s)
    (hss : s.ss = .loadHeader) (hin : ∀ f, s.frames.head? = some f → f ∈ all) : RingInv (stLoadHeader s l i o).st := by
  obtain ⟨hs0, ho0⟩ := h.hd hss
  rcases stLoadHeader_cases s l i o with
    ⟨_, ⟨_, e⟩ | ⟨_, e⟩⟩ | ⟨f, hf, _, ⟨_, e⟩ | ⟨_, ⟨_, e⟩ | ⟨_, ov, ib, ob, _, hob, e⟩⟩⟩ <;> rw [e]
  · exact h.congr rfl rfl rfl rfl rfl
  · exact h.congr rfl rfl rfl rfl rfl
  · exact ⟨fun hne => absurd hs0 hne, (fun h => by cases h), (fun h => by cases h), fun h => by rcases h with h | h <;> cases h⟩
  · exact ⟨fun hne => absurd hs0 hne, fun _ => ⟨hs0, ho0⟩, (fun h => by have h2 : s.ss = .flush := h; rw [hss] at h2; cases h2),
      fun h => by have h2 : s.ss = .read ∨ s.ss = .load := h; rw [hss] at h2; rcases h2 with h2 | h2 <;> cases h2⟩
  · obtain ⟨_, _, _, _, _, p6, _, p8⟩ := consumeHeader_d s f
    refine ring_stRead _ l i (ring_after_header s f ov ib ob (hok f (hin f hf)) hs0 ho0 hob) rfl (fun a hn => ⟨(p8 a) ▸ hn, fun hh => ?_⟩)
    have hh : HdrStage (consumeHeader s f).d := hh
    unfold HdrStage at hh
    rw [p6] at hh
    split at hh <;> rcases hh with h | h | h <;> cases h

theorem ring_micro (all : List FrameD) (hok : AllOk all) (s : State) (l : Loc) (i o : Nat) (hl : LInv all s l) (h : RingInv s) :
    RingInv (micro s l i o).st := by
  obtain ⟨h1, h2, h3⟩ := linv_side hl
  unfold micro
  cases hss : s.ss <;> dsimp only
  · exact ring_stLoadHeader all hok (stInit s) l i o ⟨fun hne => absurd rfl hne, fun _ => ⟨rfl, rfl⟩, (fun h => by cases h),
      (fun h => by rcases h with h | h <;> cases h)⟩ rfl (h1 (Or.inl hss))
  · exact ring_stLoadHeader all hok s l i o h hss (h1 (Or.inr hss))
  · exact ring_stRead s l i h hss (h2 hss)
  · exact ring_stLoad s l i h hss (fun e => (h3 hss).2 (Or.inr (Or.inl e))) (h3 hss).1
  · exact ring_stFlush s l o h hss

theorem ring_finish (s : State) (l : Loc) (i o : Nat) (h : RingInv s) : RingInv (finish s l i o).1 := by
  obtain ⟨nf, ti, to, ⟨ho, he, heq⟩ | ⟨he, heq⟩⟩ := finish_state s l i o <;> rw [heq]
  · exact h.congr rfl rfl rfl rfl rfl
  · exact ⟨h.seg, (fun h => by cases h), (fun h => by cases h), fun _ hne => absurd he hne⟩

theorem ring_step (all : List FrameD) (hok : AllOk all) (s : State) (hinv : Inv all s) (h : RingInv s) (inAvail outCap : Nat)
    (hlim : s.totalIn + inAvail ≤ sizeAll all) : RingInv (step s inAvail outCap).1 := by
  rcases step_cases hok hinv hlim (fun s1 l1 hl _ hr => Out.sat_of_st (ring_micro all hok s1 l1 inAvail outCap hl hr)) h with
    ⟨s1, l1, ⟨_, hr⟩, heq⟩ | ⟨s1, c, r, ⟨_, hr⟩, heq⟩ <;> rw [heq]
  · exact ring_finish s1 l1 inAvail outCap hr
  · exact hr.congr rfl rfl rfl rfl rfl

def after : State → List (Nat × Nat) → State
  | s, [] => s
  | s, (i, o) :: rest => after (step s i o).1 rest

theorem run_inv {P : State → Prop} (all : List FrameD) (hok : AllOk all)
    (hP : ∀ s i o, Inv all s → P s → s.totalIn + i ≤ sizeAll all → P (step s i o).1) (io : List (Nat × Nat)) :
    ∀ (s : State), Inv all s → P s → Feasible all s io → Inv all (after s io) ∧ P (after s io) := by
  induction io with
  | nil => intro s hi hr _; exact ⟨hi, hr⟩
  | cons p rest ih =>
    obtain ⟨i, o⟩ := p
    intro s hi hr hf
    obtain ⟨hlim, hne, hrest⟩ := hf
    exact ih _ ((step_ok all hok s hi i o hlim).2 hne).1 (hP s i o hi hr hlim) hrest

/-- **the ring keeps the window**: after any feasible history of calls on a well-formed stream, whenever the decoder waits between two
calls (zdss_read) for a block header, a block body or the checksum, (1) there is room for the next block behind `outStart` (or the ring
holds the whole declared content, in which case it is never restarted), and (2) if the ring has been restarted in this frame, the restart
happened at `segEnd ≥ blockSizeMax + windowSize`; hence the `windowSize - outStart` bytes of history still reachable from before the
restart, `[segEnd - (windowSize - outStart), segEnd)`, begin at or after the end `outStart + blockSizeMax` of the block about to be written -/
theorem ring_keeps_window (all : List FrameD) (hok : AllOk all) (io : List (Nat × Nat)) (hf : Feasible all (State.start all) io)
    (hss : (after (State.start all) io).ss = .read)
    (hst : (after (State.start all) io).d.stage = .decodeBlockHeader ∨ (after (State.start all) io).d.stage = .decompressBlock ∨
      (after (State.start all) io).d.stage = .decompressLastBlock ∨ (after (State.start all) io).d.stage = .checkChecksum) :
    ((after (State.start all) io).outStart + (after (State.start all) io).d.blockSizeMax ≤ (after (State.start all) io).outBuffSize ∨
      ∃ n, (after (State.start all) io).d.fcs = some n ∧ n ≤ (after (State.start all) io).outBuffSize) ∧
    ((after (State.start all) io).segEnd ≠ 0 →
      (after (State.start all) io).d.blockSizeMax + (after (State.start all) io).d.windowSize ≤ (after (State.start all) io).segEnd) := by
  obtain ⟨hi, hr⟩ := run_inv all hok (fun s i o hi hr => ring_step all hok s hi hr i o) io (State.start all) (inv_start all)
    (ring_start all) hf
  generalize after (State.start all) io = s at hss hst hi hr
  have he : s.d.expected ≠ 0 := by
    unfold Inv LInv at hi
    rw [hss] at hi
    rcases hi with ⟨pre, hall, fi⟩ | ⟨pre, hall, di⟩
    · have hs := fi.stg
      unfold stageOk at hs
      rcases hst with e | e | e | e <;> rw [e] at hs <;> dsimp only at hs <;> omega
    · rcases di.st with e | e <;> rw [e] at hst <;> simp at hst
  exact ⟨(hr.big (Or.inl hss) he).2, hr.seg⟩

/-- a frame whose ring (window 1024 + 2 blocks of 1024 + 64 = 3136 bytes) is restarted after its third block -/
def ringFrame : FrameD :=
  { skippable := false, headerSize := 6,
    blocks := [⟨.rle, 1, 1024, false⟩, ⟨.rle, 1, 1024, false⟩, ⟨.rle, 1, 1024, false⟩, ⟨.rle, 1, 1024, false⟩, ⟨.rle, 1, 1024, true⟩],
    checksum := false, fcs := none, windowSize := 1024, blockSizeMax := 1024 }

/-- non-vacuity of `ring_keeps_window`: after the header and three blocks of `ringFrame` (18 bytes) the decoder waits in zdss_read for the
next block header, the ring has been restarted at 3072 ≥ 1024 + 1024 and the next block goes to its start -/
example : ringFrame.ok = true ∧ (step (State.start [ringFrame]) 18 5000).2 = ⟨18, 3072, 0, .hint 3⟩ ∧
    (after (State.start [ringFrame]) [(18, 5000)]).ss = .read ∧
    (after (State.start [ringFrame]) [(18, 5000)]).d.stage = .decodeBlockHeader ∧
    (after (State.start [ringFrame]) [(18, 5000)]).outBuffSize = 3136 ∧
    (after (State.start [ringFrame]) [(18, 5000)]).segEnd = 3072 ∧
    (after (State.start [ringFrame]) [(18, 5000)]).outStart = 0 := by decide +kernel

end ZstdVerif.DStream
