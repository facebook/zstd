/-
The model of `ZSTD_decompressStream` (Model/DStream.lean) on well-formed streams never takes its two internal error exits: the input
buffer always holds the stage's input (no CORRUPTION from zdss_load) and the loop fuel is never exhausted (no GENERIC).  With it the
output-side progress theorem of Lemmas/DStreamHint.lean holds without the "unless it reports an error" clause
(`progress_output_total`).  The second part shows that a call offered input and output room on a stream whose windows are accepted
reports no error at all (`step_no_error`), so that every such segmentation is feasible (`feasible_of_offered`).  Taken from here by
Props/C02 and C10: `step_total`, `buf_reachable`, `progress_output_total`, `step_no_error`, `calls_bounded_offered`,
`model_any_offered_segmentation_eq_oneShot`.
-/
import ZstdVerif.Lemmas.DStreamHint
import ZstdVerif.Lemmas.DStreamRing
namespace ZstdVerif.DStream
open ZstdVerif.Gen ZstdVerif.Stream

/-- the input buffer is sized for the frame (`inBuff` = max(blockSizeMax, 4)), the bodies of the blocks to come fit a block, and so does
what the stage machine expects next (the payload of a skippable frame is never buffered as a whole) -/
def Buf (s : State) : Prop :=
  max s.d.blockSizeMax 4 ≤ s.inBuffSize ∧ (∀ b ∈ s.blocks, b.cSize ≤ s.d.blockSizeMax) ∧
  (s.d.stage ≠ .skipFrame → s.d.expected ≤ max s.d.blockSizeMax 4)

def BufInv (s : State) : Prop := InStage s → s.d.expected ≠ 0 → Buf s

theorem buf_start (frames : List FrameD) : BufInv (State.start frames) :=
  fun h => by rcases h with h | h | h <;> cases h

theorem continue_expected (d : DCtx) (f : FrameD) (b : BlockD) (n : Nat) (hst : ¬ HdrStage d) (hb : b.cSize ≤ d.blockSizeMax)
    (he : d.stage ≠ .skipFrame → d.expected ≤ max d.blockSizeMax 4) : (d.continue f b n).1.expected ≤ max d.blockSizeMax 4 := by
  have h4 : ∀ d' : DCtx, d'.endOfBlocks.expected ≤ max d.blockSizeMax 4 := fun d' =>
    Nat.le_trans (endOfBlocks_params d').2.2.2 (Nat.le_max_right _ _)
  have h3 : ZSTD_blockHeaderSize ≤ max d.blockSizeMax 4 := Nat.le_trans (by decide) (Nat.le_max_right _ _)
  have hblock : d.stage ≠ .skipFrame → (d.stDecompressBlock n).1.expected ≤ max d.blockSizeMax 4 := fun hs => by
    have := he hs
    unfold DCtx.stDecompressBlock
    dsimp only
    cases d.bType <;> dsimp only
    · split
      · exact Nat.le_trans (Nat.sub_le _ _) this
      · split
        · exact h4 _
        · exact h3
    all_goals
      rw [if_neg (Nat.lt_irrefl 0)]
      split
      · exact h4 _
      · exact h3
  unfold HdrStage at hst
  cases hs : d.stage <;> simp only [DCtx.continue, hs]
  · exact absurd (Or.inl hs) hst
  · exact absurd (Or.inr (Or.inl hs)) hst
  · unfold DCtx.stDecodeBlockHeader
    dsimp only
    split
    · exact Nat.le_trans hb (Nat.le_max_left _ _)
    · split
      · exact h4 _
      · exact h3
  · exact hblock (by rw [hs]; decide)
  · exact hblock (by rw [hs]; decide)
  · exact Nat.zero_le _
  · exact absurd (Or.inr (Or.inr hs)) hst
  · exact Nat.zero_le _
theorem buf_continueStream (s : State) (n : Nat) (h : Buf s) (hst : ¬ HdrStage s.d) : Buf (continueStream s n) := by
  obtain ⟨h1, h2, h3⟩ := h
  obtain ⟨_, b2, _⟩ := continue_params s.d s.cur (s.blocks.head?.getD default) n (fun e => hst (Or.inr (Or.inl e)))
  obtain ⟨v, oe, _, e⟩ := continueStream_eq s n
  have hhd : (s.blocks.head?.getD default).cSize ≤ s.d.blockSizeMax := by
    cases hbs : s.blocks with
    | nil => exact Nat.zero_le _
    | cons b r => exact h2 b (by rw [hbs]; simp)
  rw [e]
  refine ⟨by show max (DCtx.blockSizeMax _) 4 ≤ s.inBuffSize; rw [b2]; exact h1, fun b hb => ?_, fun _ => ?_⟩
  · show b.cSize ≤ DCtx.blockSizeMax _
    rw [b2]
    have hb : b ∈ (if s.d.stage == .decodeBlockHeader then s.blocks.tail else s.blocks) := hb
    split at hb
    · exact h2 b (List.mem_of_mem_tail hb)
    · exact h2 b hb
  · show DCtx.expected _ ≤ max (DCtx.blockSizeMax _) 4
    rw [b2]
    exact continue_expected s.d s.cur _ n hst hhd h3

def BufOut : Out → Prop :=
  Out.Sat (fun s _ => BufInv s) (fun s _ => BufInv s) (fun s _ r => BufInv s ∧ r ≠ .err .corruption)

theorem buf_stLoad (s : State) (l : Loc) (i : Nat) (hb : Buf s) (hst : ¬ HdrStage s.d) : BufOut (stLoad s l i) := by
  rcases stLoad_cases s l i with ⟨hc1, hc2, _⟩ | ⟨_, e⟩ | ⟨_, e⟩
  · -- the stage's input fits the input buffer
    have := hb.2.2 hc1; have := hb.1; omega
  · rw [e]; exact fun _ _ => hb
  · rw [e]; exact fun _ _ => buf_continueStream { s with inPos := 0 } _ hb hst

theorem buf_stRead (s : State) (l : Loc) (i : Nat) (hss : s.ss = .read) (bi : BufInv s)
    (hne : ∀ a, s.d.nextSrcSizeWithInput a ≠ 0 → s.d.expected ≠ 0 ∧ ¬ HdrStage s.d) : BufOut (stRead s l i) := by
  rcases stRead_cases s l i with ⟨_, e⟩ | ⟨hn, ⟨_, e⟩ | ⟨_, e⟩ | ⟨_, _, e⟩⟩ <;> rw [e]
  · exact fun h => by rcases h with h | h | h <;> cases h
  all_goals
    obtain ⟨he, hst⟩ := hne _ hn
    have hb := bi (Or.inl hss) he
  · exact fun _ _ => buf_continueStream s _ hb hst
  · exact bi
  · exact buf_stLoad { s with ss := .load } l i hb hst

theorem buf_stFlush (s : State) (l : Loc) (o : Nat) (hss : s.ss = .flush) (bi : BufInv s) : BufOut (stFlush s l o) := by
  have hb : s.d.expected ≠ 0 → Buf s := bi (Or.inr (Or.inr hss))
  obtain ⟨k, _, ⟨_, ⟨_, _, e⟩ | ⟨_, e⟩⟩ | ⟨_, _, e⟩⟩ := stFlush_cases s l o <;> rw [e] <;> exact fun _ he => hb he

theorem buf_stLoadHeader (all : List FrameD) (hok : AllOk all) (s : State) (l : Loc) (i o : Nat) (hss : s.ss = .loadHeader)
    (hmem : ∀ f, s.frames.head? = some f → f ∈ all) : BufOut (stLoadHeader s l i o) := by
  have hvac : ∀ s2 : State, s2.ss = .loadHeader → BufInv s2 := fun s2 e h => by rw [InStage, e] at h; rcases h with h | h | h <;> cases h
  rcases stLoadHeader_cases s l i o with
    ⟨_, ⟨_, e⟩ | ⟨_, e⟩⟩ | ⟨f, hf, _, ⟨_, e⟩ | ⟨_, ⟨_, e⟩ | ⟨_, ov, ib, ob, hib, _, e⟩⟩⟩ <;> rw [e]
  · exact ⟨hvac _ hss, fun h => by cases h⟩
  · exact hvac _ hss
  · exact fun h => by rcases h with h | h | h <;> cases h
  · exact ⟨hvac _ hss, fun h => by cases h⟩
  · -- the input buffer is sized for the blocks of the frame, and a block header or the payload of a skippable frame comes first
    obtain ⟨_, _, p3, _, _, p6, p7, p8⟩ := consumeHeader_d s f
    have hfok := hok f (hmem f hf)
    refine buf_stRead _ l i rfl (fun _ _ => ⟨hib, fun b hb => ?_, fun hs => ?_⟩) (fun a hn => ⟨(p8 a) ▸ hn, fun hh => ?_⟩)
    · have hb : b ∈ f.blocks := hb
      show b.cSize ≤ (consumeHeader s f).d.blockSizeMax
      rw [p3]
      cases hsk : f.skippable with
      | true => rw [(ok_skip hfok hsk).2.1] at hb; cases hb
      | false => exact (BlockD.ok_spec ((ok_zstd hfok hsk).2.2.1 b hb)).1
    · have hs : (consumeHeader s f).d.stage ≠ .skipFrame := hs
      show (consumeHeader s f).d.expected ≤ _
      rw [p7]; rw [p6] at hs
      split <;> simp_all <;> omega
    · have hh : HdrStage (consumeHeader s f).d := hh
      unfold HdrStage at hh
      rw [p6] at hh
      split at hh <;> rcases hh with h | h | h <;> cases h

theorem buf_micro (all : List FrameD) (hok : AllOk all) (s : State) (l : Loc) (i o : Nat) (hl : LInv all s l) (bi : BufInv s) :
    BufOut (micro s l i o) := by
  obtain ⟨h1, h2, h3⟩ := linv_side hl
  unfold micro
  cases hss : s.ss <;> dsimp only
  · exact buf_stLoadHeader all hok (stInit s) l i o rfl (h1 (Or.inl hss))
  · exact buf_stLoadHeader all hok s l i o hss (h1 (Or.inr hss))
  · exact buf_stRead s l i hss bi (h2 hss)
  · exact buf_stLoad s l i (bi (Or.inr (Or.inl hss)) (h3 hss).1) (h3 hss).2
  · exact buf_stFlush s l o hss bi

theorem buf_finish (s : State) (l : Loc) (i o : Nat) (h : BufInv s) : BufInv (finish s l i o).1 := by
  obtain ⟨nf, ti, to, ⟨ho, he, heq⟩ | ⟨he, heq⟩⟩ := finish_state s l i o <;> rw [heq]
  · exact h
  · exact fun _ hne => absurd he hne

/-- **no internal error**: on a well-formed stream a call never reports CORRUPTION (zdss_load: stage input larger than the input
buffer) nor GENERIC (loop fuel exhausted), and it keeps the buffer invariant -/
theorem step_total (all : List FrameD) (hok : AllOk all) (s : State) (hinv : Inv all s) (bi : BufInv s) (inAvail outCap : Nat)
    (hlim : s.totalIn + inAvail ≤ sizeAll all) :
    BufInv (step s inAvail outCap).1 ∧ (step s inAvail outCap).2.ret ≠ .err .corruption ∧
    (step s inAvail outCap).2.ret ≠ .err .generic := by
  rcases step_cases hok hinv hlim (fun s1 l1 hl _ hb => buf_micro all hok s1 l1 inAvail outCap hl hb) bi with
    ⟨s1, l1, ⟨_, hb⟩, heq⟩ | ⟨s1, c, r, ⟨⟨l, hr⟩, hb, hnc⟩, heq⟩ <;> rw [heq]
  · exact ⟨buf_finish s1 l1 inAvail outCap hb, (fun h => by rcases (finish_err h).1 with h | h <;> cases h),
      fun h => by rcases (finish_err h).1 with h | h <;> cases h⟩
  · exact ⟨hb, hnc, by cases hr <;> exact fun h => by cases h⟩

/-- **progress (output side), without exception**: on a well-formed stream, a call made in zdss_flush with pending output and output
room hands over at least one byte and reports no error - whatever input it is offered, even none -/
theorem progress_output_total (all : List FrameD) (hok : AllOk all) (s : State) (hinv : Inv all s) (bi : BufInv s)
    (inAvail outCap : Nat) (hlim : s.totalIn + inAvail ≤ sizeAll all) (hss : s.ss = .flush) (hpend : s.outStart < s.outEnd)
    (ho : 0 < outCap) : 0 < (step s inAvail outCap).2.produced ∧ ∀ e, (step s inAvail outCap).2.ret ≠ .err e := by
  rcases flush_call all hok s hinv inAvail outCap hlim hss hpend ho with ⟨s1, l1, h1, heq⟩ | ⟨s1, heq⟩
  · obtain ⟨hp, hne⟩ := finish_progress s1 l1 inAvail outCap (by omega)
    rw [heq, hp]; exact ⟨h1, hne⟩
  · exact absurd (by rw [heq]; rfl) (step_total all hok s hinv bi inAvail outCap hlim).2.1

theorem buf_reachable (all : List FrameD) (hok : AllOk all) (io : List (Nat × Nat)) (hf : Feasible all (State.start all) io) :
    Inv all (after (State.start all) io) ∧ BufInv (after (State.start all) io) :=
  run_inv all hok (fun s i o hi hb hlim => (step_total all hok s hi hb i o hlim).1) io (State.start all) (inv_start all) (buf_start all) hf

/-! ## no error at all when input and output room are offered and every window is accepted -/

def WindowsOk (all : List FrameD) (m : Nat) : Prop := ∀ f ∈ all, DBuf.effectiveWindow f.windowSize ≤ m

/-- **no error at all**: on a well-formed stream whose windows the decoder accepts, a call that is offered at least one byte of input
(within the stream) and one byte of output room reports no error -/
theorem step_no_error (all : List FrameD) (hok : AllOk all) (m : Nat) (hwin : WindowsOk all m) (s : State) (hinv : Inv all s)
    (bi : BufInv s) (hmw : s.maxWindowSize = m) (inAvail outCap : Nat) (hlim : s.totalIn + inAvail ≤ sizeAll all)
    (hi : 0 < inAvail) (ho : 0 < outCap) : ∀ e, (step s inAvail outCap).2.ret ≠ .err e := by
  have hnc := (step_total all hok s hinv bi inAvail outCap hlim).2.1
  rcases step_cases hok hinv hlim (fun _ _ _ _ _ => Out.sat_true _) trivial with
    ⟨s1, l1, _, heq⟩ | ⟨s1, c, r, ⟨⟨l, hr⟩, _⟩, heq⟩ <;> rw [heq] at hnc ⊢
  · -- with input and output room offered, the no-forward-progress errors cannot be raised
    intro e h
    have := finish_err h
    omega
  · cases hr with
    | corruption => exact absurd rfl hnc
    | window f _ _ hf hlt => have := hwin f hf; omega
    | hint => exact fun e h => by cases h

/-- every call of the segmentation offers its input within the stream (the caller cannot offer bytes that do not exist) -/
def Within (all : List FrameD) : State → List (Nat × Nat) → Prop
  | _, [] => True
  | s, (i, o) :: rest => s.totalIn + i ≤ sizeAll all ∧ Within all (step s i o).1 rest

/-- **every segmentation that offers input and output room in each call is feasible**: no call of it reports an error -/
theorem feasible_of_offered (all : List FrameD) (hok : AllOk all) (m : Nat) (hwin : WindowsOk all m) (io : List (Nat × Nat)) :
    ∀ (s : State), Inv all s → BufInv s → s.maxWindowSize = m → Within all s io → Offered io → Feasible all s io := by
  induction io with
  | nil => intro _ _ _ _ _ _; exact trivial
  | cons p rest ih =>
    obtain ⟨i, o⟩ := p
    intro s hi hb hmw hw hoff
    obtain ⟨hlim, hwr⟩ := hw
    obtain ⟨hpi, hpo, hoffr⟩ := hoff
    have hne := step_no_error all hok m hwin s hi hb hmw i o hlim hpi hpo
    obtain ⟨hi2, _, _, hmw2⟩ := (step_ok all hok s hi i o hlim).2 hne
    exact ⟨hlim, hne, ih _ hi2 (step_total all hok s hi hb i o hlim).1 (hmw2.trans hmw) hwr hoffr⟩

/-- **any segmentation = one-shot, without an error hypothesis**: whatever positive input / output chunk sizes the caller uses on a
well-formed stream with accepted windows, no call fails, and once the model has produced as many bytes as the content holds, what it
produced is the content that single-call decoding yields -/
theorem model_any_offered_segmentation_eq_oneShot (all : List FrameD) (content : List Nat) (hok : AllOk all)
    (hwin : WindowsOk all ZSTD_MAXWINDOWSIZE_DEFAULT) (hlen : content.length = regenAll all) (io : List (Nat × Nat))
    (hw : Within all (State.start all) io) (hoff : Offered io)
    (hdone : (({} : DState).run (calls content (State.start all) io)).produced = content.length) :
    Feasible all (State.start all) io ∧ (({} : DState).run (calls content (State.start all) io)).output = content := by
  have hf := feasible_of_offered all hok _ hwin io (State.start all) (inv_start all) (buf_start all) rfl hw hoff
  exact ⟨hf, model_any_segmentation_eq_oneShot all content hok hlen io hf hdone⟩

/-- **bounded number of calls, without an error hypothesis** -/
theorem calls_bounded_offered (all : List FrameD) (hok : AllOk all) (hwin : WindowsOk all ZSTD_MAXWINDOWSIZE_DEFAULT)
    (io : List (Nat × Nat)) (hw : Within all (State.start all) io) (hoff : Offered io) :
    io.length ≤ sizeAll all + regenAll all := by
  have hf := feasible_of_offered all hok _ hwin io (State.start all) (inv_start all) (buf_start all) rfl hw hoff
  have := calls_bounded all hok io (State.start all) (inv_start all) hf hoff
  have hs : slack all (State.start all) = sizeAll all + regenAll all := by simp [slack, State.start]
  omega

/-- non-vacuity of `feasible_of_offered` / `step_no_error`: the hypotheses hold for the stream `[exFrame]` cut into 10 + 25 bytes -/
example : Feasible [exFrame] (State.start [exFrame]) [(10, 100), (25, 100)] := by
  have hok : AllOk [exFrame] := fun f hf => by
    have : f = exFrame := by simpa using hf
    subst this; decide
  have hwin : WindowsOk [exFrame] ZSTD_MAXWINDOWSIZE_DEFAULT := fun f hf => by
    have : f = exFrame := by simpa using hf
    subst this; decide +kernel
  exact feasible_of_offered [exFrame] hok _ hwin _ _ (inv_start _) (buf_start _) rfl
    ⟨by decide, by decide +kernel, trivial⟩ ⟨by decide, by decide, by decide, by decide, trivial⟩

end ZstdVerif.DStream
