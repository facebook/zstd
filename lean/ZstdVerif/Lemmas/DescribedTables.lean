/-
Sequence tables described in a block (`set_compressed`): the round-trip theorems of Lemmas/BlockRT.lean stated WITHOUT the two side
conditions of `BlockRT.TableOK` on the spreading of symbols, which hold for every normalised distribution
(`BlockRT.tableOK_iff_distribution`).  `Tiles2D` / `FrameOK2D` = `Tiles2` / `FrameOK2` with the distribution hypotheses only
(`TablesDescOK`); `block_roundtrip_described_tables` and `frame_roundtrip_described_tables` are `block_roundtrip` /
`frame_roundtrip_compressed` under the lighter predicates.  The declarations are in namespace `BlockRT`, next to the predicates they vary.
-/
import ZstdVerif.Lemmas.BlockRT
namespace ZstdVerif.BlockRT
open ZstdVerif ZstdVerif.Gen ZstdVerif.FSE ZstdVerif.SeqEnc ZstdVerif.LitEnc ZstdVerif.BlockEnc ZstdVerif.Rep
open ZstdVerif.SeqRT (repOf)
open ZstdVerif.Block (Entropy)
open ZstdVerif.FrameRT (Holds)
open ZstdVerif.Exec (ValidParse)
open ZstdVerif.Serialize ZstdVerif.HeaderW

/-- `Tiles2` with `TablesDescOK` in place of `TablesOK` -/
def Tiles2D (dc : ByteArray) (bsm : Nat) (x : ByteArray) (bs : List BlockChoice2) (pos : Nat) (rep : Rep.R)
    (prev : Option Tables := none) : Prop :=
  match bs with
  | [] => pos = x.size
  | .raw n :: rest => pos + n ≤ x.size ∧ n ≤ bsm ∧ Tiles2D dc bsm x rest (pos + n) rep prev
  | .rle b n :: rest =>
    pos + n ≤ x.size ∧ n ≤ bsm ∧ x.extract pos (pos + n) = ByteArray.mk (Array.replicate n b) ∧ Tiles2D dc bsm x rest (pos + n) rep prev
  | .compressed c t lits raws :: rest =>
    pos + parseLen lits raws ≤ x.size ∧ parseLen lits raws ≤ bsm ∧
    ValidParse dc (x.extract 0 pos) (x.extract pos (pos + parseLen lits raws)) lits ((raws.map toRT).map toSeq) ∧
    (∀ q ∈ raws, q.rawOffset + 3 < 2 ^ 32) ∧ LitOK c lits ∧
    (usesRepeat t = true → prev.isSome = true) ∧ TablesDescOK (Tables.resolve (prev.getD {}) t) ∧
    CodesOK (Tables.resolve (prev.getD {}) t) (BlockEnc.storeAll rep raws).1 ∧
    (serializeBlockBody c lits t (BlockEnc.storeAll rep raws).1 (prev.getD {})).size ≤ bsm ∧
    Tiles2D dc bsm x rest (pos + parseLen lits raws) (BlockEnc.storeAll rep raws).2 (nextTables prev t (BlockEnc.storeAll rep raws).1)

theorem tiles2_of_described (dc : ByteArray) (bsm : Nat) (x : ByteArray) (bs : List BlockChoice2) :
    ∀ (pos : Nat) (rep : Rep.R) (prev : Option Tables), Tiles2D dc bsm x bs pos rep prev → Tiles2 dc bsm x bs pos rep prev := by
  induction bs with
  | nil => intro pos rep prev h; exact h
  | cons b rest ih =>
    intro pos rep prev h
    cases b with
    | raw n => exact ⟨h.1, h.2.1, ih _ _ _ h.2.2⟩
    | rle b n => exact ⟨h.1, h.2.1, h.2.2.1, ih _ _ _ h.2.2.2⟩
    | compressed c t lits raws =>
      obtain ⟨h1, h2, h3, h4, h5, h6, h7, h8, h9, h10⟩ := h
      exact ⟨h1, h2, h3, h4, h5, h6, tablesOK_of_distribution h7, h8, h9, ih _ _ _ h10⟩

/-- `FrameOK2` with `Tiles2D` in place of `Tiles2`: no hypothesis mentions the spreading of symbols -/
def FrameOK2D (dc : ByteArray) (a : HArgs) (bs : List BlockChoice2) (x : ByteArray) : Prop :=
  a.wf ∧ (a.noDictID = true ∨ a.dictID = 0) ∧ a.magicless = false ∧ (a.contentSizeFlag = true → a.pledged = x.size) ∧
    Tiles2D dc (FrameRT.blockSizeMaxOf a) x bs 0 repStart

theorem frameOK2_of_described {dc : ByteArray} {a : HArgs} {bs : List BlockChoice2} {x : ByteArray} (h : FrameOK2D dc a bs x) :
    FrameOK2 dc a bs x :=
  ⟨h.1, h.2.1, h.2.2.1, h.2.2.2.1, tiles2_of_described _ _ _ _ _ _ _ h.2.2.2.2⟩

/-- **block_roundtrip_described_tables**: `block_roundtrip` whose table hypothesis (`TablesDescOK`) is about the distributions only -/
theorem block_roundtrip_described_tables (dict pre prev x lits : ByteArray) (raws : List SeqRT.RawSeq) (c : LitChoice) (t : Tables)
    (src : Bytes) (start : Nat) (ent : Entropy) (bsm cap : Nat) (pt : Option Tables)
    (hv : ValidParse dict prev x lits (raws.map toSeq))
    (hx : x.size ≤ bsm) (hb17 : bsm ≤ 2 ^ 17) (hoff : ∀ q ∈ raws, q.rawOffset + 3 < 2 ^ 32)
    (hrep : RepPos (repOf ent.rep)) (hent : EntMatch pt ent)
    (hc : LitOK c lits) (hrp : usesRepeat t = true → pt.isSome = true) (hT : TablesDescOK (Tables.resolve (pt.getD {}) t))
    (hok : CodesOK (Tables.resolve (pt.getD {}) t) (SeqRT.storeAll (repOf ent.rep) raws).1)
    (H : Holds src start (serializeBlockBody c lits t (SeqRT.storeAll (repOf ent.rep) raws).1 (pt.getD {})))
    (hsize : (serializeBlockBody c lits t (SeqRT.storeAll (repOf ent.rep) raws).1 (pt.getD {})).size ≤ bsm)
    (hcap : pre.size + prev.size + x.size ≤ cap) :
    ∃ ent2 tr, Block.decodeBlock src start (serializeBlockBody c lits t (SeqRT.storeAll (repOf ent.rep) raws).1 (pt.getD {})).size ent dict
        { out := pre ++ prev, frameStart := pre.size, cap := cap } bsm = .ok (pre ++ prev ++ x, ent2, tr) ∧
      repOf ent2.rep = (SeqRT.storeAll (repOf ent.rep) raws).2 ∧ RepPos (repOf ent2.rep) ∧ tr.nbSeq = raws.length ∧
      EntMatch (nextTables pt t (SeqRT.storeAll (repOf ent.rep) raws).1) ent2 :=
  block_roundtrip dict pre prev x lits raws c t src start ent bsm cap pt hv hx hb17 hoff hrep hent hc hrp (tablesOK_of_distribution hT)
    hok H hsize hcap

/-- **frame_roundtrip_described_tables**: `frame_roundtrip_compressed` under `FrameOK2D` -/
theorem frame_roundtrip_described_tables (a : HArgs) (bs : List BlockChoice2) (x : ByteArray) (dict : Frame.Dict)
    (hok : FrameOK2D dict.content a bs x) (hrep0 : repOf dict.ent.rep = repStart)
    (cap : Nat) (hcap : x.size ≤ cap) (o : Frame.Opts) (hml : o.magicless = false) (hmb : o.maxBlockSize = 0) :
    ∃ traces, Frame.decompressAll (serializeFrame2 a bs x) dict cap o = .ok (x, traces) :=
  frame_roundtrip_compressed a bs x dict (frameOK2_of_described hok) hrep0 cap hcap o hml hmb

/-- non-vacuity: the demonstration tables of Lemmas/BlockRT.lean satisfy the lighter predicate, hence `TablesOK` without evaluating any spreading -/
example : TablesDescOK demoFse := by decide
example : TablesOK demoFse := tablesOK_of_distribution (by decide)

end ZstdVerif.BlockRT
