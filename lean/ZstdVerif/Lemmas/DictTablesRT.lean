/-
Round trip of frames whose FIRST blocks repeat the DICTIONARY's entropy tables (properties C08 / C01): `set_repeat` of the dictionary's
LL / OF / ML tables in the first block with sequences, TREELESS literals on the dictionary's Huffman table in the first block with
Huffman literals.

Writer: Model/DictEnc.lean `serializeFrameFromT` / `serializeFrameDictTables` (ZSTD_loadCEntropy: the compressor's `prevCBlock->entropy`
holds the tables built from the dictionary's normalised counts and Huffman weights, repeat modes `check` / `valid`).
Loader: Model/Dict.lean `Dict.loadD` (ZSTD_loadDEntropy: `litEntropy = fseEntropy = 1`).  Decoder: Model/Frame.lean.

The frame theorem is `BlockRT.frame_roundtrip_from`, which starts the block loop from any entropy state both sides share.  What is
added here: the state the loader installs IS the decoding state of `DictEnc.dictTables p` / `DictEnc.dictHuf p` (`loadD_tables_match`),
hence `frame_roundtrip_compressed_dict_tables` for every accepted dictionary; and a concrete formatted dictionary with a frame whose only
block repeats its three tables and is treeless on its Huffman table (`demo_load`, `demo_ok`).

What is asked of a REPEATED dictionary table is `BlockRT.TablesOK` of its counts (inside the tiling hypothesis, only for blocks that do
repeat it), exactly as for a table described in the frame; it is decidable and evaluated by the driver on every dictionary of the
differential tie (`dtab=true`).  That FSE_readNCount only returns such counts is not proved here (it does not for every input: a count
table may end in zeros, which `TablesOK` excludes; such a table can still be loaded, it just is not covered when repeated).
-/
import ZstdVerif.Lemmas.DictRT
set_option linter.unusedSimpArgs false
namespace ZstdVerif.DictTablesRT
open ZstdVerif ZstdVerif.Gen ZstdVerif.BlockEnc ZstdVerif.DictEnc ZstdVerif.Serialize ZstdVerif.HeaderW ZstdVerif.Rep
open ZstdVerif.SeqRT (repOf)
open ZstdVerif.Block (Entropy)
open ZstdVerif.BlockRT (RepPos TilesT EntMatch EntIs HufMatch tilesT_of_tiles2)
open ZstdVerif.DictRT (DictIDOK)

/-! ### the serializer with a starting entropy state -/

/-- the frames of `DictEnc.serializeFrameFrom` are the frames started without previous tables -/
theorem serializeFrameFromT_eq_from (rep0 : Rep.R) (a : HArgs) (bs : List BlockChoice2) (x : ByteArray) :
    serializeFrameFrom rep0 a bs x = serializeFrameFromT rep0 none none a bs x := rfl

/-- ... and so are the frames of `BlockEnc.serializeFrame2`, from `repStartValue` -/
theorem serializeFrame2_eq_fromT (a : HArgs) (bs : List BlockChoice2) (x : ByteArray) :
    serializeFrame2 a bs x = serializeFrameFromT repStart none none a bs x := rfl

/-! ### whole inputs (ZSTD_decompress_usingDict) -/

/-- hypotheses on one frame written from the history `rep0`, the previous sequence-table decisions `pt0` and the previous Huffman table
`hp0`, for a decoder holding a dictionary with content `dc` and ID `did`: as `DictRT.FrameOKFrom`, the tiling being a `TilesT` started
from `pt0` / `hp0` - so a block that says `set_repeat` before any block of the frame had sequences resolves to `pt0` (which must then be
acceptable, `TablesOK`, and express the block's codes, `CodesOK`), and a treeless block before any block of the frame wrote a Huffman
table uses `hp0` (which must cover its literals, `TreelessOK`) -/
def FrameOKFromT (dc : ByteArray) (did : Nat) (rep0 : Rep.R) (pt0 : Option Tables) (hp0 : Option HufTab) (a : HArgs)
    (bs : List BlockChoice2) (x : ByteArray) : Prop :=
  a.wf ∧ DictIDOK a did ∧ a.magicless = false ∧ (a.contentSizeFlag = true → a.pledged = x.size) ∧
    TilesT dc (FrameRT.blockSizeMaxOf a) x bs 0 rep0 pt0 hp0

/-- a frame that does not look at the starting tables (`DictRT.FrameOKFrom`: `Tiles2` from `prev = none`) is a frame in the wider sense
started from NO tables -/
theorem frameOKFromT_of_frameOKFrom {dc : ByteArray} {did : Nat} {rep0 : Rep.R} {a : HArgs} {bs : List BlockChoice2} {x : ByteArray}
    (h : DictRT.FrameOKFrom dc did rep0 a bs x) : FrameOKFromT dc did rep0 none none a bs x :=
  ⟨h.1, h.2.1, h.2.2.1, h.2.2.2.1, tilesT_of_tiles2 _ _ x bs 0 rep0 none none h.2.2.2.2⟩

/-- **frame_roundtrip_fromT**: `BlockRT.frame_roundtrip_from` with its hypotheses on the frame bundled (`FrameOKFromT`) -/
theorem frame_roundtrip_fromT (rep0 : Rep.R) (hpos : RepPos rep0) (pt0 : Option Tables) (hp0 : Option HufTab) (a : HArgs)
    (bs : List BlockChoice2) (x : ByteArray) (dict : Frame.Dict)
    (hok : FrameOKFromT dict.content dict.id rep0 pt0 hp0 a bs x) (hrep0 : repOf dict.ent.rep = rep0)
    (hem : EntMatch pt0 dict.ent) (hhm : HufMatch hp0 dict.ent)
    (cap : Nat) (hcap : x.size ≤ cap) (o : Frame.Opts) (hml : o.magicless = false) (hmb : o.maxBlockSize = 0) :
    ∃ traces, Frame.decompressAll (serializeFrameFromT rep0 pt0 hp0 a bs x) dict cap o = .ok (x, traces) :=
  BlockRT.frame_roundtrip_from rep0 hpos pt0 hp0 a bs x dict hok.1 hok.2.1 hok.2.2.1 hok.2.2.2.1 hok.2.2.2.2 hrep0 hem hhm cap hcap o hml hmb

/-- `DictRT.frame_roundtrip_from` is the instance "no starting tables" -/
theorem frame_roundtrip_from_inst (rep0 : Rep.R) (hpos : RepPos rep0) (a : HArgs) (bs : List BlockChoice2) (x : ByteArray)
    (dict : Frame.Dict) (hok : DictRT.FrameOKFrom dict.content dict.id rep0 a bs x) (hrep0 : repOf dict.ent.rep = rep0)
    (cap : Nat) (hcap : x.size ≤ cap) (o : Frame.Opts) (hml : o.magicless = false) (hmb : o.maxBlockSize = 0) :
    ∃ traces, Frame.decompressAll (serializeFrameFrom rep0 a bs x) dict cap o = .ok (x, traces) :=
  frame_roundtrip_fromT rep0 hpos none none a bs x dict (frameOKFromT_of_frameOKFrom hok) hrep0 trivial trivial cap hcap o hml hmb

/-! ### what the dictionary loader installs -/

/-- the decoding table HUF_readDTable builds does not depend on how many bytes the weight header took -/
theorem buildTable_used (st : Huf.Stats) : Huf.buildTable st = Huf.buildTable ⟨st.weights, st.tableLog, 0⟩ := rfl

/-- ZSTD_loadDEntropy installs exactly the decoding tables of the decisions `dictTables p`, marked valid (`fseEntropy = 1`):
the three tables are `ZSTD_buildFSETable` of the counts FSE_readNCount returned, which is what `set_compressed` with these counts builds -/
theorem fullDict_entIs (d : Bytes) (p : Dict.Parsed) : EntIs (dictTables p) (Dict.fullDict d p).ent :=
  ⟨rfl, rfl, rfl, rfl, rfl, rfl, rfl⟩

/-- ZSTD_loadDEntropy installs the Huffman decoding table of `dictHuf p` (`litEntropy = 1`), and these weights are what HUF_readStats
accepted: Kraft equality (`WeightsOK`), depth ≤ HUF_TABLELOG_MAX = 12 -/
theorem fullDict_hufMatch {d : Bytes} {p : Dict.Parsed} (h : Dict.parseEntropy d = .ok p) :
    HufMatch (some (dictHuf p)) (Dict.fullDict d p).ent := by
  have hs := (DictRT.parseEntropy_ok h).2.2.2
  exact ⟨HufRT.readStats_weightsOK _ _ _ _ _ hs, HufRT.readStats_log_le _ _ _ _ _ hs, rfl⟩

/-- **loadD_tables_match**: whatever dictionary `Dict.loadD` accepts, the entropy state it installs carries the tables the compressor
starts from (`DictEnc.dictStart d`: the dictionary's three sequence tables and its Huffman table for a formatted dictionary, nothing for
raw content), in the sense of the carrier relations of the block round trip (`EntMatch`, `HufMatch`) -/
theorem loadD_tables_match {d : Bytes} {D : Frame.Dict} (h : Dict.loadD d = .ok D) :
    EntMatch (dictStart d).1 D.ent ∧ HufMatch (dictStart d).2 D.ent := by
  rcases DictRT.loadD_cases h with ⟨hc, rfl⟩ | ⟨p, hc, rfl⟩
  · unfold dictStart; rw [hc]; exact ⟨trivial, trivial⟩
  · unfold dictStart; rw [hc]
    exact ⟨fullDict_entIs d p, fullDict_hufMatch (DictRT.classify_full hc).2.1⟩

/-- for a formatted dictionary the start state IS the dictionary's tables -/
theorem dictStart_full {d : Bytes} {p : Dict.Parsed} (h : Dict.classify d = .full p) :
    dictStart d = (some (dictTables p), some (dictHuf p)) := by
  unfold dictStart; rw [h]

/-! ### MAIN: first blocks that repeat the dictionary's tables -/

/-- **frame_roundtrip_compressed_dict_tables** (C08 / C01).  For EVERY dictionary buffer `d` the decoder-side loader accepts
(`Dict.loadD d = .ok D`), every input `x`, every accepted header-argument tuple whose dictionary-ID field is absent, 0 or the dictionary's,
and EVERY tiling of `x` into raw / RLE / compressed blocks that is valid when the block loop STARTS FROM THE DICTIONARY'S ENTROPY TABLES
(`TilesT … (dictRep D) (dictStart d).1 (dictStart d).2`): parses valid against `D.content ++ (frame content so far)`, first sequences may
use the dictionary's repeat offsets, the first block(s) with sequences may say `set_repeat` for LL / OF / ML - the table is then the
dictionary's, built by both sides from the counts FSE_readNCount returned - and the first block(s) with literals may be TREELESS on the
dictionary's Huffman table; later blocks repeat whatever the previous block left, as in `BlockRT.frame_roundtrip_compressed_treeless` -
ZSTD_decompress_usingDict (`Frame.decompressAll … D cap o`) returns exactly `x`, for every capacity that can hold it.
What the tiling asks of a repeated dictionary table is what it asks of any described table: `TablesOK` (a normalised distribution the
round-trip theorem of the bit stream accepts) and `CodesOK` (every code the block uses has a non-zero count - what ZSTD_fseBitCost /
ZSTD_dictNCountRepeat establish before `set_repeat` is chosen); of the dictionary's Huffman table: a code for every literal and a gain
(`TreelessOK`; that the weights themselves are acceptable is PROVED from the loader, `fullDict_hufMatch`). -/
theorem frame_roundtrip_compressed_dict_tables (d : Bytes) (D : Frame.Dict) (hload : Dict.loadD d = .ok D)
    (a : HArgs) (bs : List BlockChoice2) (x : ByteArray)
    (hok : FrameOKFromT D.content D.id (dictRep D) (dictStart d).1 (dictStart d).2 a bs x)
    (cap : Nat) (hcap : x.size ≤ cap) (o : Frame.Opts) (hml : o.magicless = false) (hmb : o.maxBlockSize = 0) :
    ∃ traces, Frame.decompressAll (serializeFrameDictTables d D a bs x) D cap o = .ok (x, traces) :=
  frame_roundtrip_fromT (dictRep D) (DictRT.loadD_reps_ok hload).1 (dictStart d).1 (dictStart d).2 a bs x D hok rfl
    (loadD_tables_match hload).1 (loadD_tables_match hload).2 cap hcap o hml hmb

/-! ### non-vacuity: a 112-byte FORMATTED dictionary (Huffman weights for the letters `a`..`h` at depth 4; offset-code, match-length and
literal-length tables over 8 / 8 / 6 codes at table log 5; repeat offsets 5, 9, 2; 28 bytes of content) and a 57-byte input written as ONE
compressed block whose three sequence tables are `set_repeat` - the DICTIONARY's tables - and whose 45 literals are TREELESS on the
DICTIONARY's Huffman table; the first match uses the dictionary's first repeat offset (distance 5).  The loader accepts the dictionary
(`demo_load`), the frame hypothesis holds (`demo_ok`: in particular the dictionary's tables pass `TablesOK` and cover the block's codes),
the theorem applies.  The same dictionary and parse are a fixed case of the differential tie (tools/ent_block.py `fixed_cases_dict`): the real
ZSTD_decompress_usingDict regenerates the input from the model's frame. -/

section Demo
open ZstdVerif.BlockRT (TablesOK CodesOK TreelessOK LitOK)
open ZstdVerif.LitEnc (hufStreams)

def demoDict : ByteArray := ofList [55, 164, 48, 236, 209, 47, 1, 0, 231, 0, 0, 0, 0, 0, 0, 0, 0, 0, 0, 0, 0, 0, 0, 0, 0, 0, 0, 0, 0, 0, 0, 0, 0, 0, 0, 0, 0, 0, 0, 0, 0, 0, 0, 0, 0, 0, 0, 0, 0, 0, 0, 0, 0, 0, 0, 0, 0, 3, 50, 33, 17, 144, 82, 85, 231, 16, 171, 182, 57, 16, 179, 115, 5, 0, 0, 0, 9, 0, 0, 0, 2, 0, 0, 0, 104, 103, 102, 101, 100, 99, 98, 97, 45, 48, 49, 50, 51, 52, 53, 54, 55, 56, 57, 45, 97, 98, 99, 100, 101, 102, 103, 104]
def demoContent : ByteArray := ofList [104, 103, 102, 101, 100, 99, 98, 97, 45, 48, 49, 50, 51, 52, 53, 54, 55, 56, 57, 45, 97, 98, 99, 100, 101, 102, 103, 104]
def demoX : ByteArray := ofList [97, 98, 97, 99, 97, 97, 98, 97, 99, 98, 97, 100, 97, 97, 100, 97, 97, 100, 98, 97, 101, 97, 97, 100, 97, 98, 97, 102, 97, 98, 97, 103, 97, 98, 97, 104, 97, 97, 98, 98, 97, 97, 99, 99, 97, 97, 98, 97, 97, 98, 97, 99, 97, 97, 98, 97, 97]
def demoLits : ByteArray := ofList [97, 98, 97, 99, 97, 98, 97, 100, 97, 98, 97, 101, 97, 98, 97, 102, 97, 98, 97, 103, 97, 98, 97, 104, 97, 97, 98, 98, 97, 97, 99, 99, 97, 97, 98, 97, 97, 98, 97, 99, 97, 97, 98, 97, 97]
def demoRaws : List BlockEnc.RawSeq := [⟨5, 1, 5⟩, ⟨4, 2, 3⟩, ⟨3, 0, 9⟩]
def demoBlocks : List BlockChoice2 := [.compressed .treeless ⟨.repeat, .repeat, .repeat⟩ demoLits demoRaws]
def demoArgs : HArgs := ⟨10, 57, true, 77777, false, true, false⟩
def demoTabs : Tables := { ll := .fse #[16, 8, 4, 2, 1, 1] 5, of := .fse #[8, 8, 4, 4, 4, 2, 1, 1] 5, ml := .fse #[16, 4, 4, 2, 2, 2, 1, 1] 5 }
def demoW : Array Nat := (Array.replicate 97 0) ++ #[3, 3, 2, 2, 1, 1, 1, 1]

def kindParsed : Dict.Kind → Option Dict.Parsed
  | .full p => some p
  | _ => none

def demoP : Dict.Parsed := (kindParsed (Dict.classify demoDict)).getD default
def demoD : Frame.Dict := Dict.fullDict demoDict demoP

/-- what the loader model makes of the 112 bytes - a formatted dictionary, its tables, repeat offsets, content and ID - from ONE
evaluation of ZSTD_loadDEntropy (`Dict.classify`) -/
theorem demo_facts : Dict.classify demoDict = .full demoP ∧ dictStart demoDict = (some demoTabs, some (demoW, 4)) ∧
    dictRep demoD = ⟨5, 9, 2⟩ ∧ demoD.content = demoContent ∧ demoD.id = 77777 := by
  have h : (match Dict.classify demoDict with
      | .full p => decide (dictTables p = demoTabs ∧ dictHuf p = (demoW, 4) ∧ p.reps = [5, 9, 2] ∧ p.contentStart = 84)
      | _ => false) = true := by decide +kernel
  have hc : Dict.classify demoDict = .full demoP := by
    unfold demoP
    cases hk : Dict.classify demoDict with
    | full p => rfl
    | raw => rw [hk] at h; cases h
    | corrupted w => rw [hk] at h; cases h
  rw [hc] at h
  obtain ⟨ht, hh, hr, hs⟩ := of_decide_eq_true h
  refine ⟨hc, by rw [dictStart_full hc, ht, hh], ?_, ?_, by decide +kernel⟩
  · show (⟨demoP.reps.toArray[0]!, demoP.reps.toArray[1]!, demoP.reps.toArray[2]!⟩ : Rep.R) = _
    rw [hr]; rfl
  · show demoDict.extract demoP.contentStart demoDict.size = _
    rw [hs]; decide +kernel

theorem demo_load : Dict.loadD demoDict = .ok demoD := DictRT.loadD_full demo_facts.1

theorem demo_treelessOK : TreelessOK demoW 4 demoLits where
  syms := by decide +kernel
  gain := fun st h => by
    have := BlockRT.gain_of_check (a := some ByteArray.empty) (n := demoLits.size)
      (b := hufStreams (decide ((symsOf demoLits).length < 256)) (HufEnc.codesOf demoW 4) (symsOf demoLits)) (by decide +kernel)
      ByteArray.empty st rfl h
    simpa using this

/-- the body of the block (treeless literals on the dictionary's Huffman table, sequences on its three tables), evaluated once -/
theorem demo_body : serializeBlockBody .treeless demoLits ⟨.repeat, .repeat, .repeat⟩ (BlockEnc.storeAll ⟨5, 9, 2⟩ demoRaws).1
    ((some demoTabs).getD {}) (some (demoW, 4)) =
    ofList [211, 66, 3, 186, 202, 117, 149, 244, 117, 92, 113, 195, 5, 119, 174, 220, 3, 252, 5, 226, 147, 39, 164] := by decide +kernel

theorem demo_ok : FrameOKFromT demoD.content demoD.id (dictRep demoD) (dictStart demoDict).1 (dictStart demoDict).2 demoArgs demoBlocks demoX := by
  obtain ⟨-, hs, hr, hc, hi⟩ := demo_facts
  rw [hc, hi, hr, hs]
  refine ⟨by unfold HArgs.wf; decide, Or.inr (Or.inr rfl), rfl, fun _ => rfl, ?_⟩
  have hb : FrameRT.blockSizeMaxOf demoArgs = 57 := by decide
  rw [hb]
  refine ⟨by decide, by decide, by decide +kernel, by decide, demo_treelessOK, fun _ => rfl, by decide +kernel, by decide +kernel,
    by rw [demo_body]; decide, ?_⟩
  show 0 + parseLen demoLits demoRaws = demoX.size
  decide

example : ∃ tr, Frame.decompressAll (serializeFrameDictTables demoDict demoD demoArgs demoBlocks demoX) demoD 57 {} = .ok (demoX, tr) :=
  frame_roundtrip_compressed_dict_tables demoDict demoD demo_load _ _ _ demo_ok 57 (by decide) {} rfl rfl

example : (serializeFrameDictTables demoDict demoD { demoArgs with checksum := false } demoBlocks demoX).data =
  #[40, 181, 47, 253, 35, 209, 47, 1, 0, 57, 189, 0, 0, 211, 66, 3, 186, 202, 117, 149, 244, 117, 92, 113, 195, 5, 119,
  174, 220, 3, 252, 5, 226, 147, 39, 164] := by
  simp only [serializeFrameDictTables, serializeFrameFromT, demo_facts.2.1, demo_facts.2.2.1, demoBlocks, serializeBlocks2, demo_body]
  decide +kernel
end Demo

end ZstdVerif.DictTablesRT
