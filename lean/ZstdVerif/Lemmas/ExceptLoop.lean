/-
Results in `R = Except Err` and `for` loops in that monad, run as loops over lists: the equations of one iteration, the invariant
rule, and `Post`, partial correctness with one rule per shape the `do` notation produces.  FrameAnatomy, BlockRT, DictRT and TruncRT
take the one-iteration equations, WalkerRT the guard inversion, ExecRT and TableSafe the invariant rules and `Post`.  (The `Id`-monad
rule "a loop that only yields is a left fold" is `SeqRT.forIn_yield_list`.)
-/
import ZstdVerif.Model.Bytes
namespace ZstdVerif

theorem error_of_not_ok {α : Type} {x : R α} (h : ∀ v, x ≠ .ok v) : ∃ e, x = .error e := by
  cases x with
  | error e => exact ⟨e, rfl⟩
  | ok v => exact absurd rfl (h v)

theorem ite_error_ok_iff {α : Type} {c : Prop} [Decidable c] {e : Err} {k : R α} {r : α} :
    (if c then .error e else k) = .ok r ↔ ¬ c ∧ k = .ok r := by
  by_cases h : c
  · rw [if_pos h]; exact ⟨(nomatch ·), fun c => absurd h c.1⟩
  · rw [if_neg h]; exact ⟨fun c => ⟨h, c⟩, fun c => c.2⟩

/-- case distinction on an `if` that is the argument of a predicate, without abstracting the predicate over it as `split` does
(that abstraction is dear when the branches are large terms) -/
theorem ite_cases {α : Sort _} {P : α → Prop} {c : Prop} [Decidable c] {a b : α} (h1 : c → P a) (h2 : ¬ c → P b) :
    P (if c then a else b) := by
  split
  · exact h1 ‹_›
  · exact h2 ‹_›

-- The one-iteration equations are in `FrameRT` because the files that use them open that namespace.
namespace FrameRT

theorem forIn_cons_done {α β : Type} (a : α) (l : List α) (f : α → β → R (ForInStep β)) (b b' : β) (h : f a b = .ok (.done b')) :
    forIn (a :: l) b f = .ok b' := by
  rw [List.forIn_cons, h]; rfl

theorem forIn_cons_yield {α β : Type} (a : α) (l : List α) (f : α → β → R (ForInStep β)) (b b' : β) (h : f a b = .ok (.yield b')) :
    forIn (a :: l) b f = forIn l b' f := by
  rw [List.forIn_cons, h]; rfl

theorem forIn_cons_error {α β : Type} (a : α) (l : List α) (f : α → β → R (ForInStep β)) (b : β) (e : Err) (h : f a b = .error e) :
    forIn (a :: l) b f = .error e := by
  rw [List.forIn_cons, h]; rfl

theorem forIn_range {β : Type} (n : Nat) (init : β) (f : Nat → β → R (ForInStep β)) :
    forIn [:n] init f = forIn (List.range' 0 n) init f := by
  rw [Std.Legacy.Range.forIn_eq_forIn_range']
  simp only [Std.Legacy.Range.size, Nat.sub_zero, Nat.add_sub_cancel, Nat.div_one]

theorem forIn_body_congr {α β : Type} {f g : α → β → R (ForInStep β)} (h : ∀ a b, f a b = g a b) (l : List α) (init : β) :
    forIn l init f = forIn l init g := by
  rw [show f = g from funext fun a => funext (h a)]

end FrameRT

/-! ### invariants -/

/-- the state a `for` body hands back, whether it `break`s or goes on -/
def stepVal {β : Type} : ForInStep β → β
  | .done b => b
  | .yield b => b

/-- what holds initially and is preserved by every iteration that does not throw holds for the final state -/
theorem forIn_list_inv {α β : Type} (P : β → Prop) (l : List α) (f : α → β → R (ForInStep β)) (init r : β)
    (h0 : P init) (hf : ∀ a b s, P b → f a b = .ok s → P (stepVal s)) (h : forIn l init f = .ok r) : P r := by
  induction l generalizing init with
  | nil => cases h; exact h0
  | cons a as ih =>
    cases hs : f a init with
    | error e => rw [FrameRT.forIn_cons_error a as f init e hs] at h; cases h
    | ok s =>
      have := hf a init s h0 hs
      cases s with
      | done b => rw [FrameRT.forIn_cons_done a as f init b hs] at h; cases h; exact this
      | yield b => rw [FrameRT.forIn_cons_yield a as f init b hs] at h; exact ih b this h

theorem forIn_range_inv {β : Type} (P : β → Prop) (rg : Std.Legacy.Range) (f : Nat → β → R (ForInStep β)) (init r : β)
    (h0 : P init) (hf : ∀ a b s, P b → f a b = .ok s → P (stepVal s)) (h : forIn rg init f = .ok r) : P r := by
  rw [Std.Legacy.Range.forIn_eq_forIn_range'] at h
  exact forIn_list_inv P _ f init r h0 hf h

/-- the `Id` monad -/
theorem forIn_range_inv_id {β : Type} (P : β → Prop) (rg : Std.Legacy.Range) (f : Nat → β → Id (ForInStep β)) (init : β)
    (h0 : P init) (hf : ∀ a b, P b → P (stepVal (f a b))) : P (forIn (m := Id) rg init f) := by
  rw [Std.Legacy.Range.forIn_eq_forIn_range']
  generalize List.range' _ _ _ = l
  induction l generalizing init with
  | nil => exact h0
  | cons a as ih =>
    rw [List.forIn_cons]
    have := hf a init h0
    change P (match f a init with | ForInStep.done b => b | ForInStep.yield b => forIn (m := Id) as b f)
    cases hs : f a init with
    | done b => rw [hs] at this; exact this
    | yield b => rw [hs] at this; exact ih b this

/-! ### partial correctness

`Post P x`: if `x` succeeds, its value satisfies `P`.  The rules follow the shapes the `do` notation produces (`if c then throw e`
followed by more code becomes `if c then throw e >>= k else k ()`, `if c then break` at the end of a loop body becomes
`if c then pure (.done b) else pure (.yield b)`), so a proof walks a program from the top, one rule per statement; every rule looks at
the head of the program only, which keeps the steps cheap however long the program is. -/

def Post {α : Type} (P : α → Prop) (x : R α) : Prop := ∀ a, x = .ok a → P a

namespace Post
variable {α β : Type} {P : α → Prop}

theorem pure {a : α} (h : P a) : Post P (Pure.pure a) := fun _ e => by cases e; exact h

theorem error {e : Err} : Post P (.error e) := nofun

theorem bind {x : R β} {f : β → R α} (h : ∀ b, x = .ok b → Post P (f b)) : Post P (x >>= f) := by
  intro a ha
  cases x with
  | error e => cases ha
  | ok b => exact h b rfl a ha

theorem throw_bind {e : Err} {f : β → R α} : Post P (throw e >>= f) := bind fun _ h => nomatch h

/-- sequencing through an intermediate assertion `Q` -/
theorem seq {Q : β → Prop} {x : R β} {f : β → R α} (hx : Post Q x) (hf : ∀ b, Q b → Post P (f b)) : Post P (x >>= f) :=
  bind fun b hb => hf b (hx b hb)

theorem ite {c : Prop} [Decidable c] {x y : R α} (hx : c → Post P x) (hy : ¬ c → Post P y) : Post P (if c then x else y) := by
  split
  · exact hx ‹_›
  · exact hy ‹_›

/-- `if c then throw e` in front of more code -/
theorem guard {c : Prop} [Decidable c] {e : Err} {f : β → R α} {y : R α} (h : ¬ c → Post P y) :
    Post P (if c then throw e >>= f else y) :=
  ite (fun _ => throw_bind) h

/-- `if c then break` at the end of a loop body -/
theorem stop {P : ForInStep β → Prop} {c : Prop} [Decidable c] {b : β} (hd : P (.done b)) (hy : P (.yield b)) :
    Post P (if c then Pure.pure (ForInStep.done b) else Pure.pure (ForInStep.yield b)) :=
  ite (fun _ => pure hd) fun _ => pure hy

theorem loop {P : β → Prop} {rg : Std.Legacy.Range} {f : Nat → β → R (ForInStep β)} {init : β}
    (h0 : P init) (hf : ∀ a b, P b → Post (fun s => P (stepVal s)) (f a b)) : Post P (forIn rg init f) :=
  fun r h => forIn_range_inv P rg f init r h0 (fun a b s hb hs => hf a b hb s hs) h

end Post
end ZstdVerif
