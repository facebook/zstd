/-
Sequence execution of the decoder model (Model/Exec.lean) and what it gives the block and frame decoders built on it: executing any
valid parse of `x` regenerates exactly `x` (`exec_of_validParse`); a successful execution only appends to its output and stays within
the capacity (`Extends`, carried through `decodeBlock`, `decompressFrame`, `decompressAll`, `decompressPrefix`); under the three checks
of `Exec.step`, given that every match offset is at least 1, no access of the executor is out of range (`exec_no_oob`), and the sequence
decoder only produces such offsets (`exec_decoded_no_oob`).  BlockRT and C01 take the round trip, C03 and C06 the rest.
-/
import ZstdVerif.Model.Frame
import ZstdVerif.Lemmas.SeqRT
import ZstdVerif.Lemmas.FrameAnatomy
namespace ZstdVerif.Exec

/-! ### byte arrays: `[i]!`, `extract`, `push` -/

-- No proof below looks inside `extract`.  Left reducible, it gets unfolded whenever `(b.extract s e)[i]` is elaborated or two sizes are
-- compared, which is most of the cost of these lemmas.
attribute [local irreducible] ByteArray.extract

theorem bang_append_left {a b : ByteArray} {i : Nat} (h : i < a.size) : (a ++ b)[i]! = a[i]! := by
  rw [getElem!_pos (a ++ b) i (by rw [ByteArray.size_append]; omega), getElem!_pos a i h]
  exact ByteArray.getElem_append_left h

theorem bang_append_right {a b : ByteArray} {i : Nat} (h : a.size ≤ i) : (a ++ b)[i]! = b[i - a.size]! := by
  by_cases hi : i < (a ++ b).size
  · have hb : i - a.size < b.size := by rw [ByteArray.size_append] at hi; omega
    rw [getElem!_pos (a ++ b) i hi, getElem!_pos b _ hb]
    exact ByteArray.getElem_append_right h
  · have hb : ¬ i - a.size < b.size := by rw [ByteArray.size_append] at hi; omega
    rw [getElem!_neg (a ++ b) i hi, getElem!_neg b _ hb]

theorem bang_extract {b : ByteArray} {s e i : Nat} (h : s + i < e) : (b.extract s e)[i]! = b[s + i]! := by
  by_cases hb : s + i < b.size
  · have h1 : i < (b.extract s e).size := by rw [ByteArray.size_extract]; omega
    rw [getElem!_pos (b.extract s e) i h1, getElem!_pos b (s + i) hb]
    exact ByteArray.getElem_extract h1
  · rw [getElem!_neg (b.extract s e) i (by rw [ByteArray.size_extract]; omega), getElem!_neg b (s + i) hb]

theorem extract_push {b : ByteArray} {s e : Nat} (hs : s ≤ e) (he : e < b.size) :
    (b.extract s e).push b[e]! = b.extract s (e + 1) := by
  rw [getElem!_pos b e he, ← ByteArray.append_toByteArray_singleton, ← ByteArray.extract_add_one (by omega),
    ByteArray.extract_append_extract, Nat.min_eq_left hs, Nat.max_eq_right (by omega)]

theorem append_push {a b : ByteArray} {c : UInt8} : (a ++ b).push c = a ++ b.push c := by
  rw [← ByteArray.append_toByteArray_singleton, ByteArray.append_assoc, ByteArray.append_toByteArray_singleton]

theorem size_extract_of_le {b : ByteArray} {s e : Nat} (he : e ≤ b.size) : (b.extract s e).size = e - s := by
  rw [ByteArray.size_extract, Nat.min_eq_left he]

theorem size_append_prefix {a b : ByteArray} {q : Nat} (hq : q ≤ b.size) : (a ++ b.extract 0 q).size = a.size + q := by
  rw [ByteArray.size_append, size_extract_of_le hq, Nat.sub_zero]

theorem append_prefix_extract {a b : ByteArray} {q q' : Nat} (h : q ≤ q') : a ++ b.extract 0 q ++ b.extract q q' = a ++ b.extract 0 q' := by
  rw [ByteArray.append_assoc, ByteArray.extract_append_extract, Nat.min_eq_left (Nat.zero_le _), Nat.max_eq_right h]

/-! ### `copyMatch` -/

/-- the byte the next step of `copyMatch` appends -/
def matchByte (dict o : ByteArray) (fs off : Nat) : UInt8 :=
  if off ≤ o.size - fs then o[o.size - off]! else dict[dict.size - (off - (o.size - fs))]!

theorem copyMatch_succ (dict o : ByteArray) (fs off ml : Nat) :
    copyMatch dict o fs off (ml + 1) = copyMatch dict (o.push (matchByte dict o fs off)) fs off ml := by
  unfold matchByte
  simp only [copyMatch]
  split <;> rfl

theorem copyMatch_eq_append (dict o : ByteArray) (fs off ml : Nat) :
    ∃ t : ByteArray, t.size = ml ∧ copyMatch dict o fs off ml = o ++ t := by
  induction ml generalizing o with
  | zero => exact ⟨ByteArray.empty, rfl, by simp [copyMatch]⟩
  | succ n ih =>
    obtain ⟨t, ht, h⟩ := ih (o.push (matchByte dict o fs off))
    refine ⟨[matchByte dict o fs off].toByteArray ++ t, ?_, ?_⟩
    · rw [ByteArray.size_append, ht]; simp; omega
    · rw [copyMatch_succ, h, ← ByteArray.append_assoc, ByteArray.append_toByteArray_singleton]

theorem copyMatch_size (dict o : ByteArray) (fs off ml : Nat) : (copyMatch dict o fs off ml).size = o.size + ml := by
  obtain ⟨t, ht, h⟩ := copyMatch_eq_append dict o fs off ml
  rw [h, ByteArray.size_append, ht]

theorem copyMatch_prefix (dict o : ByteArray) (fs off ml : Nat) : (copyMatch dict o fs off ml).extract 0 o.size = o := by
  obtain ⟨t, _, h⟩ := copyMatch_eq_append dict o fs off ml
  rw [h]; exact ByteArray.extract_append_eq_left rfl

/-- byte `o.size + i` of the result is the byte `off` positions behind it in the history `dict ++ (frame part of the RESULT)`:
for an overlapping match (`off ≤ i`) that is a byte written by this very copy -/
theorem copyMatch_get (dict o : ByteArray) (fs off ml i : Nat) (hfs : fs ≤ o.size) (h1 : 1 ≤ off)
    (hoff : off ≤ o.size - fs + dict.size) (hi : i < ml) :
    (copyMatch dict o fs off ml)[o.size + i]! =
      (dict ++ (copyMatch dict o fs off ml).extract fs (o.size + ml))[dict.size + (o.size - fs) + i - off]! := by
  induction ml generalizing o i with
  | zero => omega
  | succ n ih =>
    have hstep := copyMatch_succ dict o fs off n
    generalize hbe : matchByte dict o fs off = b at hstep
    unfold matchByte at hbe
    have hsz : (o.push b).size = o.size + 1 := ByteArray.size_push
    cases i with
    | zero =>
      -- the first byte: the source lies in `dict ++ o[fs:]`, a prefix of the final history
      obtain ⟨t, ht, hr⟩ := copyMatch_eq_append dict (o.push b) fs off n
      rw [hstep, hr, Nat.add_zero, bang_append_left (by omega), ByteArray.getElem!_push_eq,
        ← ByteArray.append_toByteArray_singleton, ByteArray.append_assoc]
      by_cases hc : off ≤ o.size - fs
      · have hs : (o ++ ([b].toByteArray ++ t)).size = o.size + (n + 1) := by
          rw [ByteArray.size_append, ByteArray.size_append, ht]; simp; omega
        rw [bang_append_right (by omega), bang_extract (by omega), bang_append_left (by omega)]
        rw [if_pos hc] at hbe
        rw [← hbe]; congr 1; omega
      · rw [bang_append_left (by omega)]
        rw [if_neg hc] at hbe
        rw [← hbe]; congr 1; omega
    | succ j =>
      have := ih (o.push b) j (by omega) (by omega) (by omega)
      rw [hstep]
      rw [hsz] at this
      rw [show o.size + (j + 1) = o.size + 1 + j by omega, this]
      congr 2
      · congr 1; omega
      · omega

/-- `Y` = content of the current frame (produced part followed by what is to come), `q` bytes of it produced so far, `pre` = output of
earlier frames.  If the next `ml` bytes of `Y` repeat the history at distance `off` (overlap allowed), `copyMatch` produces them. -/
theorem copyMatch_spec (dict pre Y : ByteArray) (off ml q : Nat) (hq : q + ml ≤ Y.size) (h1 : 1 ≤ off) (hoff : off ≤ q + dict.size)
    (hrep : ∀ i, i < ml → (dict ++ Y)[dict.size + q + i]! = (dict ++ Y)[dict.size + q + i - off]!) :
    copyMatch dict (pre ++ Y.extract 0 q) pre.size off ml = pre ++ Y.extract 0 (q + ml) := by
  induction ml generalizing q with
  | zero => rfl
  | succ n ih =>
    have hsz : (pre ++ Y.extract 0 q).size = pre.size + q := size_append_prefix (by omega)
    -- the byte appended first is `Y[q]`
    have hb : matchByte dict (pre ++ Y.extract 0 q) pre.size off = Y[q]! := by
      have h0 := hrep 0 (by omega)
      rw [Nat.add_zero, bang_append_right (by omega), show dict.size + q - dict.size = q by omega] at h0
      unfold matchByte
      rw [hsz, show pre.size + q - pre.size = q by omega, h0]
      split
      · rw [bang_append_right (by omega), bang_append_right (by omega), bang_extract (by omega)]
        congr 1; omega
      · rw [bang_append_left (by omega)]
        congr 1; omega
    rw [copyMatch_succ, hb, append_push, extract_push (by omega) (by omega), show q + (n + 1) = q + 1 + n by omega]
    refine ih (q + 1) (by omega) (by omega) fun i hi => ?_
    rw [show dict.size + (q + 1) + i = dict.size + q + (i + 1) by omega]
    exact hrep (i + 1) (by omega)

/-! ### valid parses and the round trip -/

/-- `ValidFrom dict Y lits q lp seqs`: `Y` is the content of the current frame (`prev ++ x`), of which `q` bytes are accounted for;
`lp` literal bytes are used up.  Walking the sequences: the literal run is the next `ll` bytes of `Y`; the match has a distance
between 1 and (position in the frame) + `dict.size` and the next `ml` bytes of `Y` repeat the history `dict ++ Y` at that distance
(byte-wise, so a match may overlap the bytes it produces); after the last sequence the unused literals are exactly the rest of `Y`. -/
def ValidFrom (dict Y lits : ByteArray) : Nat → Nat → List Seq → Prop
  | q, lp, [] => q ≤ Y.size ∧ lp ≤ lits.size ∧ lits.extract lp lits.size = Y.extract q Y.size
  | q, lp, s :: rest =>
      lp + s.ll ≤ lits.size ∧ q + s.ll + s.ml ≤ Y.size ∧
      lits.extract lp (lp + s.ll) = Y.extract q (q + s.ll) ∧
      1 ≤ s.offset ∧ s.offset ≤ q + s.ll + dict.size ∧
      (∀ i, i < s.ml → (dict ++ Y)[dict.size + (q + s.ll) + i]! = (dict ++ Y)[dict.size + (q + s.ll) + i - s.offset]!) ∧
      ValidFrom dict Y lits (q + s.ll + s.ml) (lp + s.ll) rest

instance ValidFrom.instDecidable (dict Y lits : ByteArray) : ∀ (q lp : Nat) (seqs : List Seq), Decidable (ValidFrom dict Y lits q lp seqs)
  | q, lp, [] => by unfold ValidFrom; exact inferInstance
  | q, lp, s :: rest => by
      unfold ValidFrom
      have := ValidFrom.instDecidable dict Y lits (q + s.ll + s.ml) (lp + s.ll) rest
      exact inferInstance

/-- `(lits, seqs)` is a valid parse of the block content `x` over the history `dict ++ prev` (`prev` = what the current frame has
produced before this block) -/
def ValidParse (dict prev x lits : ByteArray) (seqs : List Seq) : Prop :=
  ValidFrom dict (prev ++ x) lits prev.size 0 seqs

instance (dict prev x lits : ByteArray) (seqs : List Seq) : Decidable (ValidParse dict prev x lits seqs) := by
  unfold ValidParse; exact inferInstance

theorem step_of_valid {dict pre Y lits : ByteArray} {cap q lp : Nat} {s : Seq} {rest : List Seq} (hcap : pre.size + Y.size ≤ cap)
    (hv : ValidFrom dict Y lits q lp (s :: rest)) :
    step dict pre.size cap lits (pre ++ Y.extract 0 q) lp s = .ok (pre ++ Y.extract 0 (q + s.ll + s.ml), lp + s.ll) := by
  obtain ⟨hl, hq, hlit, h1, hoff, hrep, _⟩ := hv
  unfold step
  rw [size_append_prefix (by omega), if_neg (by omega), if_neg (by omega), if_neg (by omega), hlit,
    append_prefix_extract (Nat.le_add_right _ _), copyMatch_spec dict pre Y s.offset s.ml (q + s.ll) hq h1 hoff hrep]

theorem exec_from (dict pre Y lits : ByteArray) (cap : Nat) (hcap : pre.size + Y.size ≤ cap) (seqs : List Seq) (q lp : Nat)
    (hv : ValidFrom dict Y lits q lp seqs) :
    ∃ q' lp', runSeqs dict pre.size cap lits (pre ++ Y.extract 0 q) lp seqs = .ok (pre ++ Y.extract 0 q', lp') ∧
      lastLiterals cap lits (pre ++ Y.extract 0 q') lp' = .ok (pre ++ Y) := by
  induction seqs generalizing q lp with
  | nil =>
    obtain ⟨hq, hlp, hrest⟩ := hv
    refine ⟨q, lp, rfl, ?_⟩
    have hs := congrArg ByteArray.size hrest
    rw [size_extract_of_le (Nat.le_refl _), size_extract_of_le (Nat.le_refl _)] at hs
    unfold lastLiterals
    rw [size_append_prefix hq, if_neg (by omega), hrest, append_prefix_extract hq, ByteArray.extract_zero_size]
  | cons s rest ih =>
    obtain ⟨q', lp', hr, hlast⟩ := ih _ _ hv.2.2.2.2.2.2
    refine ⟨q', lp', ?_, hlast⟩
    simp only [runSeqs, step_of_valid hcap hv]
    exact hr

/-- `pre` = output of earlier frames (never read), `prev` = what the current frame has produced so far -/
theorem exec_of_validParse_frame (dict pre prev x lits : ByteArray) (seqs : List Seq) (cap : Nat)
    (hv : ValidParse dict prev x lits seqs) (hcap : pre.size + prev.size + x.size ≤ cap) :
    run dict { out := pre ++ prev, frameStart := pre.size, cap := cap } lits seqs = .ok (pre ++ prev ++ x) := by
  have hY : (prev ++ x).extract 0 prev.size = prev := ByteArray.extract_append_eq_left rfl
  obtain ⟨q', lp', hr, hlast⟩ := exec_from dict pre (prev ++ x) lits cap
    (by rw [ByteArray.size_append]; omega) seqs prev.size 0 hv
  rw [hY] at hr
  simp only [run, hr, hlast, ByteArray.append_assoc]

/-- single frame: `frameStart = 0` -/
theorem exec_of_validParse (dict prev x lits : ByteArray) (seqs : List Seq) (cap : Nat)
    (hv : ValidParse dict prev x lits seqs) (hcap : prev.size + x.size ≤ cap) :
    run dict { out := prev, frameStart := 0, cap := cap } lits seqs = .ok (prev ++ x) := by
  have := exec_of_validParse_frame dict ByteArray.empty prev x lits seqs cap hv (by simpa using hcap)
  simpa using this

/-! Non-vacuity: dictionary `[1,2,3]`, earlier content `[9]`; the block `[5, 3,9,5,3,9, 1,2, 7]` is parsed as
literal `5`, then a match at distance 3 of length 5 that starts on the last dictionary byte, runs through the frame and OVERLAPS its
own output, then a match at distance 10 of length 2 entirely inside the dictionary, then the last literal `7`. -/
section
attribute [local semireducible] ByteArray.extract

example : ValidParse [1, 2, 3].toByteArray [9].toByteArray [5, 3, 9, 5, 3, 9, 1, 2, 7].toByteArray [5, 7].toByteArray
    [{ ll := 1, ml := 5, offset := 3, ofValue := 6 }, { ll := 0, ml := 2, offset := 10, ofValue := 13 }] := by decide

example : (run [1, 2, 3].toByteArray { out := [9].toByteArray, frameStart := 0, cap := 10 } [5, 7].toByteArray
    [{ ll := 1, ml := 5, offset := 3, ofValue := 6 }, { ll := 0, ml := 2, offset := 10, ofValue := 13 }]).toOption
    = some [9, 5, 3, 9, 5, 3, 9, 1, 2, 7].toByteArray := by decide

/-- one byte of capacity less: dstSize_tooSmall at the last literal -/
example : run [1, 2, 3].toByteArray { out := [9].toByteArray, frameStart := 0, cap := 9 } [5, 7].toByteArray
    [{ ll := 1, ml := 5, offset := 3, ofValue := 6 }, { ll := 0, ml := 2, offset := 10, ofValue := 13 }]
    = .error .dstTooSmall := by rfl

/-- a parse that is NOT valid (the match would have to produce `4`, the history has `5`) -/
example : ¬ ValidParse ByteArray.empty ByteArray.empty [5, 4].toByteArray [5].toByteArray
    [{ ll := 1, ml := 1, offset := 1, ofValue := 4 }] := by decide

end

/-! ### capacity and prefix preservation -/

theorem step_ok {dict lits out : ByteArray} {fs cap lp : Nat} {s : Seq} :
    Post (fun r => s.ll + s.ml ≤ cap - out.size ∧ s.ll ≤ lits.size - lp ∧ s.offset ≤ out.size + s.ll - fs + dict.size ∧
      r.2 = lp + s.ll ∧ ∃ t : ByteArray, t.size = s.ll + s.ml ∧ r.1 = out ++ t) (step dict fs cap lits out lp s) := by
  unfold step
  refine Post.ite (fun _ => Post.error) fun c1 => Post.ite (fun _ => Post.error) fun c2 => Post.ite (fun _ => Post.error) fun c3 =>
    Post.pure ⟨Nat.le_of_not_gt c1, Nat.le_of_not_gt c2, Nat.le_of_not_gt c3, rfl, ?_⟩
  obtain ⟨t, ht, hc⟩ := copyMatch_eq_append dict (out ++ lits.extract lp (lp + s.ll)) fs s.offset s.ml
  refine ⟨lits.extract lp (lp + s.ll) ++ t, ?_, ?_⟩
  · rw [ByteArray.size_append, ht, ByteArray.size_extract]; omega
  · rw [hc, ByteArray.append_assoc]

/-- `b` extends `a` and stays within the capacity -/
def Extends (cap : Nat) (a b : ByteArray) : Prop := b.size ≤ max cap a.size ∧ ∃ t : ByteArray, b = a ++ t

theorem Extends.refl (cap : Nat) (a : ByteArray) : Extends cap a a := ⟨by omega, ByteArray.empty, by simp⟩

theorem Extends.trans {cap : Nat} {a b c : ByteArray} (h1 : Extends cap a b) (h2 : Extends cap b c) : Extends cap a c := by
  obtain ⟨s1, t1, e1⟩ := h1
  obtain ⟨s2, t2, e2⟩ := h2
  exact ⟨by omega, t1 ++ t2, by rw [e2, e1, ByteArray.append_assoc]⟩

theorem Extends.snoc {cap : Nat} {a b t : ByteArray} (h : Extends cap a b) (ht : t.size ≤ cap - b.size) : Extends cap a (b ++ t) :=
  h.trans ⟨by rw [ByteArray.size_append]; omega, t, rfl⟩

theorem runSeqs_extends {dict lits : ByteArray} {fs cap : Nat} (seqs : List Seq) {out out' : ByteArray} {lp lp' : Nat}
    (h : runSeqs dict fs cap lits out lp seqs = .ok (out', lp')) : Extends cap out out' := by
  induction seqs generalizing out lp with
  | nil => cases h; exact .refl _ _
  | cons s rest ih =>
    simp only [runSeqs] at h
    split at h
    · rename_i o1 l1 hs
      obtain ⟨hc, _, _, _, t, ht, rfl⟩ := step_ok _ hs
      exact ((Extends.refl cap out).snoc (by omega)).trans (ih h)
    · cases h

/-- `max` covers the degenerate call with an output already larger than `cap`: then nothing at all is appended -/
theorem exec_within_capacity {dict lits out : ByteArray} {o : Out} {seqs : List Seq} {chk : R Unit}
    (h : run dict o lits seqs chk = .ok out) : Extends o.cap o.out out := by
  unfold run at h
  split at h; · cases h
  rename_i o1 l1 hr
  split at h; · cases h
  unfold lastLiterals at h
  split at h; · cases h
  cases h
  exact (runSeqs_extends seqs hr).snoc (by rw [size_extract_of_le (Nat.le_refl _)]; omega)

theorem exec_size_le_cap {dict lits out : ByteArray} {o : Out} {seqs : List Seq} {chk : R Unit}
    (h : run dict o lits seqs chk = .ok out) (ho : o.out.size ≤ o.cap) : out.size ≤ o.cap := by
  have := (exec_within_capacity h).1; omega

theorem exec_prefix {dict lits out : ByteArray} {o : Out} {seqs : List Seq} {chk : R Unit}
    (h : run dict o lits seqs chk = .ok out) : out.extract 0 o.out.size = o.out := by
  obtain ⟨_, t, ht⟩ := exec_within_capacity h
  rw [ht]; exact ByteArray.extract_append_eq_left rfl

/-! ### no out-of-range access

Checked twins of `copyMatch` / `step` / `run`: every `[i]!` becomes `[i]?` and every `extract` is guarded by its range; `none` means
"an access was out of range".

About `1 ≤ offset`: `Exec.step` (like ZSTD_execSequence) does not test it.  Every offset handed to `Exec.run` comes out of `Rep.resolve`
(Block.decodeSeqs), which returns a non-zero offset and a non-zero history whenever the history it is given is non-zero
(`resolve_offset_pos`; `Block.exec_decoded_no_oob` carries this through the decoding loop).  The history starts as {1,4,8}
(`Entropy.rep` default) or comes from a dictionary whose loader rejects a zero repeat offset (Model/Dict.lean `repsOk`); that
`decodeLiterals` leaves `Entropy.rep` alone is visible in its text but is NOT proved.  With `offset = 0` and `ml > 0` the model would
read `out[out.size]!` (one past the end, default 0); that case is excluded, not covered. -/

def copyMatchChecked (dict : Bytes) (o : ByteArray) (frameStart off : Nat) : Nat → Option ByteArray
  | 0 => some o
  | ml + 1 =>
    let pos := o.size - frameStart
    if off ≤ pos then
      match o[o.size - off]? with
      | some b => copyMatchChecked dict (o.push b) frameStart off ml
      | none => none
    else
      match dict[dict.size - (off - pos)]? with
      | some b => copyMatchChecked dict (o.push b) frameStart off ml
      | none => none

def stepChecked (dict : Bytes) (frameStart cap : Nat) (lits : ByteArray) (out : ByteArray) (litPos : Nat) (s : Seq) :
    Option (R (ByteArray × Nat)) :=
  if s.ll + s.ml > cap - out.size then some (.error .dstTooSmall)
  else if s.ll > lits.size - litPos then some (.error (.corruptionAt "Block:249"))
  else if s.offset > out.size + s.ll - frameStart + dict.size then some (.error (.corruptionAt "Block:251"))
  else if litPos + s.ll ≤ lits.size then
    (copyMatchChecked dict (out ++ lits.extract litPos (litPos + s.ll)) frameStart s.offset s.ml).map fun o => .ok (o, litPos + s.ll)
  else none

def runSeqsChecked (dict : Bytes) (frameStart cap : Nat) (lits : ByteArray) (out : ByteArray) (litPos : Nat) :
    List Seq → Option (R (ByteArray × Nat))
  | [] => some (.ok (out, litPos))
  | s :: rest =>
    match stepChecked dict frameStart cap lits out litPos s with
    | some (.ok (out', litPos')) => runSeqsChecked dict frameStart cap lits out' litPos' rest
    | some (.error e) => some (.error e)
    | none => none

def runChecked (dict : Bytes) (o : Out) (lits : ByteArray) (seqs : List Seq) (streamCheck : R Unit := .ok ()) : Option (R ByteArray) :=
  match runSeqsChecked dict o.frameStart o.cap lits o.out 0 seqs with
  | none => none
  | some (.error e) => some (.error e)
  | some (.ok (out, litPos)) =>
    match streamCheck with
    | .error e => some (.error e)
    | .ok () => if litPos ≤ lits.size then some (lastLiterals o.cap lits out litPos) else none

theorem copyMatchChecked_eq (dict o : ByteArray) (fs off ml : Nat) (h1 : 1 ≤ off) (hoff : off ≤ o.size - fs + dict.size) :
    copyMatchChecked dict o fs off ml = some (copyMatch dict o fs off ml) := by
  induction ml generalizing o with
  | zero => rfl
  | succ n ih =>
    rw [copyMatch_succ, ← ih _ (by rw [ByteArray.size_push]; omega), copyMatchChecked]
    unfold matchByte
    by_cases hc : off ≤ o.size - fs
    · have hlt : o.size - off < o.size := by omega
      simp only [hc, if_true, getElem?_pos o (o.size - off) hlt, getElem!_pos o (o.size - off) hlt]
    · have hlt : dict.size - (off - (o.size - fs)) < dict.size := by omega
      simp only [hc, if_false, getElem?_pos dict (dict.size - (off - (o.size - fs))) hlt,
        getElem!_pos dict (dict.size - (off - (o.size - fs))) hlt]

theorem stepChecked_eq (dict lits out : ByteArray) (fs cap lp : Nat) (s : Seq) (h1 : 1 ≤ s.offset) (hlp : lp ≤ lits.size) :
    stepChecked dict fs cap lits out lp s = some (step dict fs cap lits out lp s) := by
  unfold stepChecked step
  by_cases c1 : s.ll + s.ml > cap - out.size
  · simp only [c1, if_true]
  by_cases c2 : s.ll > lits.size - lp
  · simp only [c1, c2, if_true, if_false]
  by_cases c3 : s.offset > out.size + s.ll - fs + dict.size
  · simp only [c1, c2, c3, if_true, if_false]
  have hl : lp + s.ll ≤ lits.size := by omega
  have hoff : s.offset ≤ (out ++ lits.extract lp (lp + s.ll)).size - fs + dict.size := by
    rw [ByteArray.size_append, size_extract_of_le hl]; omega
  simp only [c1, c2, c3, hl, if_true, if_false, copyMatchChecked_eq _ _ _ _ _ h1 hoff]
  rfl

theorem runSeqsChecked_eq (dict lits : ByteArray) (fs cap : Nat) (seqs : List Seq) (out : ByteArray) (lp : Nat)
    (h1 : ∀ s ∈ seqs, 1 ≤ s.offset) (hlp : lp ≤ lits.size) :
    runSeqsChecked dict fs cap lits out lp seqs = some (runSeqs dict fs cap lits out lp seqs) ∧
      ∀ out' lp', runSeqs dict fs cap lits out lp seqs = .ok (out', lp') → lp' ≤ lits.size := by
  induction seqs generalizing out lp with
  | nil =>
    refine ⟨rfl, ?_⟩
    intro out' lp' h
    injection h with h; injection h with _ hl
    omega
  | cons s rest ih =>
    have hs := stepChecked_eq dict lits out fs cap lp s (h1 s (by simp)) hlp
    simp only [runSeqsChecked, runSeqs, hs]
    cases hst : step dict fs cap lits out lp s with
    | error e => exact ⟨rfl, by intro _ _ h; cases h⟩
    | ok st =>
      obtain ⟨o1, l1⟩ := st
      obtain ⟨_, hll, _, hl1, _⟩ := step_ok _ hst
      exact ih o1 l1 (fun s hs => h1 s (by simp [hs])) (by omega)

/-- Hypothesis beyond the checks made by `Exec.step` itself: every offset is at least 1 (see the section comment). -/
theorem exec_no_oob (dict lits : ByteArray) (o : Out) (seqs : List Seq) (chk : R Unit) (h1 : ∀ s ∈ seqs, 1 ≤ s.offset) :
    runChecked dict o lits seqs chk = some (run dict o lits seqs chk) := by
  obtain ⟨he, hl⟩ := runSeqsChecked_eq dict lits o.frameStart o.cap seqs o.out 0 h1 (Nat.zero_le _)
  unfold runChecked run
  rw [he]
  cases hr : runSeqs dict o.frameStart o.cap lits o.out 0 seqs with
  | error e => rfl
  | ok st =>
    obtain ⟨o1, l1⟩ := st
    cases chk with
    | error e => rfl
    | ok u => simp only [if_pos (hl o1 l1 hr)]

/-- ZSTD_decodeSequence: `temp -= !temp` turns a zero taken from the history into 2^64-1 -/
theorem resolve_offset_pos (r : Rep.R) (v ll0 : Nat) (h0 : 1 ≤ r.r0) (h1 : 1 ≤ r.r1) (h2 : 1 ≤ r.r2) :
    1 ≤ (Rep.resolve r v ll0).1 ∧ 1 ≤ (Rep.resolve r v ll0).2.r0 ∧ 1 ≤ (Rep.resolve r v ll0).2.r1 ∧ 1 ≤ (Rep.resolve r v ll0).2.r2 := by
  have ht : ∀ t0 : Nat, 1 ≤ (if (t0 == 0) = true then 0xFFFFFFFFFFFFFFFF else t0) := by
    intro t0
    by_cases h : (t0 == 0) = true
    · rw [if_pos h]; exact Nat.le_of_ble_eq_true rfl
    · rw [if_neg h]; exact Nat.pos_of_ne_zero (by simpa using h)
  -- one copy of the definition to take apart instead of the four in the statement
  generalize hp : Rep.resolve r v ll0 = p
  unfold Rep.resolve at hp
  by_cases c1 : v > 3
  · rw [if_pos c1] at hp
    subst hp
    have : 1 ≤ v - 3 := by omega
    exact ⟨this, this, h0, h1⟩
  rw [if_neg c1] at hp
  by_cases c2 : v ≤ 1
  · rw [if_pos c2] at hp
    by_cases c3 : (ll0 == 0) = true
    · rw [if_pos c3] at hp; subst hp; exact ⟨h0, h0, h1, h2⟩
    · rw [if_neg c3] at hp; subst hp; exact ⟨h1, h1, h0, h2⟩
  rw [if_neg c2] at hp
  dsimp only at hp
  by_cases c4 : (v - 1 + ll0 != 1) = true
  · rw [if_pos c4] at hp; subst hp; exact ⟨ht _, ht _, h0, h1⟩
  · rw [if_neg c4] at hp; subst hp; exact ⟨ht _, ht _, h0, h2⟩

end ZstdVerif.Exec

namespace ZstdVerif.Block

section
open ZstdVerif.Gen

/-! ### where `1 ≤ offset` (the hypothesis of `exec_no_oob`) comes from

Started on a repeat-offset history without a zero, `decodeSeqs` hands back one without a zero, so the property carries over to the next
block of the frame. -/

def RepInv (rep : Array Nat) (seqs : Array Seq) : Prop :=
  1 ≤ rep[0]! ∧ 1 ≤ rep[1]! ∧ 1 ≤ rep[2]! ∧ ∀ s ∈ seqs, 1 ≤ s.offset

theorem RepInv.push {rep : Array Nat} {seqs : Array Seq} (h : RepInv rep seqs) (v ll0 : Nat) (res : Nat × Rep.R) (s : Seq)
    (hres : res = Rep.resolve ⟨rep[0]!, rep[1]!, rep[2]!⟩ v ll0) (hs : s.offset = res.1) :
    RepInv #[res.2.r0, res.2.r1, res.2.r2] (seqs.push s) := by
  obtain ⟨h0, h1, h2, hseq⟩ := h
  obtain ⟨r, r0, r1, r2⟩ := Exec.resolve_offset_pos ⟨rep[0]!, rep[1]!, rep[2]!⟩ v ll0 h0 h1 h2
  subst hres
  refine ⟨r0, r1, r2, fun t ht => ?_⟩
  rcases Array.mem_push.1 ht with ht | rfl
  · exact hseq t ht
  · rw [hs]; exact r

theorem decodeSeqs_repInv (llT ofT mlT : Array SeqCell) (nbSeq sLL0 sOF0 sML0 : Nat) (r0 : BitR) (rep0 : Array Nat)
    (h : RepInv rep0 #[]) :
    RepInv (decodeSeqs llT ofT mlT nbSeq sLL0 sOF0 sML0 r0 rep0).rep (decodeSeqs llT ofT mlT nbSeq sLL0 sOF0 sML0 r0 rep0).seqs := by
  rw [SeqRT.decodeSeqs_eq_fold]
  refine List.foldlRecOn (motive := fun st : SeqRT.LoopSt => RepInv st.2.2.2.2.1 st.2.2.2.2.2) _ _ h fun st hst k _ => ?_
  unfold SeqRT.seqStep
  split <;> exact hst.push _ _ _ _ rfl rfl

theorem decodeSeqs_offset_pos (llT ofT mlT : Array SeqCell) (nbSeq sLL0 sOF0 sML0 : Nat) (r0 : BitR) (rep0 : Array Nat)
    (h0 : 1 ≤ rep0[0]!) (h1 : 1 ≤ rep0[1]!) (h2 : 1 ≤ rep0[2]!) :
    ∀ s ∈ (decodeSeqs llT ofT mlT nbSeq sLL0 sOF0 sML0 r0 rep0).seqs.toList, 1 ≤ s.offset := by
  intro s hs
  exact (decodeSeqs_repInv llT ofT mlT nbSeq sLL0 sOF0 sML0 r0 rep0 ⟨h0, h1, h2, by simp⟩).2.2.2 s (Array.mem_toList_iff.mp hs)

/-- `exec_no_oob` for the sequences of one block as `decodeBlock` executes them (`finish` runs `Exec.run` on `(decodeSeqs …).seqs.toList`) -/
theorem exec_decoded_no_oob (dict lits : ByteArray) (o : Out) (chk : R Unit)
    (llT ofT mlT : Array SeqCell) (nbSeq sLL0 sOF0 sML0 : Nat) (r0 : BitR) (rep0 : Array Nat)
    (h0 : 1 ≤ rep0[0]!) (h1 : 1 ≤ rep0[1]!) (h2 : 1 ≤ rep0[2]!) :
    Exec.runChecked dict o lits (decodeSeqs llT ofT mlT nbSeq sLL0 sOF0 sML0 r0 rep0).seqs.toList chk =
      some (Exec.run dict o lits (decodeSeqs llT ofT mlT nbSeq sLL0 sOF0 sML0 r0 rep0).seqs.toList chk) :=
  Exec.exec_no_oob dict lits o _ chk (decodeSeqs_offset_pos llT ofT mlT nbSeq sLL0 sOF0 sML0 r0 rep0 h0 h1 h2)

end

/-! ### the compressed-block decoder -/

/-- `decodeBlock` (ZSTD_decompressBlock_internal); `dstCap = o.cap - o.out.size` is a truncated subtraction, hence `max` -/
theorem decodeBlock_within_capacity {src : Bytes} {start cSize : Nat} {ent : Entropy} {dict : Bytes} {o : Out} {bsm : Nat}
    {out : ByteArray} {e : Entropy} {tr : Trace}
    (h : decodeBlock src start cSize ent dict o bsm = .ok (out, e, tr)) :
    out.size ≤ max o.cap o.out.size ∧ ∃ t : ByteArray, out = o.out ++ t := by
  unfold decodeBlock at h
  refine Post.bind (P := fun r => Exec.Extends o.cap o.out r.1) (fun p _ r hr => ?_) _ h
  unfold finish at hr
  split at hr
  · cases hr; exact Exec.exec_within_capacity ‹_›
  · cases hr

theorem decodeBlock_size_le_cap {src : Bytes} {start cSize : Nat} {ent : Entropy} {dict : Bytes} {o : Out} {bsm : Nat}
    {out : ByteArray} {e : Entropy} {tr : Trace}
    (h : decodeBlock src start cSize ent dict o bsm = .ok (out, e, tr)) (ho : o.out.size ≤ o.cap) : out.size ≤ o.cap := by
  have := (decodeBlock_within_capacity h).1; omega

end ZstdVerif.Block

namespace ZstdVerif.Frame

/-! ### the frame and multi-frame decoders -/

open Exec (Extends)

/-- a raw, resp. RLE, block that passed the `dstSize_tooSmall` check -/
theorem extends_raw {out0 out src : ByteArray} {cap a n : Nat} (h : Extends cap out0 out) (hc : ¬ n > cap - out.size) :
    Extends cap out0 (out ++ src.extract a (a + n)) :=
  h.snoc (by rw [ByteArray.size_extract]; omega)

theorem extends_rle {out0 out : ByteArray} {cap n : Nat} {b : UInt8} (h : Extends cap out0 out) (hc : ¬ n > cap - out.size) :
    Extends cap out0 (out ++ ByteArray.mk (Array.replicate n b)) :=
  h.snoc (by show (Array.replicate n b).size ≤ _; rw [Array.size_replicate]; omega)

theorem regenBlock_extends {src dc : Bytes} {fs cap bsm ip : Nat} {bh : BlockHdr} {out : ByteArray} {ent : Block.Entropy} :
    Post (fun r => Extends cap out r.1) (FrameRT.regenBlock src dc fs cap bsm ip bh out ent) := by
  unfold FrameRT.regenBlock
  refine Post.ite (fun _ => ?_) fun _ => Post.ite (fun _ => Post.ite (fun _ => Post.error) fun hc => Post.pure (extends_raw (.refl _ _) hc))
    fun _ => Post.ite (fun _ => Post.error) fun hc => Post.pure (extends_rle (.refl _ _) hc)
  cases h : Block.decodeBlock src ip bh.cSize ent dc { out := out, frameStart := fs, cap := cap } bsm with
  | error e => exact Post.error
  | ok v => exact Post.pure (Block.decodeBlock_within_capacity h)

/-- ZSTD_decompressFrame: every step of the block loop extends the output, and the epilogue returns the output of the final state -/
theorem decompressFrame_extends {src : Bytes} {ip0 rem : Nat} {dict : Dict} {out0 : ByteArray} {cap : Nat} {o : Opts} :
    Post (fun res => Extends cap out0 res.1) (decompressFrame src ip0 rem dict out0 cap o) := by
  intro res h
  obtain ⟨_, _, hd, s, _, _, _, hloop, hend⟩ := FrameRT.decompressFrame_ok_iff.1 h
  have hs := forIn_list_inv (fun st : FrameRT.St => Extends cap out0 st.2.2.1) _ _ _ s (.refl _ _) (fun _ st r hst hr => ?_) hloop
  · obtain ⟨ip, rem, out, ent, blocks, lax⟩ := s
    rw [(FrameRT.frameEnd_ok_iff.1 hend).2.2.2.2]
    exact hs
  · obtain ⟨ip, rem, out, ent, blocks, lax⟩ := st
    obtain ⟨bh, out', ent', btr, _, _, hreg, rfl⟩ := FrameRT.blockStep_ok_iff.1 hr
    cases bh.last <;> exact hst.trans (regenBlock_extends _ hreg)

theorem decompressFrame_within_capacity {src : Bytes} {ip0 rem : Nat} {dict : Dict} {out0 : ByteArray} {cap : Nat} {o : Opts}
    {res : ByteArray × Nat × FrameTrace}
    (h : decompressFrame src ip0 rem dict out0 cap o = .ok res) (h0 : out0.size ≤ cap) :
    res.1.size ≤ cap ∧ ∃ t : ByteArray, res.1 = out0 ++ t := by
  obtain ⟨hs, ht⟩ := decompressFrame_extends res h
  exact ⟨by omega, ht⟩

/-- ZSTD_decompress / ZSTD_decompressMultiFrame -/
theorem decompressAll_within_capacity {src : Bytes} {dict : Dict} {cap : Nat} {o : Opts} {res : ByteArray × Array FrameTrace}
    (h : decompressAll src dict cap o = .ok res) : res.1.size ≤ cap := by
  suffices Post (fun res => res.1.size ≤ cap) (decompressAll src dict cap o) from this res h
  unfold decompressAll
  refine Post.seq (Q := fun st => st.2.2.1.size ≤ cap) (Post.loop (Nat.zero_le _) ?_)
    fun st hst => Post.guard fun _ => Post.pure hst
  intro _ st hst
  refine Post.ite (fun _ => Post.pure hst) fun _ => ?_
  -- a skippable frame produces no output; a regular frame is reached with or without the look at the magic number
  refine Post.ite (fun _ => Post.guard fun _ => Post.ite (fun _ => Post.bind fun sk _ => Post.pure hst) fun _ => ?_) fun _ => ?_
  all_goals
    dsimp only
    split
    · exact Post.ite (fun _ => Post.throw_bind) fun _ => Post.throw_bind
    · exact Post.throw_bind
    · exact Post.pure (decompressFrame_within_capacity ‹_› hst).1

/-- the block-boundary prefix decoder used by the flush properties -/
theorem decompressPrefix_within_capacity {src : Bytes} {dict : Dict} {cap : Nat} {o : Opts} {out : ByteArray}
    (h : decompressPrefix src dict cap o = .ok out) : out.size ≤ cap := by
  suffices Post (fun out => out.size ≤ cap) (decompressPrefix src dict cap o) from this out h
  unfold decompressPrefix
  refine Post.ite (fun _ => Post.pure (Nat.zero_le _)) fun _ => ?_
  cases getHeader src 0 _ o.magicless with
  | need n => exact Post.throw_bind
  | err e => exact Post.throw_bind
  | ok hd =>
    refine Post.ite (fun _ => Post.throw_bind) fun _ => Post.bind fun _ e => ?_
    cases e
    refine Post.seq (Q := fun st => Extends cap ByteArray.empty st.2.1)
      (Post.loop (.refl cap _) ?_) fun st hst => Post.pure (by simpa using hst.1)
    intro _ st hst
    refine Post.ite (fun _ => Post.pure hst) fun _ => Post.bind fun bh _ => Post.guard fun _ => ?_
    refine Post.ite (fun _ => Post.bind fun v hv => ?_) fun _ =>
      Post.ite (fun _ => Post.guard fun hc => ?_) fun _ => Post.guard fun hc => ?_
    · exact Post.stop (hst.trans (Block.decodeBlock_within_capacity hv)) (hst.trans (Block.decodeBlock_within_capacity hv))
    · exact Post.stop (extends_raw hst hc) (extends_raw hst hc)
    · exact Post.stop (extends_rle hst hc) (extends_rle hst hc)

end ZstdVerif.Frame
