/-
FSE (tANS) round trip: the decoding table built by `FSE.cellsOf` (FSE_buildDTable_internal / ZSTD_buildFSETable_body) is the exact inverse
of the encoder `FSE.ctableOf` / `FSE.encodeSymbol` (FSE_buildCTable_wksp / FSE_encodeSymbol), for every normalised distribution and every
symbol spreading that respects the counts.  The file defines the abstract stream (a stack of `(value, width)` fields) and the decoder
loop over it (`pop`, `decodeLoop`, `decodeAll`) for which `stream_roundtrip` is stated.  SeqRT, WeightsRT and TableSafe build on
`step_inverse`, `init2_inverse` / `initCState2_cell`, `encodeSymbol_spec`, `cellsOf_get` and the `default_tables_*` facts.
-/
import ZstdVerif.Lemmas.SpreadRT
import ZstdVerif.Lemmas.BitsRT
namespace ZstdVerif.FSE

theorem tile_unique {c y j k : Nat} (hj : c ≤ y / 2 ^ j ∧ y / 2 ^ j < 2 * c) (hk : c ≤ y / 2 ^ k ∧ y / 2 ^ k < 2 * c) :
    j = k := by
  -- one more bit shifted out halves the value
  have key : ∀ a b : Nat, a < b → c ≤ y / 2 ^ b → ¬ y / 2 ^ a < 2 * c := by
    intro a b hab hb
    obtain ⟨d, rfl⟩ : ∃ d, b = a + 1 + d := ⟨b - a - 1, by omega⟩
    rw [Nat.pow_add, Nat.pow_succ, ← Nat.div_div_eq_div_mul, ← Nat.div_div_eq_div_mul] at hb
    have := Nat.div_le_self (y / 2 ^ a / 2) (2 ^ d)
    omega
  rcases Nat.lt_trichotomy j k with h | h | h
  · exact absurd hj.2 (key j k h hk.1)
  · exact h
  · exact absurd hk.2 (key k j h hj.1)

/-- the number of bits FSE_encodeSymbol flushes for a symbol of count `c` in state `S` (`2^L ≤ S < 2^(L+1)`):
`L` for `c = 1`; otherwise `maxBitsOut = L - highbit(c-1)`, or one less when `S < c << maxBitsOut` -/
def encNb (L c S : Nat) : Nat :=
  if c = 1 then L else
    let m := L - Nat.log2 (c - 1)
    if c * 2 ^ m ≤ S then m else m - 1

/-- `maxBitsOut = L - highbit(c - 1)` and `minStatePlus = c << maxBitsOut` of FSE_buildCTable_wksp, for a count `1 ≤ c ≤ 2^L`
(`c = 1` included: `highbit 0 = 0` in the model) -/
theorem maxBitsOut_facts {L c : Nat} (hc : 1 ≤ c) (hcL : c ≤ 2 ^ L) :
    L - Nat.log2 (c - 1) ≤ L ∧ (1 ≤ L → 1 ≤ L - Nat.log2 (c - 1)) ∧
      2 ^ L ≤ c * 2 ^ (L - Nat.log2 (c - 1)) ∧ c * 2 ^ (L - Nat.log2 (c - 1)) ≤ 2 ^ (L + 1) := by
  have hb : 2 ^ Nat.log2 (c - 1) ≤ c ∧ c ≤ 2 ^ (Nat.log2 (c - 1) + 1) ∧ (1 ≤ L → Nat.log2 (c - 1) < L) := by
    by_cases h0 : c - 1 = 0
    · rw [h0, Nat.log2_zero]; omega
    · have l1 := Nat.log2_self_le h0
      have l2 := Nat.lt_log2_self (n := c - 1)
      exact ⟨by omega, by omega, fun _ => (Nat.log2_lt h0).2 (by omega)⟩
  generalize Nat.log2 (c - 1) = h at hb
  obtain ⟨h1, h2, h3⟩ := hb
  have hL : h ≤ L := (Nat.pow_le_pow_iff_right (by omega : 1 < 2)).1 (Nat.le_trans h1 hcL)
  have a1 : 2 ^ h * 2 ^ (L - h) ≤ c * 2 ^ (L - h) := Nat.mul_le_mul_right _ h1
  have a2 : c * 2 ^ (L - h) ≤ 2 ^ (h + 1) * 2 ^ (L - h) := Nat.mul_le_mul_right _ h2
  rw [← Nat.pow_add] at a1 a2
  rw [show h + (L - h) = L by omega] at a1
  rw [show h + 1 + (L - h) = L + 1 by omega] at a2
  exact ⟨by omega, by omega, a1, a2⟩

/-- `c = 1` is no special case once the state is known to be at least `2^L` -/
theorem encNb_eq {L c S : Nat} (hS : 2 ^ L ≤ S) :
    encNb L c S = if c * 2 ^ (L - Nat.log2 (c - 1)) ≤ S then L - Nat.log2 (c - 1) else L - Nat.log2 (c - 1) - 1 := by
  unfold encNb
  split
  · next h => subst h; rw [Nat.sub_self, Nat.log2_zero, Nat.sub_zero, Nat.one_mul, if_pos hS]
  · rfl

theorem encNb_spec {L c S : Nat} (hc : 1 ≤ c) (hcL : c ≤ 2 ^ L) (hS : 2 ^ L ≤ S) (hS2 : S < 2 ^ (L + 1)) :
    encNb L c S ≤ L ∧ c ≤ S / 2 ^ encNb L c S ∧ S / 2 ^ encNb L c S < 2 * c := by
  obtain ⟨m1, -, p1, p2⟩ := maxBitsOut_facts hc hcL
  rw [encNb_eq hS]
  generalize L - Nat.log2 (c - 1) = m at *
  rw [Nat.pow_succ] at hS2 p2
  split
  · next h =>
    exact ⟨m1, (Nat.le_div_iff_mul_le (Nat.two_pow_pos m)).2 h,
      (Nat.div_lt_iff_lt_mul (Nat.two_pow_pos m)).2 (by rw [Nat.mul_assoc]; omega)⟩
  · next h =>
    -- `S < c << m`: then `m ≥ 1`, and one bit less brings `S` into `[c, 2c)`
    obtain ⟨k, rfl⟩ : ∃ k, m = k + 1 := by
      cases m with
      | zero => rw [Nat.pow_zero, Nat.mul_one] at h; omega
      | succ k => exact ⟨k, rfl⟩
    rw [Nat.pow_succ, ← Nat.mul_assoc] at h p1 p2
    rw [Nat.add_sub_cancel]
    exact ⟨by omega, (Nat.le_div_iff_mul_le (Nat.two_pow_pos k)).2 (by omega),
      (Nat.div_lt_iff_lt_mul (Nat.two_pow_pos k)).2 (by rw [Nat.mul_assoc]; omega)⟩

/-- For a count `1 ≤ c ≤ 2^L` and a state `2^L ≤ y < 2^(L+1)` exactly one shift `k` brings the state into the interval
`[c, 2c)` of the symbol; it is the number of bits the encoder flushes (`encNb`: FSE_encodeSymbol's `(state + deltaNbBits) >> 16`), and
it equals the decoder's `nbBits = L - highbit(nextState)` for the cell `nextState = y >> k`. -/
theorem tile {L c y : Nat} (hc : 1 ≤ c) (hcL : c ≤ 2 ^ L) (hy : 2 ^ L ≤ y) (hy2 : y < 2 ^ (L + 1)) :
    ∃ k, k ≤ L ∧ (c ≤ y / 2 ^ k ∧ y / 2 ^ k < 2 * c) ∧ k = encNb L c y ∧ k = L - Nat.log2 (y / 2 ^ k) ∧
      ∀ j, (c ≤ y / 2 ^ j ∧ y / 2 ^ j < 2 * c) → j = k := by
  obtain ⟨h1, h2, h3⟩ := encNb_spec hc hcL hy hy2
  refine ⟨encNb L c y, h1, ⟨h2, h3⟩, rfl, ?_, fun j hj => tile_unique hj ⟨h2, h3⟩⟩
  rw [(log2_shift hy hy2 h1).1]; omega

/-- `rank l u`: how many earlier positions hold the same symbol as position `u` -/
def rank (l : List Nat) (u : Nat) : Nat := (l.take u).count l[u]!

theorem rank_lt_count {l : List Nat} {u : Nat} (hu : u < l.length) : rank l u < l.count l[u]! := by
  unfold rank
  generalize hx : l[u]! = x
  have h : l = l.take u ++ x :: l.drop (u + 1) := by subst hx; simp [hu]
  have h2 := congrArg (List.count x) h
  rw [List.count_append, List.count_cons_self] at h2
  omega

theorem rank_lt_rank {l : List Nat} {v w : Nat} (hvw : v < w) (hw : w < l.length) (he : l[v]! = l[w]!) : rank l v < rank l w := by
  have h := rank_lt_count (l := l.take w) (u := v) (by simp; omega)
  unfold rank at *
  have e1 : (l.take w)[v]! = l[v]! := by simp [hvw]
  have e2 : (l.take w).take v = l.take v := by rw [List.take_take]; congr 1; omega
  rw [e1, e2] at h
  rw [← he]; exact h

theorem rank_cons_succ (a : Nat) (t : List Nat) (u : Nat) :
    rank (a :: t) (u + 1) = rank t u + if a == t[u]! then 1 else 0 := by
  rw [rank, rank, List.getElem!_cons_succ, List.take_succ_cons, List.count_cons]

theorem exists_rank {l : List Nat} {s r : Nat} (h : r < l.count s) : ∃ u, u < l.length ∧ l[u]! = s ∧ rank l u = r := by
  induction l generalizing r with
  | nil => simp at h
  | cons a t ih =>
    rw [List.count_cons] at h
    by_cases ha : a = s
    · subst ha
      cases r with
      | zero => exact ⟨0, Nat.succ_pos _, rfl, rfl⟩
      | succ r =>
        obtain ⟨u, hu, hs, hr⟩ := ih (r := r) (by simpa using h)
        exact ⟨u + 1, Nat.succ_lt_succ hu, by rwa [List.getElem!_cons_succ],
          by rw [rank_cons_succ, hs, hr, beq_self_eq_true, if_pos rfl]⟩
    · obtain ⟨u, hu, hs, hr⟩ := ih (r := r) (by simpa [ha] using h)
      exact ⟨u + 1, Nat.succ_lt_succ hu, by rwa [List.getElem!_cons_succ],
        by rw [rank_cons_succ, hs, hr, if_neg (by simpa using ha), Nat.add_zero]⟩

/-- what a pass over `l` that bumps the counter `a[x]` at every position holding `x` finds in that counter, position by position -/
def readings (a : Array Nat) : List Nat → List Nat
  | [] => []
  | x :: t => a[x]! :: readings (a.set! x (a[x]! + 1)) t

theorem readings_length (a : Array Nat) (l : List Nat) : (readings a l).length = l.length := by
  induction l generalizing a with
  | nil => rfl
  | cons x t ih => rw [readings, List.length_cons, ih, List.length_cons]

theorem readings_get (a : Array Nat) (l : List Nat) (u : Nat) (hu : u < l.length) (hx : l[u]! < a.size) :
    (readings a l)[u]! = a[l[u]!]! + rank l u := by
  induction l generalizing a u with
  | nil => cases hu
  | cons x t ih =>
    cases u with
    | zero => simp [readings, rank]
    | succ j =>
      have hj : j < t.length := by simpa using hu
      rw [List.getElem!_cons_succ] at hx ⊢
      rw [readings, List.getElem!_cons_succ, ih _ j hj (by rwa [Array.size_set!]), rank_cons_succ]
      by_cases e : x = t[j]!
      · rw [← e, getBang_set_eq _ _ _ (by rw [e]; exact hx), beq_self_eq_true, if_pos rfl]; omega
      · rw [getBang_set_ne _ _ _ _ e, if_neg (by simpa using e)]; rfl

def cellAt (L s ns : Nat) : Cell :=
  { sym := s, nbBits := L - highbit ns, newState := (ns <<< (L - highbit ns)) - (1 <<< L) }

theorem cells_fold (L : Nat) (l : List Nat) (nx : Array Nat) (cells : Array Cell) :
    (l.foldl (cellStep L) (nx, cells)).2.toList = cells.toList ++ List.zipWith (cellAt L) l (readings nx l) := by
  induction l generalizing nx cells with
  | nil => simp [readings]
  | cons x t ih =>
    rw [List.foldl_cons, show cellStep L (nx, cells) x = (nx.set! x (nx[x]! + 1), cells.push (cellAt L x nx[x]!)) from rfl, ih,
      Array.toList_push, List.append_assoc, readings]
    rfl

theorem cellsOf_size (syms : Array Nat) (norm : Array Int) (L : Nat) : (cellsOf syms norm L).size = syms.size := by
  rw [cellsOf, ← Array.foldl_toList, ← Array.length_toList, cells_fold]
  simp [readings_length]

theorem cellsOf_get {syms : Array Nat} {norm : Array Int} {L u : Nat} (hu : u < syms.size) (hs : syms[u]! < norm.size) :
    (cellsOf syms norm L)[u]! = cellAt L syms[u]! (cnt norm syms[u]! + rank syms.toList u) := by
  have e : syms.toList[u]! = syms[u]! := by simp [hu]
  have hr := readings_get (nextInit norm) syms.toList u (by simpa using hu) (by rw [e, nextInit_size]; exact hs)
  rw [e, nextInit_get hs] at hr
  have hu1 : u < syms.toList.length := by simpa using hu
  rw [← hr, ← e, ← Array.getElem!_toList, cellsOf, ← Array.foldl_toList, cells_fold]
  show ([] ++ _)[u]! = _
  rw [List.nil_append, getElem!_pos _ u (by rw [List.length_zipWith, readings_length]; omega), List.getElem_zipWith,
    getElem!_pos _ u hu1, getElem!_pos _ u (by rwa [readings_length])]


theorem cumul_fold (norm : Array Int) (k : Nat) :
    ((List.range k).foldl (fun (cum : Array Nat) u => cum.push (cum[u]! + cnt norm u)) #[0]).size = k + 1 ∧
    ∀ i, i ≤ k → ((List.range k).foldl (fun (cum : Array Nat) u => cum.push (cum[u]! + cnt norm u)) #[0])[i]! = startOf norm i := by
  induction k with
  | zero => refine ⟨by simp, fun i hi => ?_⟩; have : i = 0 := by omega
            subst this; simp [startOf]
  | succ k ih =>
    obtain ⟨h1, h2⟩ := ih
    rw [List.range_succ, List.foldl_append]
    simp only [List.foldl_cons, List.foldl_nil]
    refine ⟨by rw [Array.size_push, h1], fun i hi => ?_⟩
    by_cases e : i = k + 1
    · subst e
      rw [← h1, getBang_push_eq, h1, h2 k (by omega), startOf_succ]
    · rw [getBang_push_lt _ _ _ (by omega), h2 i (by omega)]

theorem cumulOf_spec (norm : Array Int) (L : Nat) :
    (cumulOf norm L).size = norm.size + 1 ∧ ∀ s, s < norm.size → (cumulOf norm L)[s]! = startOf norm s := by
  obtain ⟨h1, h2⟩ := cumul_fold norm norm.size
  unfold cumulOf
  refine ⟨by simp [h1], fun s hs => ?_⟩
  rw [getBang_set_ne _ _ _ _ (by omega), h2 s (by omega)]

theorem tt_fold (norm : Array Int) (L n k : Nat) :
    ((List.range k).foldl (ttStep norm L) (0, Array.mkEmpty n)).1 = startOf norm k ∧
    ((List.range k).foldl (ttStep norm L) (0, Array.mkEmpty n)).2.size = k ∧
    ∀ s, s < k → ((List.range k).foldl (ttStep norm L) (0, Array.mkEmpty n)).2[s]! = symTTOf norm L (startOf norm s) s := by
  induction k with
  | zero => simp [startOf]
  | succ k ih =>
    obtain ⟨h0, h1, h2⟩ := ih
    rw [List.range_succ, List.foldl_append]
    simp only [List.foldl_cons, List.foldl_nil]
    generalize List.foldl (ttStep norm L) (0, Array.mkEmpty n) (List.range k) = r at *
    obtain ⟨tot, arr⟩ := r
    simp only [ttStep] at *
    subst h0
    refine ⟨by rw [startOf_succ], by rw [Array.size_push, h1], fun s hs => ?_⟩
    by_cases e : s = k
    · subst e
      subst h1
      rw [getBang_push_eq]
    · rw [getBang_push_lt _ _ _ (by omega), h2 s (by omega)]

theorem symbolTTOf_get {norm : Array Int} {L s : Nat} (hs : s < norm.size) :
    (symbolTTOf norm L)[s]! = symTTOf norm L (startOf norm s) s :=
  (tt_fold norm L norm.size norm.size).2.2 s hs

structure ListOK (l : List Nat) (norm : Array Int) (N : Nat) : Prop where
  len : l.length = N
  sym : ∀ u, u < l.length → l[u]! < norm.size
  count : ∀ s, s < norm.size → l.count s = cnt norm s
  total : startOf norm norm.size = N

/-- `cumul[s] + rank`, the slot of position `u` in `tableU16[]`, lies inside the table -/
theorem idx_lt {l : List Nat} {norm : Array Int} {N u : Nat} (ok : ListOK l norm N) (hu : u < l.length) :
    rank l u < cnt norm l[u]! ∧ startOf norm l[u]! + rank l u < N := by
  have h1 := rank_lt_count hu
  have h2 := ok.sym u hu
  rw [ok.count _ h2] at h1
  have h3 := startOf_mono (norm := norm) h2
  have h4 := ok.total
  omega

theorem idx_inj {l : List Nat} {norm : Array Int} {N v w : Nat} (ok : ListOK l norm N) (hvw : v < w) (hw : w < l.length) :
    startOf norm l[v]! + rank l v ≠ startOf norm l[w]! + rank l w := by
  by_cases e : l[v]! = l[w]!
  · have := rank_lt_rank hvw hw e
    rw [e]; omega
  · have a := idx_lt ok hw
    have b := idx_lt ok (show v < l.length by omega)
    rcases Nat.lt_or_gt_of_ne e with h | h
    · have := startOf_mono (norm := norm) h; omega
    · have := startOf_mono (norm := norm) h; omega

theorem st_fold (N : Nat) (l : List Nat) (i : Nat) (cum tab : Array Nat) :
    (l.foldl (stStep N) (i, cum, tab)).2.2 =
      setAll tab (List.zip (readings cum l) ((List.range' i l.length).map fun v => (N + v) % 65536)) := by
  induction l generalizing i cum tab with
  | nil => rfl
  | cons x t ih =>
    rw [List.foldl_cons, show stStep N (i, cum, tab) x = (i + 1, cum.set! x (cum[x]! + 1), tab.set! cum[x]! ((N + i) % 65536)) from rfl,
      ih, readings, List.length_cons, List.range'_succ, List.map_cons, List.zip_cons_cons, setAll_cons]


theorem listOK_of {syms : Array Nat} {norm : Array Int} {L : Nat} (hN : NormOK norm L) (hS : SpreadOK syms norm L) :
    ListOK syms.toList norm (2 ^ L) where
  len := by simpa using hS.1
  sym := fun u hu => by
    have hu2 : u < syms.size := by simpa using hu
    have := hS.2.1 u hu2
    simpa [hu2] using this
  count := hS.2.2
  total := hN.2.2

/-- `tableU16[cumul[s] + r] = tableSize + u` where `u` is the position of the `r`-th occurrence of `s` -/
theorem stateTable_get {syms : Array Nat} {norm : Array Int} {L u : Nat} (hN : NormOK norm L) (hS : SpreadOK syms norm L)
    (hu : u < syms.size) :
    (stateTableOf syms (cumulOf norm L) L)[startOf norm syms[u]! + rank syms.toList u]! = (2 ^ L + u) % 65536 := by
  have ok := listOK_of hN hS
  obtain ⟨c1, c2⟩ := cumulOf_spec norm L
  -- the slots written: `cumul[s] + rank`, pairwise different and inside the table
  have hrd : ∀ v, v < syms.toList.length →
      (readings (cumulOf norm L) syms.toList)[v]! = startOf norm syms.toList[v]! + rank syms.toList v := fun v hv => by
    rw [readings_get _ _ v hv (by rw [c1]; exact Nat.lt_succ_of_lt (ok.sym v hv)), c2 _ (ok.sym v hv)]
  have hlen := readings_length (cumulOf norm L) syms.toList
  have hn : (readings (cumulOf norm L) syms.toList).Nodup := by
    rw [List.Nodup, List.pairwise_iff_getElem]
    intro v w hv hw hvw
    rw [← getElem!_pos _ v hv, ← getElem!_pos _ w hw, hrd v (by omega), hrd w (by omega)]
    exact idx_inj ok hvw (by omega)
  have hu1 : u < syms.toList.length := by simpa using hu
  have e : syms.toList[u]! = syms[u]! := by simp [hu]
  rw [stateTableOf, ← Array.foldl_toList, st_fold, Nat.shiftLeft_eq, Nat.one_mul, ← e, ← hrd u hu1]
  generalize hws : List.zip (readings (cumulOf norm L) syms.toList) _ = ws
  have hfst : ws.map Prod.fst = readings (cumulOf norm L) syms.toList := by
    rw [← hws, List.map_fst_zip (by simp [hlen])]
  have hmem : ((readings (cumulOf norm L) syms.toList)[u]!, (2 ^ L + u) % 65536) ∈ ws := by
    rw [← hws, List.mem_iff_getElem]
    refine ⟨u, by simp [hlen]; omega, ?_⟩
    rw [List.getElem_zip, List.getElem_map, List.getElem_range', getElem!_pos _ u (by omega)]
    simp
  exact setAll_get_of_mem _ ws (hfst ▸ hn) (fun w hw => by
    have : w.1 ∈ readings (cumulOf norm L) syms.toList := hfst ▸ List.mem_map_of_mem hw
    obtain ⟨v, hv, hvw⟩ := List.mem_iff_getElem.1 this
    rw [← hvw, ← getElem!_pos _ v hv, hrd v (by omega), Array.size_replicate]
    exact (idx_lt ok (by omega)).2) _ hmem

/-- `deltaNbBits` of a symbol owning `c ≥ 1` cells.  FSE_buildCTable_wksp treats the counts -1 and 1 apart because `highbit32(0)` is
undefined in C; with `highbit 0 = 0` the general formula gives the same value. -/
def dnb (L c : Nat) : Int :=
  u32 ((((L - highbit (c - 1)) <<< 16 : Nat) : Int) - ((c <<< (L - highbit (c - 1)) : Nat) : Int))

theorem symTTOf_spec {norm : Array Int} {L tot s : Nat} (h1 : -1 ≤ norm[s]!) (h0 : norm[s]! ≠ 0) :
    1 ≤ cnt norm s ∧ (symTTOf norm L tot s).deltaFindState = (tot : Int) - (cnt norm s : Int) ∧
      (symTTOf norm L tot s).deltaNbBits = dnb L (cnt norm s) := by
  unfold symTTOf cnt dnb
  generalize norm[s]! = c at *
  by_cases e1 : c = -1
  · subst e1; simp [highbit]
  · by_cases e2 : c = 1
    · subst e2; simp [highbit]
    · have e4 : ((c.toNat : Nat) : Int) = c := by omega
      simp [e1, e2, h0, e4]
      omega

theorem two_pow_le_32768 {L : Nat} (hL : L ≤ 15) : 2 ^ L ≤ 32768 :=
  Nat.pow_le_pow_right (by omega : 2 > 0) hL

/-- for `1 ≤ L ≤ 15` the U32 subtraction does not wrap around -/
theorem dnb_eq {L c : Nat} (hL1 : 1 ≤ L) (hL : L ≤ 15) (hc : 1 ≤ c) (hcL : c ≤ 2 ^ L) :
    dnb L c = (((L - Nat.log2 (c - 1)) * 65536 - c * 2 ^ (L - Nat.log2 (c - 1)) : Nat) : Int) := by
  obtain ⟨m1, m2, -, p2⟩ := maxBitsOut_facts hc hcL
  have hN := two_pow_le_32768 hL
  rw [Nat.pow_succ] at p2
  unfold dnb u32 highbit
  rw [Nat.shiftLeft_eq, Nat.shiftLeft_eq]
  generalize L - Nat.log2 (c - 1) = m at *
  generalize c * 2 ^ m = P at *
  omega

theorem u32_natCast {n : Nat} (h : n < 4294967296) : u32 (n : Int) = n :=
  Int.emod_eq_of_lt (Int.natCast_nonneg n) (Int.ofNat_lt.2 h)

/-- the arithmetic of `(value + deltaNbBits) >> 16` with `deltaNbBits = (m << 16) - P`: `m` bits from state `P` on, `m - 1` below -/
theorem shift16_add {S m P : Nat} (hm : 1 ≤ m) (hP : P ≤ 65536) (hS : S < 65536) :
    (S + (m * 65536 - P)) / 65536 = if P ≤ S then m else m - 1 := by
  split <;> omega

/-- FSE_encodeSymbol's `(U32)((value + deltaNbBits) >> 16)` is `encNb` -/
theorem nbBitsOut_eq {L c S : Nat} (hL1 : 1 ≤ L) (hL : L ≤ 15) (hc : 1 ≤ c) (hcL : c ≤ 2 ^ L) (hS1 : 2 ^ L ≤ S)
    (hS2 : S < 2 ^ (L + 1)) : (u32 (((S : Int) + dnb L c) >>> 16)).toNat = encNb L c S := by
  obtain ⟨m1, m2, -, p2⟩ := maxBitsOut_facts hc hcL
  have hN := two_pow_le_32768 hL
  rw [Nat.pow_succ] at hS2 p2
  rw [dnb_eq hL1 hL hc hcL, encNb_eq hS1, ← Int.natCast_add, ← Int.natCast_shiftRight, Nat.shiftRight_eq_div_pow,
    shift16_add (m2 hL1) (by omega) (by omega), u32_natCast (by split <;> omega), Int.toNat_natCast]

theorem cnt_le {norm : Array Int} {L s : Nat} (hN : NormOK norm L) (hs : s < norm.size) : cnt norm s ≤ 2 ^ L := by
  have := startOf_mono (norm := norm) hs
  have := hN.2.2
  omega

theorem encodeSymbol_spec {syms : Array Nat} {norm : Array Int} {L S s : Nat} (hN : NormOK norm L) (hL : L ≤ 15)
    (hs : s < norm.size) (h0 : norm[s]! ≠ 0) (hS1 : 2 ^ L ≤ S) (hS2 : S < 2 ^ (L + 1)) :
    encodeSymbol (ctableOf syms norm L) S s =
      ((stateTableOf syms (cumulOf norm L) L)[startOf norm s + (S / 2 ^ encNb L (cnt norm s) S - cnt norm s)]!,
        (S % 2 ^ encNb L (cnt norm s) S, encNb L (cnt norm s) S)) := by
  obtain ⟨c1, t1, t2⟩ := symTTOf_spec (L := L) (tot := startOf norm s) (hN.2.1 s hs) h0
  have hcL := cnt_le hN hs
  have hnb := nbBitsOut_eq hN.1 hL c1 hcL hS1 hS2
  obtain ⟨n1, n2, n3⟩ := encNb_spec c1 hcL hS1 hS2
  unfold encodeSymbol ctableOf
  simp only []
  rw [symbolTTOf_get hs, t1, t2, hnb]
  have e : ((S : Int) >>> encNb L (cnt norm s) S + ((startOf norm s : Int) - (cnt norm s : Int))).toNat =
      startOf norm s + (S / 2 ^ encNb L (cnt norm s) S - cnt norm s) := by
    rw [Int.shiftRight_eq_div_pow, ← Int.natCast_ediv]
    omega
  rw [e]

/-- the `r`-th state of symbol `s` and its decoding cell -/
theorem stateTable_cell {syms : Array Nat} {norm : Array Int} {L s r : Nat} (hN : NormOK norm L) (hS : SpreadOK syms norm L)
    (hL : L ≤ 15) (hs : s < norm.size) (hr : r < cnt norm s) :
    ∃ u, u < 2 ^ L ∧ (stateTableOf syms (cumulOf norm L) L)[startOf norm s + r]! = 2 ^ L + u ∧
      (cellsOf syms norm L)[u]! = cellAt L s (cnt norm s + r) := by
  obtain ⟨u, hu, hus, hur⟩ := exists_rank (l := syms.toList) (s := s) (r := r) (by rw [hS.2.2 s hs]; exact hr)
  have hu2 : u < syms.size := by simpa using hu
  have hus2 : syms[u]! = s := by simpa [hu2] using hus
  have hst := stateTable_get hN hS hu2
  have hcell := cellsOf_get (L := L) hu2 (by rw [hus2]; exact hs)
  rw [hus2, hur] at hst hcell
  have hN2 := two_pow_le_32768 hL
  have hsz := hS.1
  exact ⟨u, by omega, by rw [hst]; omega, hcell⟩

theorem cellAt_shift {L S k : Nat} (s : Nat) (hS1 : 2 ^ L ≤ S) (hS2 : S < 2 ^ (L + 1)) (hk : k ≤ L) :
    (cellAt L s (S / 2 ^ k)).nbBits = k ∧ (cellAt L s (S / 2 ^ k)).newState + S % 2 ^ k = S - 2 ^ L := by
  obtain ⟨g1, g2⟩ := log2_shift hS1 hS2 hk
  have := Nat.div_add_mod S (2 ^ k)
  rw [Nat.mul_comm] at this
  simp only [cellAt, highbit, g1, Nat.shiftLeft_eq, Nat.one_mul]
  rw [show L - (L - k) = k by omega]
  exact ⟨rfl, by omega⟩

/-- Step inverse (the heart of tANS): decoding undoes one encoding step (decoder states are encoder states minus `2^L`).
Bounds: `1 ≤ L` (in `NormOK`) and `L ≤ 15` (the C code asserts `tableLog < 16`: `tableU16[]` holds `U16` states up to `2^(L+1) - 1`, and
`deltaNbBits` relies on `2^(L+1) ≤ 2^16`). -/
theorem step_inverse {syms : Array Nat} {norm : Array Int} {L S s S2 v nb : Nat} (hN : NormOK norm L) (hS : SpreadOK syms norm L)
    (hL : L ≤ 15) (hs : s < norm.size) (h0 : norm[s]! ≠ 0) (hS1 : 2 ^ L ≤ S) (hS2 : S < 2 ^ (L + 1))
    (h : encodeSymbol (ctableOf syms norm L) S s = (S2, (v, nb))) :
    2 ^ L ≤ S2 ∧ S2 < 2 ^ (L + 1) ∧
      ((cellsOf syms norm L)[S2 - 2 ^ L]!).sym = s ∧ ((cellsOf syms norm L)[S2 - 2 ^ L]!).nbBits = nb ∧
      ((cellsOf syms norm L)[S2 - 2 ^ L]!).newState + v = S - 2 ^ L := by
  obtain ⟨c1, -, -⟩ := symTTOf_spec (L := L) (tot := startOf norm s) (hN.2.1 s hs) h0
  obtain ⟨n1, n2, n3⟩ := encNb_spec c1 (cnt_le hN hs) hS1 hS2
  rw [encodeSymbol_spec hN hL hs h0 hS1 hS2, Prod.mk.injEq, Prod.mk.injEq] at h
  obtain ⟨h1, h2, h3⟩ := h
  rw [h3] at h1 h2 n1 n2 n3
  -- the state read is that of the `(S >> nb) - c`-th occurrence of `s`, whose cell has `symbolNext = S >> nb`
  obtain ⟨u, hu, hst, hcell⟩ := stateTable_cell hN hS hL hs (r := S / 2 ^ nb - cnt norm s) (by omega)
  obtain ⟨g1, g2⟩ := cellAt_shift s hS1 hS2 n1
  rw [← h1, hst, ← h2, Nat.add_sub_cancel_left, hcell, show cnt norm s + (S / 2 ^ nb - cnt norm s) = S / 2 ^ nb by omega,
    Nat.pow_succ]
  exact ⟨by omega, by omega, rfl, g1, g2⟩

/-- the arithmetic of FSE_initCState2 with `deltaNbBits = (m << 16) - P`, `P ≤ 2^15`: `nbBitsOut = m` and
`(nbBitsOut << 16) - deltaNbBits = P` -/
theorem round16_sub {m P : Nat} (hm : 1 ≤ m) (hP0 : 1 ≤ P) (hP : P ≤ 32768) :
    (m * 65536 - P + 32768) / 65536 = m ∧ m * 65536 - (m * 65536 - P) = P := by
  omega

/-- FSE_initCState2: `value >> nbBitsOut` is exactly the count `c`, so the state read is the first one of the symbol.
Needs `L ≤ 14`: for `L = 15` and a count with `c << maxBitsOut > 2^15` the rounding `(deltaNbBits + (1<<15)) >> 16` gives `maxBitsOut - 1`
and the U32 subtraction wraps around (not reachable: FSE_MAX_TABLELOG = 12). -/
theorem init2_arith {L c : Nat} (hL1 : 1 ≤ L) (hL : L ≤ 14) (hc : 1 ≤ c) (hcL : c ≤ 2 ^ L) :
    (u32 ((((u32 (dnb L c + ((1 <<< 15 : Nat) : Int))) >>> 16).toNat <<< 16 : Nat) - dnb L c)) >>>
      ((u32 (dnb L c + ((1 <<< 15 : Nat) : Int))) >>> 16).toNat = (c : Int) := by
  obtain ⟨m1, m2, p1, p2⟩ := maxBitsOut_facts hc hcL
  have hN : 2 ^ L ≤ 16384 := Nat.pow_le_pow_right (by omega : 2 > 0) hL
  have hpos := Nat.two_pow_pos L
  rw [Nat.pow_succ] at p2
  obtain ⟨k1, k2⟩ := round16_sub (m2 hL1) (by omega : 1 ≤ c * 2 ^ (L - Nat.log2 (c - 1))) (by omega)
  rw [dnb_eq hL1 (by omega) hc hcL, ← Int.natCast_add, u32_natCast (by omega), ← Int.natCast_shiftRight, Int.toNat_natCast,
    Nat.shiftRight_eq_div_pow, Nat.shiftLeft_eq, Nat.shiftLeft_eq, Nat.one_mul, k1, ← Int.natCast_sub (by omega), k2,
    u32_natCast (by omega), ← Int.natCast_shiftRight, Nat.shiftRight_eq_div_pow, Nat.mul_div_cancel _ (Nat.two_pow_pos _)]
/-- FSE_initCState2 picks the first state of the symbol (`symbolNext` = its count).  Needs `L ≤ 14`, see `init2_arith`. -/
theorem initCState2_cell {syms : Array Nat} {norm : Array Int} {L s : Nat} (hN : NormOK norm L) (hS : SpreadOK syms norm L)
    (hL : L ≤ 14) (hs : s < norm.size) (h0 : norm[s]! ≠ 0) :
    2 ^ L ≤ initCState2 (ctableOf syms norm L) s ∧ initCState2 (ctableOf syms norm L) s < 2 ^ (L + 1) ∧
      (cellsOf syms norm L)[initCState2 (ctableOf syms norm L) s - 2 ^ L]! = cellAt L s (cnt norm s) := by
  obtain ⟨c1, t1, t2⟩ := symTTOf_spec (L := L) (tot := startOf norm s) (hN.2.1 s hs) h0
  have e : initCState2 (ctableOf syms norm L) s = (stateTableOf syms (cumulOf norm L) L)[startOf norm s + 0]! := by
    unfold initCState2 ctableOf
    simp only []
    rw [symbolTTOf_get hs, t1, t2, init2_arith hN.1 hL c1 (cnt_le hN hs)]
    congr 1; omega
  obtain ⟨u, hu, hst, hcell⟩ := stateTable_cell hN hS (by omega : L ≤ 15) hs (r := 0) c1
  rw [e, hst, Nat.add_sub_cancel_left, hcell, Nat.pow_succ]
  exact ⟨by omega, by omega, rfl⟩

/-- FSE_initCState2 inverse: the first symbol costs nothing.  Bounds: `1 ≤ L` (in `NormOK`), `L ≤ 14` (see `init2_arith`). -/
theorem init2_inverse {syms : Array Nat} {norm : Array Int} {L s : Nat} (hN : NormOK norm L) (hS : SpreadOK syms norm L)
    (hL : L ≤ 14) (hs : s < norm.size) (h0 : norm[s]! ≠ 0) :
    2 ^ L ≤ initCState2 (ctableOf syms norm L) s ∧ initCState2 (ctableOf syms norm L) s < 2 ^ (L + 1) ∧
      ((cellsOf syms norm L)[initCState2 (ctableOf syms norm L) s - 2 ^ L]!).sym = s := by
  obtain ⟨h1, h2, h3⟩ := initCState2_cell hN hS hL hs h0
  exact ⟨h1, h2, by rw [h3]; rfl⟩

/-- BIT_readBits(w) on the abstract stream: takes the top field, which must be exactly `w` bits wide -/
def pop (w : Nat) : List (Nat × Nat) → Option (Nat × List (Nat × Nat))
  | [] => none
  | (v, w2) :: rest => if w2 = w then some (v, rest) else none

/-- One table driven as ZSTD_decompressSequences / ZSTD_decodeSequence (zstd_decompress_block.c) drive each of their three tables, without
the extra bits: `n` times: emit `cells[state].sym`; then, EXCEPT AFTER THE LAST SYMBOL (`if (!isLastSeq)`: "don't update FSE state for last
Sequence"), ZSTD_updateFseStateWithDInfo: `state = cells[state].newState + BIT_readBits(cells[state].nbBits)`.
(The weight decoder FSE_decompress_usingDTable_generic of fse_decompress.c ends differently: it has two interleaved states, keeps updating
them and stops when BIT_reloadDStream reports `BIT_DStream_overflow`, i.e. when an update has read past the start of the stream; the last
symbol is then taken from the other state.  That variant matches FSE_compress_usingCTable: `FSE.decompressWeights` against `FSEEnc.compressStack`, Lemmas/WeightsRT.lean.) -/
def decodeLoop (cells : Array Cell) : Nat → Nat → List (Nat × Nat) → Option (List Nat × List (Nat × Nat))
  | 0, _, stack => some ([], stack)
  | n + 1, st, stack =>
    let c := cells[st]!
    if n = 0 then some ([c.sym], stack)
    else match pop c.nbBits stack with
      | none => none
      | some (bits, stack2) =>
        match decodeLoop cells n (c.newState + bits) stack2 with
        | none => none
        | some (out, rest) => some (c.sym :: out, rest)

/-- ZSTD_initFseState (`state = BIT_readBits(tableLog)`) followed by `n` decoded symbols; returns the symbols and what is left of the stream -/
def decodeAll (cells : Array Cell) (L n : Nat) (stack : List (Nat × Nat)) : Option (List Nat × List (Nat × Nat)) :=
  match pop L stack with
  | none => none
  | some (st, stack2) => decodeLoop cells n st stack2

theorem encodeLoop_decode {syms : Array Nat} {norm : Array Int} {L : Nat} (hN : NormOK norm L) (hS : SpreadOK syms norm L)
    (hL : L ≤ 15) (rev : List Nat) (hrev : ∀ s, s ∈ rev → s < norm.size ∧ norm[s]! ≠ 0) (S : Nat) (hS1 : 2 ^ L ≤ S)
    (hS2 : S < 2 ^ (L + 1)) (stack : List (Nat × Nat)) (out : List Nat) (rest : List (Nat × Nat)) (k : Nat)
    (hdec : decodeLoop (cellsOf syms norm L) (k + 1) (S - 2 ^ L) stack = some (out, rest)) (S' : Nat) (stack' : List (Nat × Nat))
    (h : encodeLoop (ctableOf syms norm L) rev S stack = (S', stack')) :
    2 ^ L ≤ S' ∧ S' < 2 ^ (L + 1) ∧
      decodeLoop (cellsOf syms norm L) (rev.length + k + 1) (S' - 2 ^ L) stack' = some (rev.reverse ++ out, rest) := by
  induction rev generalizing S stack out k with
  | nil => cases h; exact ⟨hS1, hS2, by rw [List.length_nil, Nat.zero_add]; exact hdec⟩
  | cons s t ih =>
    obtain ⟨hs, h0⟩ := hrev s List.mem_cons_self
    rw [encodeLoop] at h
    generalize hr : encodeSymbol (ctableOf syms norm L) S s = r at h
    obtain ⟨S2, v, nb⟩ := r
    obtain ⟨a1, a2, a3, a4, a5⟩ := step_inverse hN hS hL hs h0 hS1 hS2 hr
    have hdec2 : decodeLoop (cellsOf syms norm L) (k + 1 + 1) (S2 - 2 ^ L) ((v, nb) :: stack) = some (s :: out, rest) := by
      rw [decodeLoop]
      simp only [Nat.succ_ne_zero, if_false, pop, a4, if_true, a5, hdec, a3]
    have := ih (fun x hx => hrev x (List.mem_cons_of_mem _ hx)) S2 a1 a2 _ _ (k + 1) hdec2 h
    rwa [List.length_cons, List.reverse_cons, List.append_assoc, Nat.add_assoc t.length 1 k, Nat.add_comm 1 k]

/-- Stream round trip (one state, as in ZSTD_encodeSequences / ZSTD_decodeSequence): the decoder gives back the symbols and consumes the
stream exactly.  Hypotheses: `NormOK`, `SpreadOK`, `L ≤ 14` (for FSE_initCState2, see `init2_arith`; the rest needs `L ≤ 15`), at least one symbol, and
every symbol has a non-zero normalised count. -/
theorem stream_roundtrip {syms : Array Nat} {norm : Array Int} {L : Nat} (hN : NormOK norm L) (hS : SpreadOK syms norm L)
    (hL : L ≤ 14) (σ : List Nat) (hne : σ ≠ []) (hσ : ∀ s, s ∈ σ → s < norm.size ∧ norm[s]! ≠ 0) :
    decodeAll (cellsOf syms norm L) L σ.length (encodeAll (ctableOf syms norm L) σ) = some (σ, []) := by
  obtain ⟨last, rev, hrv⟩ : ∃ last rev, σ.reverse = last :: rev := by
    cases h : σ.reverse with
    | nil => exact absurd (List.reverse_eq_nil_iff.1 h) hne
    | cons a t => exact ⟨a, t, rfl⟩
  have hσ2 : σ = rev.reverse ++ [last] := by
    have := congrArg List.reverse hrv
    simpa using this
  obtain ⟨hs, h0⟩ := hσ last (by rw [hσ2]; simp)
  obtain ⟨i1, i2, i3⟩ := init2_inverse hN hS hL hs h0
  have hdec0 : decodeLoop (cellsOf syms norm L) (0 + 1) (initCState2 (ctableOf syms norm L) last - 2 ^ L) [] = some ([last], []) := by
    rw [decodeLoop]; simp [i3]
  unfold encodeAll
  rw [hrv]
  simp only []
  generalize hr : encodeLoop (ctableOf syms norm L) rev (initCState2 (ctableOf syms norm L) last) [] = r
  obtain ⟨b1, b2, b3⟩ := encodeLoop_decode hN hS (by omega) rev (fun x hx => hσ x (by rw [hσ2]; simp [hx])) _ i1 i2 [] [last] [] 0
    hdec0 r.1 r.2 hr
  -- the flushed state is the decoder's first state
  have hm : r.1 % 2 ^ L = r.1 - 2 ^ L := by
    rw [Nat.pow_succ] at b2
    rw [Nat.mod_eq_sub_mod b1, Nat.mod_eq_of_lt (by omega)]
  have hlen : σ.length = rev.length + 0 + 1 := by rw [hσ2]; simp
  have htl : (ctableOf syms norm L).tableLog = L := rfl
  simp only [decodeAll, flushCState, htl, pop, if_true, hm]
  rw [hlen, b3, hσ2]

theorem default_tables_normOK :
    NormOK Gen.LL_defaultNorm.toArray 6 ∧ NormOK Gen.OF_defaultNorm.toArray 5 ∧ NormOK Gen.ML_defaultNorm.toArray 6 := by
  decide +kernel

theorem default_tables_spreadOK :
    SpreadOK (spread Gen.LL_defaultNorm.toArray 6) Gen.LL_defaultNorm.toArray 6 ∧
    SpreadOK (spread Gen.OF_defaultNorm.toArray 5) Gen.OF_defaultNorm.toArray 5 ∧
    SpreadOK (spread Gen.ML_defaultNorm.toArray 6) Gen.ML_defaultNorm.toArray 6 :=
  ⟨spread_ok default_tables_normOK.1 (by decide), spread_ok default_tables_normOK.2.1 (by decide),
    spread_ok default_tables_normOK.2.2 (by decide)⟩

theorem default_tables_spreadEnc_eq :
    spreadEnc Gen.LL_defaultNorm.toArray 6 = spread Gen.LL_defaultNorm.toArray 6 ∧
    spreadEnc Gen.OF_defaultNorm.toArray 5 = spread Gen.OF_defaultNorm.toArray 5 ∧
    spreadEnc Gen.ML_defaultNorm.toArray 6 = spread Gen.ML_defaultNorm.toArray 6 :=
  ⟨spreadEnc_eq_spread default_tables_normOK.1, spreadEnc_eq_spread default_tables_normOK.2.1,
    spreadEnc_eq_spread default_tables_normOK.2.2⟩

/-- Round trip for the tables the two builders produce (FSE_buildCTable_wksp vs FSE_buildDTable_internal / ZSTD_buildFSETable_body)
from any normalised distribution with `4 ≤ L ≤ 14` -/
theorem built_roundtrip {norm : Array Int} {L : Nat} (hN : NormOK norm L) (hL4 : 4 ≤ L) (hL : L ≤ 14)
    (σ : List Nat) (hne : σ ≠ []) (hσ : ∀ s, s ∈ σ → s < norm.size ∧ norm[s]! ≠ 0) :
    decodeAll (buildCells norm L) L σ.length (encodeAll (buildCTable norm L) σ) = some (σ, []) := by
  unfold buildCells buildCTable
  rw [spreadEnc_eq_spread hN]
  exact stream_roundtrip hN (spread_ok hN hL4) hL σ hne hσ

/-- The same for every table log `1 ≤ L ≤ 14` (`L < 4` included), given the two facts the differential run `tools/ent_fse.py` checks on
every table (`spreadOK=true`, `spreadEncEqDec=true`) -/
theorem build_roundtrip {norm : Array Int} {L : Nat} (hN : NormOK norm L) (hL : L ≤ 14)
    (hS : spreadOK (spreadEnc norm L) norm L = true) (hE : spreadEnc norm L = spread norm L)
    (σ : List Nat) (hne : σ ≠ []) (hσ : ∀ s, s ∈ σ → s < norm.size ∧ norm[s]! ≠ 0) :
    decodeAll (buildCells norm L) L σ.length (encodeAll (buildCTable norm L) σ) = some (σ, []) := by
  unfold buildCells buildCTable
  rw [hE] at hS ⊢
  exact stream_roundtrip hN ((spreadOK_iff _ _ _).1 hS) hL σ hne hσ

/-- Round trip for the three predefined tables (LL, OF, ML; tableLog 6, 5, 6), unconditionally -/
theorem default_tables_roundtrip (σ : List Nat) (hne : σ ≠ []) :
    ((∀ s, s ∈ σ → s < 36) → decodeAll (buildCells Gen.LL_defaultNorm.toArray 6) 6 σ.length
        (encodeAll (buildCTable Gen.LL_defaultNorm.toArray 6) σ) = some (σ, [])) ∧
    ((∀ s, s ∈ σ → s < 29) → decodeAll (buildCells Gen.OF_defaultNorm.toArray 5) 5 σ.length
        (encodeAll (buildCTable Gen.OF_defaultNorm.toArray 5) σ) = some (σ, [])) ∧
    ((∀ s, s ∈ σ → s < 53) → decodeAll (buildCells Gen.ML_defaultNorm.toArray 6) 6 σ.length
        (encodeAll (buildCTable Gen.ML_defaultNorm.toArray 6) σ) = some (σ, [])) := by
  obtain ⟨n1, n2, n3⟩ := default_tables_normOK
  have nz1 : ∀ s, s < 36 → s < Gen.LL_defaultNorm.toArray.size ∧ Gen.LL_defaultNorm.toArray[s]! ≠ 0 := by decide +kernel
  have nz2 : ∀ s, s < 29 → s < Gen.OF_defaultNorm.toArray.size ∧ Gen.OF_defaultNorm.toArray[s]! ≠ 0 := by decide +kernel
  have nz3 : ∀ s, s < 53 → s < Gen.ML_defaultNorm.toArray.size ∧ Gen.ML_defaultNorm.toArray[s]! ≠ 0 := by decide +kernel
  exact ⟨fun h => built_roundtrip n1 (by decide) (by decide) σ hne (fun s hs => nz1 s (h s hs)),
    fun h => built_roundtrip n2 (by decide) (by decide) σ hne (fun s hs => nz2 s (h s hs)),
    fun h => built_roundtrip n3 (by decide) (by decide) σ hne (fun s hs => nz3 s (h s hs))⟩

theorem demo_stream : encodeAll (buildCTable Gen.OF_defaultNorm.toArray 5) [1, 2, 3, 28, 0, 7, 7, 7] =
    [(23, 5), (14, 5), (5, 5), (27, 5), (0, 5), (6, 5), (6, 4), (6, 4)] := by decide +kernel

/-- non-vacuity: a concrete stream on the predefined offset-code table -/
example : encodeAll (buildCTable Gen.OF_defaultNorm.toArray 5) [1, 2, 3, 28, 0, 7, 7, 7] =
    [(23, 5), (14, 5), (5, 5), (27, 5), (0, 5), (6, 5), (6, 4), (6, 4)] := demo_stream

example : decodeAll (buildCells Gen.OF_defaultNorm.toArray 5) 5 8
    [(23, 5), (14, 5), (5, 5), (27, 5), (0, 5), (6, 5), (6, 4), (6, 4)] = some ([1, 2, 3, 28, 0, 7, 7, 7], []) := by
  rw [← demo_stream]
  exact (default_tables_roundtrip [1, 2, 3, 28, 0, 7, 7, 7] (by decide)).2.1 (by decide)

end ZstdVerif.FSE
