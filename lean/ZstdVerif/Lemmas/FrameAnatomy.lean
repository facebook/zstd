/-
`Frame.decompressFrame` and `Frame.decompressAll` are `do` blocks around a `for` loop with `break`.  Each is taken apart once: the loop
becomes a loop over a list with a named step function (`blockStep`, `frameStep`), what follows the block loop becomes `frameEnd`
(`decompressFrame_eq`, `decompressAll_eq`, the latter for `magicless = false` only); the `_ok_iff` lemmas say when the decoders accept.
FrameRT, BlockRT, DictRT and TruncRT work with these instead of unfolding the `do` blocks.
The declarations are in namespace `ZstdVerif.FrameRT`, next to `St`, `stepOf` and the loop rules that FrameRT's users open by name.
-/
import ZstdVerif.Model.Frame
import ZstdVerif.Lemmas.ExceptLoop
namespace ZstdVerif.FrameRT
open ZstdVerif ZstdVerif.Gen ZstdVerif.Frame

theorem forIn_cons_ok {α β : Type} {a : α} {l : List α} {f : α → β → R (ForInStep β)} {s r : β} (h : forIn (a :: l) s f = .ok r) :
    ∃ st, f a s = .ok st ∧ match st with
      | .done b => r = b
      | .yield b => forIn l b f = .ok r := by
  rw [List.forIn_cons] at h
  cases hs : f a s with
  | error e => rw [hs] at h; cases h
  | ok st =>
    rw [hs] at h
    cases st with
    | done b => exact ⟨_, rfl, (Except.ok.inj h).symm⟩
    | yield b => exact ⟨_, rfl, h⟩

/-! ### the frame header -/

theorem headerSizeOf_ge (fhd : Nat) (ml : Bool) : (if ml then 1 else 5) ≤ headerSizeOf fhd ml := by
  unfold headerSizeOf
  dsimp only
  omega

theorem parseFields_ok {src : ByteArray} {p fhd fh : Nat} {hd : Header} (h : parseFields src p fhd fh = .ok hd) :
    hd.headerSize = fh ∧ hd.skippable = false ∧ hd.blockSizeMax = min hd.windowSize ZSTD_BLOCKSIZE_MAX ∧
    hd.checksum = ((fhd >>> 2) &&& 1 == 1) := by
  unfold parseFields at h
  dsimp only at h
  split at h
  · cases h
  · cases h; exact ⟨rfl, rfl, rfl, rfl⟩

theorem getHeader_ge {src : Bytes} {start n : Nat} {ml : Bool} {hd : Header} (h : getHeader src start n ml = .ok hd) :
    (if ml then 1 else 5) ≤ n := by
  refine Nat.not_lt.1 fun c1 => ?_
  unfold getHeader at h
  dsimp only at h
  rw [if_pos c1] at h
  repeat' split at h
  all_goals cases h

/-- what ZSTD_getFrameHeader_advanced has checked when it returns a zstd (not skippable) header -/
theorem getHeader_ok {src : Bytes} {start n : Nat} {ml : Bool} {hd : Header} (h : getHeader src start n ml = .ok hd)
    (hz : hd.skippable = false ∨ ml = true ∨ src.le32 start = ZSTD_MAGICNUMBER) :
    (ml = true ∨ src.le32 start = ZSTD_MAGICNUMBER) ∧
    headerSizeOf (src.u8 (start + (if ml then 1 else 5) - 1)) ml ≤ n ∧ (src.u8 (start + (if ml then 1 else 5) - 1) &&& 8 != 0) = false ∧
    parseFields src (start + (if ml then 1 else 5)) (src.u8 (start + (if ml then 1 else 5) - 1))
      (headerSizeOf (src.u8 (start + (if ml then 1 else 5) - 1)) ml) = .ok hd := by
  have c1 := getHeader_ge h
  unfold getHeader at h
  dsimp only at h
  rw [if_neg (Nat.not_lt.2 c1)] at h
  by_cases c2 : (!ml && src.le32 start != ZSTD_MAGICNUMBER) = true
  · -- another magic number: a skippable header or an error
    rw [if_pos c2] at h
    rw [Bool.and_eq_true, Bool.not_eq_true', bne_iff_ne] at c2
    repeat' split at h
    all_goals first | (cases h; done) | skip
    cases h
    rcases hz with hz | hz | hz
    · cases hz
    · rw [c2.1] at hz; cases hz
    · exact absurd hz c2.2
  rw [if_neg c2] at h
  have hm : ml = true ∨ src.le32 start = ZSTD_MAGICNUMBER := by
    cases ml
    · exact .inr (by simpa using c2)
    · exact .inl rfl
  by_cases c3 : n < headerSizeOf (src.u8 (start + (if ml = true then 1 else 5) - 1)) ml
  · rw [if_pos c3] at h; cases h
  rw [if_neg c3] at h
  by_cases c4 : (src.u8 (start + (if ml = true then 1 else 5) - 1) &&& 8 != 0) = true
  · rw [if_pos c4] at h; cases h
  rw [if_neg c4] at h
  exact ⟨hm, Nat.not_lt.1 c3, Bool.not_eq_true _ ▸ c4, h⟩

theorem getHeader_of_parse {src : Bytes} {start n : Nat} {ml : Bool} (h1 : (if ml then 1 else 5) ≤ n)
    (h2 : ml = true ∨ src.le32 start = ZSTD_MAGICNUMBER) (h3 : headerSizeOf (src.u8 (start + (if ml then 1 else 5) - 1)) ml ≤ n)
    (h4 : (src.u8 (start + (if ml then 1 else 5) - 1) &&& 8 != 0) = false) :
    getHeader src start n ml = parseFields src (start + (if ml then 1 else 5)) (src.u8 (start + (if ml then 1 else 5) - 1))
      (headerSizeOf (src.u8 (start + (if ml then 1 else 5) - 1)) ml) := by
  unfold getHeader
  dsimp only
  rw [if_neg (Nat.not_lt.2 h1), if_neg, if_neg (Nat.not_lt.2 h3), h4, if_neg Bool.false_ne_true]
  rcases h2 with h2 | h2
  · rw [h2]; exact Bool.false_ne_true
  · rw [h2, bne_self_eq_false, Bool.and_false]; exact Bool.false_ne_true

/-- a parsed zstd frame header does not depend on how much input was announced beyond the header itself -/
theorem getHeader_resize {src : ByteArray} {start n m : Nat} {ml : Bool} {hd : Header}
    (h : getHeader src start n ml = .ok hd) (hs : hd.skippable = false) (hm : hd.headerSize ≤ m) :
    hd.headerSize = headerSizeOf (src.u8 (start + (if ml then 1 else 5) - 1)) ml ∧ getHeader src start m ml = .ok hd := by
  obtain ⟨k2, _, k4, k5⟩ := getHeader_ok h (.inl hs)
  have p1 := (parseFields_ok k5).1
  have hge := headerSizeOf_ge (src.u8 (start + (if ml then 1 else 5) - 1)) ml
  exact ⟨p1, by rw [getHeader_of_parse (by omega) k2 (by omega) k4]; exact k5⟩

/-! ### the block loop of `Frame.decompressFrame` -/

/-- the state of the block loop of `Frame.decompressFrame`: (ip, remaining, out, entropy, block traces, lax) -/
abbrev St := Nat × Nat × ByteArray × Block.Entropy × Array BlockTrace × Option String

/-- `break` after the block flagged last -/
def stepOf : Bool → St → ForInStep St
  | true, s => .done s
  | false, s => .yield s

/-- what a block with header `bh` and body at `ip` regenerates (ZSTD_decompressBlock_internal / ZSTD_copyRawBlock / ZSTD_setRleBlock):
the output, the entropy state, and the trace of a compressed block -/
def regenBlock (src dc : Bytes) (fs cap bsm ip : Nat) (bh : BlockHdr) (out : ByteArray) (ent : Block.Entropy) :
    R (ByteArray × Block.Entropy × Option Block.Trace) :=
  if bh.ty == 2 then
    match Block.decodeBlock src ip bh.cSize ent dc { out := out, frameStart := fs, cap := cap } bsm with
    | .error e => .error e
    | .ok (out', ent', tr) => .ok (out', ent', some tr)
  else if bh.ty == 0 then
    if bh.cSize > cap - out.size then .error .dstTooSmall else .ok (out ++ src.extract ip (ip + bh.cSize), ent, none)
  else
    if bh.origSize > cap - out.size then .error .dstTooSmall
    else .ok (out ++ ByteArray.mk (Array.replicate bh.origSize (UInt8.ofNat (src.u8 ip))), ent, none)

theorem regenBlock_raw {src dc : Bytes} {fs cap bsm ip : Nat} {bh : BlockHdr} {out : ByteArray} {ent : Block.Entropy} (hty : bh.ty = 0)
    (hcap : bh.cSize ≤ cap - out.size) :
    regenBlock src dc fs cap bsm ip bh out ent = .ok (out ++ src.extract ip (ip + bh.cSize), ent, none) := by
  rw [regenBlock, hty, if_neg (by decide), if_pos (by decide), if_neg (Nat.not_lt.2 hcap)]

theorem regenBlock_rle {src dc : Bytes} {fs cap bsm ip : Nat} {bh : BlockHdr} {out : ByteArray} {ent : Block.Entropy} (hty : bh.ty = 1)
    (hcap : bh.origSize ≤ cap - out.size) :
    regenBlock src dc fs cap bsm ip bh out ent =
      .ok (out ++ ByteArray.mk (Array.replicate bh.origSize (UInt8.ofNat (src.u8 ip))), ent, none) := by
  rw [regenBlock, hty, if_neg (by decide), if_neg (by decide), if_neg (Nat.not_lt.2 hcap)]

theorem regenBlock_cmp {src dc : Bytes} {fs cap bsm ip : Nat} {bh : BlockHdr} {out : ByteArray} {ent : Block.Entropy} (hty : bh.ty = 2)
    {out' : ByteArray} {ent' : Block.Entropy} {tr : Block.Trace}
    (hdec : Block.decodeBlock src ip bh.cSize ent dc { out := out, frameStart := fs, cap := cap } bsm = .ok (out', ent', tr)) :
    regenBlock src dc fs cap bsm ip bh out ent = .ok (out', ent', some tr) := by
  rw [regenBlock, hty, if_pos (by decide), hdec]

/-- one iteration of the block loop -/
def blockStep (src dc : Bytes) (fs cap bsm : Nat) : St → R (ForInStep St)
  | (ip, rem, out, ent, blocks, lax) =>
    match blockHeader src ip rem with
    | .error e => .error e
    | .ok bh =>
      if bh.cSize > rem - 3 then .error (.srcSizeWrongAt "Frame:160")
      else match regenBlock src dc fs cap bsm (ip + 3) bh out ent with
        | .error e => .error e
        | .ok (out', ent', btr) =>
          .ok (stepOf bh.last (ip + 3 + bh.cSize, rem - 3 - bh.cSize, out', ent',
            blocks.push { hdr := bh, regen := out'.size - out.size, tr := btr },
            if out'.size - out.size > bsm && lax.isNone then some "block regenerates more than Block_Maximum_Size" else lax))

theorem blockStep_ok_iff {src dc : Bytes} {fs cap bsm ip rem : Nat} {out : ByteArray} {ent : Block.Entropy} {blocks : Array BlockTrace}
    {lax : Option String} {r : ForInStep St} :
    blockStep src dc fs cap bsm (ip, rem, out, ent, blocks, lax) = .ok r ↔
      ∃ bh out' ent' btr, blockHeader src ip rem = .ok bh ∧ bh.cSize ≤ rem - 3 ∧
        regenBlock src dc fs cap bsm (ip + 3) bh out ent = .ok (out', ent', btr) ∧
        r = stepOf bh.last (ip + 3 + bh.cSize, rem - 3 - bh.cSize, out', ent',
          blocks.push { hdr := bh, regen := out'.size - out.size, tr := btr },
          if out'.size - out.size > bsm && lax.isNone then some "block regenerates more than Block_Maximum_Size" else lax) := by
  rw [blockStep]
  cases blockHeader src ip rem with
  | error e => exact ⟨(nomatch ·), fun ⟨_, _, _, _, c, _⟩ => nomatch c⟩
  | ok bh =>
    dsimp only
    rw [ite_error_ok_iff, Nat.not_lt]
    cases hreg : regenBlock src dc fs cap bsm (ip + 3) bh out ent with
    | error e => exact ⟨(nomatch ·.2), fun ⟨_, _, _, _, c, _, d, _⟩ => by cases c; rw [hreg] at d; cases d⟩
    | ok v =>
      exact ⟨fun ⟨hf, c⟩ => ⟨bh, v.1, v.2.1, v.2.2, rfl, hf, hreg, (Except.ok.inj c).symm⟩,
        fun ⟨_, _, _, _, c, hf, d, e⟩ => by cases c; rw [hreg] at d; cases d; exact ⟨hf, congrArg _ e.symm⟩⟩

/-! ### the epilogue of `Frame.decompressFrame` -/

def lastSeen (blocks : Array BlockTrace) : Bool := (blocks.back?.map (·.hdr.last)).getD false

def endResult (src : Bytes) (ip0 fs : Nat) (h : Header) : St → ByteArray × Nat × FrameTrace
  | (ip, _, out, _, blocks, _) =>
    (out, ip + (if h.checksum then 4 else 0) - ip0,
      { hdr := h, start := ip0, size := ip + (if h.checksum then 4 else 0) - ip0, regenStart := fs, regenSize := out.size - fs,
        blocks := blocks, storedChecksum := if h.checksum then some (src.le32 ip) else none })

/-- what `Frame.decompressFrame` does after the block loop: a last block must have been seen, the announced content size and the
checksum are verified, a laxity note becomes an error -/
def frameEnd (src : Bytes) (ip0 fs : Nat) (o : Opts) (h : Header) (s : St) : R (ByteArray × Nat × FrameTrace) :=
  if lastSeen s.2.2.2.2.1 = false then .error (.srcSizeWrongAt "Frame:180")
  else if h.fcs.any (s.2.2.1.size - fs != ·) then .error (.corruptionAt "Frame:182")
  else if h.checksum = true ∧ s.2.1 < 4 then .error .checksumWrong
  else if h.checksum = true ∧ o.ignoreChecksum = false ∧
      src.le32 s.1 ≠ (XXH64.hashRange s.2.2.1 fs (s.2.2.1.size - fs)).toNat &&& 0xFFFFFFFF then .error .checksumWrong
  else match s.2.2.2.2.2 with
    | some w => .error (.lax w)
    | none => .ok (endResult src ip0 fs h s)

theorem frameEnd_ok_iff {src : Bytes} {ip0 fs : Nat} {o : Opts} {h : Header} {ip rem : Nat} {out : ByteArray} {ent : Block.Entropy}
    {blocks : Array BlockTrace} {lax : Option String} {res : ByteArray × Nat × FrameTrace} :
    frameEnd src ip0 fs o h (ip, rem, out, ent, blocks, lax) = .ok res ↔
      lastSeen blocks = true ∧ (∀ n, h.fcs = some n → out.size - fs = n) ∧
      (h.checksum = true → 4 ≤ rem ∧
        (o.ignoreChecksum = false → src.le32 ip = (XXH64.hashRange out fs (out.size - fs)).toNat &&& 0xFFFFFFFF)) ∧
      lax = none ∧ res = endResult src ip0 fs h (ip, rem, out, ent, blocks, lax) := by
  unfold frameEnd
  dsimp only
  rw [ite_error_ok_iff, ite_error_ok_iff, ite_error_ok_iff, ite_error_ok_iff, Bool.not_eq_false, ← and_assoc (b := ¬ (_ ∧ _ ∧ _))]
  refine and_congr Iff.rfl (and_congr ?_ (and_congr ?_ ?_))
  · cases h.fcs with
    | none => exact ⟨fun _ _ => (nomatch ·), fun _ => (nomatch ·)⟩
    | some m => simp only [Option.any_some, bne_iff_ne, ne_eq, Decidable.not_not, Option.some.injEq, forall_eq']
  · exact ⟨fun ⟨h1, h2⟩ hc => ⟨Nat.not_lt.1 fun c => h1 ⟨hc, c⟩, fun hi => Decidable.not_not.1 fun c => h2 ⟨hc, hi, c⟩⟩,
      fun h => ⟨fun ⟨hc, c⟩ => Nat.not_le.2 c (h hc).1, fun ⟨hc, hi, c⟩ => c ((h hc).2 hi)⟩⟩
  · cases lax with
    | none => exact ⟨fun c => ⟨rfl, (Except.ok.inj c).symm⟩, fun c => congrArg Except.ok c.2.symm⟩
    | some w => exact ⟨(nomatch ·), (nomatch ·.1)⟩

/-! ### `Frame.decompressFrame` -/

/-- the inlined join points of the `do` block: the four-way branch on "note a laxity" and "last block" is `stepOf` on one state -/
theorem ite_stepOf (c : Prop) [Decidable c] (last : Bool) (mk : Option String → St) (a b : Option String) :
    (if c then (if last = true then Except.ok (ForInStep.done (mk a)) else .ok (.yield (mk a)))
      else (if last = true then .ok (.done (mk b)) else .ok (.yield (mk b)))) =
    (.ok (stepOf last (mk (if c then a else b))) : R (ForInStep St)) := by
  by_cases h : c
  · rw [if_pos h, if_pos h]; cases last <;> rfl
  · rw [if_neg h, if_neg h]; cases last <;> rfl

/-- the frame header size `Frame.decompressFrame` computes from the descriptor byte before it parses the header -/
def fhSizeAt (src : Bytes) (ip0 : Nat) (o : Opts) : Nat := headerSizeOf (src.u8 (ip0 + if o.magicless then 0 else 4)) o.magicless

/-- the block size limit in force: Block_Maximum_Size of the header, lowered by ZSTD_d_maxBlockSize -/
def bsmOf (o : Opts) (h : Header) : Nat := if o.maxBlockSize != 0 then min h.blockSizeMax o.maxBlockSize else h.blockSizeMax

theorem decompressFrame_eq (src : Bytes) (ip0 rem : Nat) (dict : Dict) (out0 : ByteArray) (cap : Nat) (o : Opts) :
    decompressFrame src ip0 rem dict out0 cap o =
      if rem < (if o.magicless then 2 else 6) + 3 then .error (.srcSizeWrongAt "Frame:138")
      else if rem < fhSizeAt src ip0 o + 3 then .error (.srcSizeWrongAt "Frame:141")
      else match getHeader src ip0 (fhSizeAt src ip0 o) o.magicless with
        | .need _ => .error (.srcSizeWrongAt "Frame:144")
        | .err e => .error e
        | .ok h =>
          if h.skippable then .error .prefixUnknown
          else if h.dictID != 0 && dict.id != h.dictID then .error .dictWrong
          else forIn (List.range' 0 rem) (ip0 + fhSizeAt src ip0 o, rem - fhSizeAt src ip0 o, out0, dict.ent, #[], none)
              (fun _ => blockStep src dict.content out0.size cap (bsmOf o h)) >>= frameEnd src ip0 out0.size o h := by
  unfold decompressFrame fhSizeAt bsmOf
  simp only [bind, Except.bind, pure, Except.pure, throw, throwThe, MonadExceptOf.throw, forIn_range, show ZSTD_blockHeaderSize = 3 from rfl]
  generalize headerSizeOf _ _ = fh
  refine ite_congr rfl (fun _ => rfl) fun _ => ite_congr rfl (fun _ => rfl) fun _ => ?_
  cases getHeader src ip0 fh o.magicless with
  | need n => rfl
  | err e => rfl
  | ok h =>
    refine ite_congr rfl (fun _ => rfl) fun _ => ite_congr rfl (fun _ => rfl) fun _ => ?_
    generalize (if (o.maxBlockSize != 0) = true then min h.blockSizeMax o.maxBlockSize else h.blockSizeMax) = bsm
    rw [forIn_body_congr (g := fun _ => blockStep src dict.content out0.size cap bsm)]
    · cases forIn (List.range' 0 rem) (ip0 + fh, rem - fh, out0, dict.ent, #[], none) fun _ => blockStep src dict.content out0.size cap bsm with
      | error e => rfl
      | ok s =>
        -- the epilogue of the source, with its duplicated tails, is `frameEnd`
        obtain ⟨ip, rem, out, ent, blocks, lax⟩ := s
        unfold frameEnd lastSeen endResult
        dsimp only
        generalize (Option.map (fun x : BlockTrace => x.hdr.last) blocks.back?).getD false = ls
        cases ls
        · rfl
        cases h.fcs <;> cases h.checksum <;> cases o.ignoreChecksum <;> cases lax <;> simp
    · intro i s
      obtain ⟨ip, rem, out, ent, blocks, lax⟩ := s
      rw [blockStep]; unfold regenBlock
      cases blockHeader src ip rem with
      | error e => rfl
      | ok bh =>
        refine ite_congr rfl (fun _ => rfl) fun _ => ?_
        by_cases h2 : (bh.ty == 2) = true
        · rw [if_pos h2, if_pos h2]
          cases Block.decodeBlock src (ip + 3) bh.cSize ent dict.content { out := out, frameStart := out0.size, cap := cap } bsm with
          | error e => rfl
          | ok r => exact ite_stepOf _ _ (fun l => (ip + 3 + bh.cSize, rem - 3 - bh.cSize, r.1, r.2.1, blocks.push ⟨bh, _, some r.2.2⟩, l)) _ _
        rw [if_neg h2, if_neg h2]
        by_cases h0 : (bh.ty == 0) = true
        · rw [if_pos h0, if_pos h0]
          by_cases hd : bh.cSize > cap - out.size
          · rw [if_pos hd, if_pos hd]
          rw [if_neg hd, if_neg hd]
          exact ite_stepOf _ _ (fun l => (ip + 3 + bh.cSize, rem - 3 - bh.cSize, _, ent, blocks.push ⟨bh, _, none⟩, l)) _ _
        · rw [if_neg h0, if_neg h0]
          by_cases hd : bh.origSize > cap - out.size
          · rw [if_pos hd, if_pos hd]
          rw [if_neg hd, if_neg hd]
          exact ite_stepOf _ _ (fun l => (ip + 3 + bh.cSize, rem - 3 - bh.cSize, _, ent, blocks.push ⟨bh, _, none⟩, l)) _ _

theorem decompressFrame_ok_iff {src : Bytes} {ip0 rem : Nat} {dict : Dict} {out0 : ByteArray} {cap : Nat} {o : Opts}
    {res : ByteArray × Nat × FrameTrace} :
    decompressFrame src ip0 rem dict out0 cap o = .ok res ↔
      (if o.magicless then 2 else 6) + 3 ≤ rem ∧ fhSizeAt src ip0 o + 3 ≤ rem ∧
      ∃ hd s, getHeader src ip0 (fhSizeAt src ip0 o) o.magicless = .ok hd ∧ hd.skippable = false ∧
        (hd.dictID != 0 && dict.id != hd.dictID) = false ∧
        forIn (List.range' 0 rem) (ip0 + fhSizeAt src ip0 o, rem - fhSizeAt src ip0 o, out0, dict.ent, #[], none)
          (fun _ => blockStep src dict.content out0.size cap (bsmOf o hd)) = .ok s ∧
        frameEnd src ip0 out0.size o hd s = .ok res := by
  rw [decompressFrame_eq, ite_error_ok_iff, ite_error_ok_iff, Nat.not_lt, Nat.not_lt]
  refine and_congr Iff.rfl (and_congr Iff.rfl ?_)
  cases getHeader src ip0 (fhSizeAt src ip0 o) o.magicless with
  | need n => exact ⟨(nomatch ·), fun ⟨_, _, c, _⟩ => nomatch c⟩
  | err e => exact ⟨(nomatch ·), fun ⟨_, _, c, _⟩ => nomatch c⟩
  | ok h =>
    dsimp only
    rw [ite_error_ok_iff, ite_error_ok_iff, Bool.not_eq_true, Bool.not_eq_true]
    cases hloop : forIn (List.range' 0 rem) (ip0 + fhSizeAt src ip0 o, rem - fhSizeAt src ip0 o, out0, dict.ent, #[], none)
        (fun _ => blockStep src dict.content out0.size cap (bsmOf o h)) with
    | error e => exact ⟨(nomatch ·.2.2), fun ⟨_, _, c, _, _, d, _⟩ => by cases c; rw [hloop] at d; cases d⟩
    | ok s =>
      exact ⟨fun ⟨hsk, hdict, c⟩ => ⟨h, s, rfl, hsk, hdict, hloop, c⟩,
        fun ⟨_, _, c, hsk, hdict, d, e⟩ => by cases c; rw [hloop] at d; cases d; exact ⟨hsk, hdict, e⟩⟩

/-! ### `Frame.decompressAll`, zstd1 format -/

/-- the state of the frame loop of `Frame.decompressAll`: (ip, remaining, out, traces, more) -/
abbrev StA := Nat × Nat × ByteArray × Array FrameTrace × Bool

/-- one iteration of the frame loop, for `o.magicless = false` -/
def frameStep (src : Bytes) (dict : Dict) (cap : Nat) (o : Opts) : StA → R (ForInStep StA)
  | (ip, rem, out, traces, more) =>
    if rem < 5 then .ok (.done (ip, rem, out, traces, more))
    else if isLegacyMagic (src.le32 ip) then .error .legacy
    else if src.le32 ip &&& ZSTD_MAGIC_SKIPPABLE_MASK == ZSTD_MAGIC_SKIPPABLE_START then
      match skippableSize src ip rem with
      | .error e => .error e
      | .ok sk =>
        .ok (.yield (ip + sk, rem - sk, out, traces.push
          { hdr := { skippable := true, headerSize := 8, fcs := some (sk - 8), dictID := src.le32 ip - ZSTD_MAGIC_SKIPPABLE_START },
            start := ip, size := sk, regenStart := out.size, regenSize := 0, blocks := #[], storedChecksum := none }, more))
    else
      match decompressFrame src ip rem dict out cap o with
      | .error e => .error (if e = .prefixUnknown ∧ more = true then .srcSizeWrongAt "Frame:230" else e)
      | .ok (out', used, tr) => .ok (.yield (ip + used, rem - used, out', traces.push tr, true))

theorem decompressAll_eq {src : Bytes} {dict : Dict} {cap : Nat} {o : Opts} (hml : o.magicless = false) :
    decompressAll src dict cap o =
      forIn (List.range' 0 (src.size + 1)) (0, src.size, ByteArray.empty, #[], false) (fun _ => frameStep src dict cap o) >>= fun s =>
        if s.2.1 != 0 then .error (.srcSizeWrongAt "Frame:238") else .ok (s.2.2.1, s.2.2.2.1) := by
  unfold decompressAll
  simp only [bind, Except.bind, pure, Except.pure, throw, throwThe, MonadExceptOf.throw, forIn_range, hml, Bool.false_eq_true, if_false,
    Bool.not_false, Bool.true_and]
  rw [forIn_body_congr (g := fun _ => frameStep src dict cap o)]
  intro i s
  obtain ⟨ip, rem, out, traces, more⟩ := s
  rw [frameStep]
  dsimp only
  refine ite_congr rfl (fun _ => rfl) fun h5 => ?_
  rw [if_pos (decide_eq_true (by omega))]
  refine ite_congr rfl (fun _ => rfl) fun _ => ite_congr rfl (fun _ => ?_) fun _ => ?_
  · cases skippableSize src ip rem <;> rfl
  · -- the overlapping patterns of the source, as one case on the error
    cases decompressFrame src ip rem dict out cap o with
    | ok r => rfl
    | error e => cases e <;> cases more <;> rfl

theorem decompressAll_ok_iff {src : Bytes} {dict : Dict} {cap : Nat} {o : Opts} (hml : o.magicless = false) {out : ByteArray}
    {traces : Array FrameTrace} :
    decompressAll src dict cap o = .ok (out, traces) ↔
      ∃ ip more, forIn (List.range' 0 (src.size + 1)) (0, src.size, ByteArray.empty, #[], false) (fun _ => frameStep src dict cap o) =
        .ok (ip, 0, out, traces, more) := by
  rw [decompressAll_eq hml]
  cases forIn (List.range' 0 (src.size + 1)) (0, src.size, ByteArray.empty, #[], false) (fun _ => frameStep src dict cap o) with
  | error e => exact ⟨(nomatch ·), fun ⟨_, _, c⟩ => nomatch c⟩
  | ok s =>
    obtain ⟨ip, rem, out', traces', more⟩ := s
    show (if (rem != 0) = true then _ else _) = _ ↔ _
    rw [ite_error_ok_iff, bne_iff_ne, Decidable.not_not]
    exact ⟨fun ⟨c, d⟩ => by cases c; cases d; exact ⟨ip, more, rfl⟩, fun ⟨_, _, c⟩ => by cases c; exact ⟨rfl, rfl⟩⟩

end ZstdVerif.FrameRT
