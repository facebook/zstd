/-
Whole-frame round trip for frames made of raw and RLE blocks (property C01, "decode(compress(x)) = x", for the total fallback of the
compressor: every block can always be emitted raw).  Serializer: Model/Serialize.lean, tied byte for byte to zstd_compress.c by
tools/ent_frame.py / harness/zvh_rawframe.c; decoder: Model/Frame.lean through the step functions of Lemmas/FrameAnatomy.lean.
The input is described by `Holds src ip b`, and the block loop and the frame loop are run against it (`blocks_loop`, `segs_loop`).
BlockRT and DictRT take from here `Holds`, the specifications of one loop iteration per block kind (`StepRaw`, `StepRle`), the header
and checksum lemmas, and `decompressFrame_of_blocks` (header stage and epilogue around any block loop).
-/
import ZstdVerif.Model.Serialize
import ZstdVerif.Lemmas.HeaderW
import ZstdVerif.Lemmas.Bytes
import ZstdVerif.Lemmas.FrameAnatomy
namespace ZstdVerif.FrameRT
open ZstdVerif ZstdVerif.Gen ZstdVerif.Serialize ZstdVerif.HeaderW

/-! ### reading inside a concatenation -/

theorem le24_append_right (a b : ByteArray) (i : Nat) : (a ++ b).le24 (a.size + i) = b.le24 i :=
  ByteArray.le24_append_right a b i

/-- `src` holds the bytes `b` at offset `ip` -/
def Holds (src : ByteArray) (ip : Nat) (b : ByteArray) : Prop := ∃ pre post : ByteArray, src = pre ++ (b ++ post) ∧ pre.size = ip

theorem holds_self (b : ByteArray) : Holds b 0 b :=
  ⟨ByteArray.empty, ByteArray.empty, by rw [ByteArray.empty_append, ByteArray.append_empty], rfl⟩

theorem Holds.left {src : ByteArray} {ip : Nat} {a b : ByteArray} (h : Holds src ip (a ++ b)) : Holds src ip a := by
  obtain ⟨pre, post, hs, hp⟩ := h
  exact ⟨pre, b ++ post, by rw [hs, ByteArray.append_assoc], hp⟩

theorem Holds.right {src : ByteArray} {ip : Nat} {a b : ByteArray} (h : Holds src ip (a ++ b)) : Holds src (ip + a.size) b := by
  obtain ⟨pre, post, hs, hp⟩ := h
  exact ⟨pre ++ a, post, by rw [hs]; simp only [ByteArray.append_assoc], by rw [ByteArray.size_append, hp]⟩

theorem Holds.u8 {src : ByteArray} {ip : Nat} {b : ByteArray} (h : Holds src ip b) (i : Nat) (hi : i < b.size) :
    src.u8 (ip + i) = b.u8 i := by
  obtain ⟨pre, post, hs, hp⟩ := h
  rw [hs, ← hp, ByteArray.u8_append_right, ByteArray.u8_append_left _ _ _ hi]

theorem Holds.extract {src : ByteArray} {ip : Nat} {b : ByteArray} (h : Holds src ip b) :
    src.extract ip (ip + b.size) = b := by
  obtain ⟨pre, post, hs, hp⟩ := h
  have := ByteArray.extract_append_size_add (a := pre) (b := b ++ post) (i := 0) (j := b.size)
  rw [Nat.add_zero] at this
  rw [hs, ← hp, this, ByteArray.extract_append_eq_left rfl]

theorem Holds.size_le {src : ByteArray} {ip : Nat} {b : ByteArray} (h : Holds src ip b) : ip + b.size ≤ src.size := by
  obtain ⟨pre, post, hs, hp⟩ := h
  rw [hs]; simp only [ByteArray.size_append]; omega

theorem Holds.le24 {src : ByteArray} {ip : Nat} {b : ByteArray} (h : Holds src ip b) (hb : 3 ≤ b.size) : src.le24 ip = b.le24 0 := by
  unfold ByteArray.le24
  rw [← h.u8 0 (by omega), ← h.u8 1 (by omega), ← h.u8 2 (by omega)]
  rfl

theorem Holds.le32 {src : ByteArray} {ip : Nat} {b : ByteArray} (h : Holds src ip b) (hb : 4 ≤ b.size) : src.le32 ip = b.le32 0 := by
  unfold ByteArray.le32
  rw [← h.u8 0 (by omega), ← h.u8 1 (by omega), ← h.u8 2 (by omega), ← h.u8 3 (by omega)]
  rfl

theorem size_ofList (l : List UInt8) : (ofList l).size = l.length := ByteArray.size_mk l

theorem ofList_append (l1 l2 : List UInt8) : ofList (l1 ++ l2) = ofList l1 ++ ofList l2 := by
  unfold ofList
  apply ByteArray.ext
  simp [ByteArray.data_append]

theorem ofList_toList (b : ByteArray) : ofList b.data.toList = b := by
  unfold ofList
  simp

theorem size_replicate (n : Nat) (b : UInt8) : (ByteArray.mk (Array.replicate n b)).size = n := by
  simp only [ByteArray.size, Array.size_replicate]

theorem le32_le4 (v : Nat) (hv : v < 2 ^ 32) : (ofList (le4 v)).le32 0 = v := by
  have := HeaderW.le32_le4 v []
  rw [List.append_nil] at this
  exact this.trans (Nat.mod_eq_of_lt hv)

/-! ### XXH64 of a range does not depend on what precedes the range -/

section Hash
open ZstdVerif.XXH64

/-- `while p + w ≤ stop do acc := g p acc; p := p + w`, the shape of the three loops of `XXH64.hashRange` -/
def scan {α : Type} (w : Nat) (g : Nat → α → α) (stop : Nat) (s : Nat × α) : Nat × α :=
  forIn (m := Id) Lean.Loop.mk s fun _ s => if s.1 + w ≤ stop then ForInStep.yield (s.1 + w, g s.1 s.2) else ForInStep.done s

def merged (b : Bytes) (stop start : Nat) (seed : UInt64) : Nat × UInt64 :=
  let v := scan 32 (fun p (v : UInt64 × UInt64 × UInt64 × UInt64) =>
    (round v.1 (rd64 b p), round v.2.1 (rd64 b (p + 8)), round v.2.2.1 (rd64 b (p + 16)), round v.2.2.2 (rd64 b (p + 24))))
    stop (start, seed + P1 + P2, seed + P2, seed, seed - P1)
  (v.1, mergeRound (mergeRound (mergeRound (mergeRound
    (rotl v.2.1 1 + rotl v.2.2.1 7 + rotl v.2.2.2.1 12 + rotl v.2.2.2.2 18) v.2.1) v.2.2.1) v.2.2.2.1) v.2.2.2.2)

def lastBytes (b : Bytes) (stop : Nat) (s : Nat × UInt64) : UInt64 :=
  avalanche (scan 1 (fun p h => rotl (h ^^^ (UInt64.ofNat (b.u8 p) * P5)) 11 * P1) stop s).2

def finish (b : Bytes) (stop len : Nat) (s : Nat × UInt64) : UInt64 :=
  let s1 := scan 8 (fun p h => rotl (h ^^^ round 0 (rd64 b p)) 27 * P1 + P4) stop (s.1, s.2 + UInt64.ofNat len)
  if s1.1 + 4 ≤ stop then lastBytes b stop (s1.1 + 4, rotl (s1.2 ^^^ (rd32 b s1.1 * P1)) 23 * P2 + P3) else lastBytes b stop s1

/-- by `rfl`: `merged` and `finish` above follow the text of `XXH64.hashRange` loop by loop and must keep doing so -/
theorem hashRange_eq (b : Bytes) (start len : Nat) (seed : UInt64) :
    hashRange b start len seed =
      if len ≥ 32 then finish b (start + len) len (merged b (start + len) start seed) else finish b (start + len) len (start, seed + P5) :=
  rfl

theorem loop_step {β : Type} (f : Unit → β → Id (ForInStep β)) (b : β) :
    forIn (m := Id) Lean.Loop.mk b f = match f () b with
      | .done v => v
      | .yield v => forIn (m := Id) Lean.Loop.mk v f := by
  show Lean.Loop.forIn Lean.Loop.mk b f = _
  rw [Lean.Loop.forIn_eq_of_monadTail]
  cases f () b <;> rfl

theorem scan_shift {α : Type} (k stop w : Nat) (hw : 0 < w) (g' g : Nat → α → α) (hg : ∀ p a, p + w ≤ stop → g' (k + p) a = g p a)
    (p : Nat) (a : α) : scan w g' (k + stop) (k + p, a) = (k + (scan w g stop (p, a)).1, (scan w g stop (p, a)).2) := by
  generalize hn : stop + w - p = n
  induction n using Nat.strongRecOn generalizing p a with
  | _ n ih =>
    unfold scan
    rw [loop_step, loop_step (b := (p, a))]
    dsimp only
    by_cases c : p + w ≤ stop
    · rw [if_pos (by omega), if_pos c, hg p a c, Nat.add_assoc]
      exact ih _ (by omega) (p + w) _ rfl
    · rw [if_neg (by omega), if_neg c]

theorem rd64_shift (pre x : ByteArray) (i : Nat) : rd64 (pre ++ x) (pre.size + i) = rd64 x i := by
  unfold rd64; rw [ByteArray.le64_append_right]
theorem rd32_shift (pre x : ByteArray) (i : Nat) : rd32 (pre ++ x) (pre.size + i) = rd32 x i := by
  unfold rd32; rw [ByteArray.le32_append_right]

theorem merged_shift (pre x : ByteArray) (stop start : Nat) (seed : UInt64) :
    merged (pre ++ x) (pre.size + stop) (pre.size + start) seed = (pre.size + (merged x stop start seed).1, (merged x stop start seed).2) := by
  unfold merged
  rw [scan_shift _ _ _ (by decide) _ _ (fun p a _ => by simp only [Nat.add_assoc, rd64_shift]; rfl)]

theorem finish_shift (pre x : ByteArray) (stop len : Nat) (s : Nat × UInt64) :
    finish (pre ++ x) (pre.size + stop) len (pre.size + s.1, s.2) = finish x stop len s := by
  have hb : ∀ s : Nat × UInt64, lastBytes (pre ++ x) (pre.size + stop) (pre.size + s.1, s.2) = lastBytes x stop s := fun s => by
    unfold lastBytes
    rw [scan_shift _ _ _ (by decide) _ _ (fun p a _ => by rw [ByteArray.u8_append_right])]
  unfold finish
  dsimp only
  rw [scan_shift _ _ _ (by decide) _ _ (fun p a _ => by rw [rd64_shift])]
  dsimp only
  by_cases c : (scan 8 (fun p h => rotl (h ^^^ round 0 (rd64 x p)) 27 * P1 + P4) stop (s.1, s.2 + UInt64.ofNat len)).1 + 4 ≤ stop
  · rw [if_pos (by omega), if_pos c, Nat.add_assoc, rd32_shift]; exact hb (_, _)
  · rw [if_neg (by omega), if_neg c]; exact hb _

/-- XXH64 of a range only looks at the bytes of the range -/
theorem hashRange_shift (pre x : ByteArray) (start len : Nat) (seed : UInt64) :
    hashRange (pre ++ x) (pre.size + start) len seed = hashRange x start len seed := by
  rw [hashRange_eq, hashRange_eq, Nat.add_assoc]
  split
  · rw [merged_shift, finish_shift]
  · exact finish_shift pre x _ len (start, seed + P5)

end Hash

/-! ### block headers -/

theorem blockHeader24_size (last : Bool) (ty n : Nat) : (blockHeader24 last ty n).size = 3 := rfl

theorem blockHeader24_le24 (last : Bool) (ty n : Nat) (hty : ty < 4) (hn : n < 2 ^ 21) :
    (blockHeader24 last ty n).le24 0 = blockHeaderVal last ty n := by
  unfold blockHeader24 ByteArray.le24 ofList
  simp only [ByteArray.u8_mk, List.getElem?_cons_succ, List.getElem?_cons_zero, Option.map_some, Option.getD_some, HeaderW.byte_toNat,
    Nat.zero_add]
  have : blockHeaderVal last ty n < 2 ^ 24 := by
    unfold blockHeaderVal; simp only [Nat.shiftLeft_eq]; split <;> omega
  generalize blockHeaderVal last ty n = v at this
  simp only [Nat.shiftRight_eq_div_pow, Nat.shiftLeft_eq]
  omega

theorem blockHeaderVal_fields (last : Bool) (ty n : Nat) (hty : ty < 4) :
    (blockHeaderVal last ty n &&& 1 == 1) = last ∧ (blockHeaderVal last ty n >>> 1) &&& 3 = ty ∧ blockHeaderVal last ty n >>> 3 = n := by
  have h1 : ∀ v, v &&& 1 = v % 2 := fun v => Nat.and_two_pow_sub_one_eq_mod v 1
  have h3 : ∀ v, v &&& 3 = v % 4 := fun v => Nat.and_two_pow_sub_one_eq_mod v 2
  unfold blockHeaderVal
  cases last
  · simp only [h1, h3, Nat.shiftRight_eq_div_pow, Nat.shiftLeft_eq, Bool.false_eq_true, if_false, beq_eq_false_iff_ne, ne_eq]
    omega
  · simp only [h1, h3, Nat.shiftRight_eq_div_pow, Nat.shiftLeft_eq, if_true, beq_iff_eq]
    omega

/-- ZSTD_getcBlockSize reads back what MEM_writeLE24 of the block header wrote -/
theorem blockHeader_written {src : ByteArray} {ip rem ty n : Nat} {last : Bool} (h : Holds src ip (blockHeader24 last ty n))
    (hrem : 3 ≤ rem) (hty : ty < 3) (hn : n < 2 ^ 21) :
    Frame.blockHeader src ip rem = .ok { last := last, ty := ty, cSize := if ty == 1 then 1 else n, origSize := n } := by
  obtain ⟨f1, f2, f3⟩ := blockHeaderVal_fields last ty n (by omega)
  unfold Frame.blockHeader
  rw [if_neg (show ¬ rem < ZSTD_blockHeaderSize from Nat.not_lt.2 hrem), h.le24 (Nat.le_refl 3), blockHeader24_le24 _ _ _ (by omega) hn]
  dsimp only
  rw [f1, f2, f3, if_neg (by rw [beq_iff_eq]; omega)]

theorem blockHeader_raw {src : ByteArray} {ip rem n : Nat} {last : Bool} (h : Holds src ip (blockHeader24 last 0 n))
    (hrem : 3 ≤ rem) (hn : n < 2 ^ 21) :
    Frame.blockHeader src ip rem = .ok { last := last, ty := 0, cSize := n, origSize := n } :=
  blockHeader_written h hrem (by omega) hn

theorem blockHeader_rle {src : ByteArray} {ip rem n : Nat} {last : Bool} (h : Holds src ip (blockHeader24 last 1 n))
    (hrem : 3 ≤ rem) (hn : n < 2 ^ 21) :
    Frame.blockHeader src ip rem = .ok { last := last, ty := 1, cSize := 1, origSize := n } :=
  blockHeader_written h hrem (by omega) hn

/-! ### the block loop -/

/-- the block list tiles `x[pos, x.size)`: consecutive stretches, none longer than `bsm`, RLE blocks stand for constant runs -/
def Tiles (bsm : Nat) (x : ByteArray) : List BlockChoice → Nat → Prop
  | [], pos => pos = x.size
  | .raw n :: rest, pos => pos + n ≤ x.size ∧ n ≤ bsm ∧ Tiles bsm x rest (pos + n)
  | .rle b n :: rest, pos =>
    pos + n ≤ x.size ∧ n ≤ bsm ∧ x.extract pos (pos + n) = ByteArray.mk (Array.replicate n b) ∧ Tiles bsm x rest (pos + n)

/-- what one iteration of the loop does on a raw block -/
def StepRaw (src : ByteArray) (cap bsm : Nat) (f : Nat → St → R (ForInStep St)) : Prop :=
  ∀ (i ip rem : Nat) (out : ByteArray) (ent : Block.Entropy) (blocks : Array Frame.BlockTrace) (last : Bool) (n : Nat) (data : ByteArray),
    Holds src ip (blockHeader24 last 0 n ++ data) → data.size = n → 3 + n ≤ rem → n ≤ cap - out.size → n ≤ bsm → n < 2 ^ 21 →
    ∃ bt : Frame.BlockTrace, bt.hdr.last = last ∧
      f i (ip, rem, out, ent, blocks, none) = .ok (stepOf last (ip + 3 + n, rem - 3 - n, out ++ data, ent, blocks.push bt, none))

/-- what one iteration of the loop does on an RLE block -/
def StepRle (src : ByteArray) (cap bsm : Nat) (f : Nat → St → R (ForInStep St)) : Prop :=
  ∀ (i ip rem : Nat) (out : ByteArray) (ent : Block.Entropy) (blocks : Array Frame.BlockTrace) (last : Bool) (n : Nat) (b : UInt8),
    Holds src ip (blockHeader24 last 1 n ++ ofList [b]) → 3 + 1 ≤ rem → n ≤ cap - out.size → n ≤ bsm → n < 2 ^ 21 →
    ∃ bt : Frame.BlockTrace, bt.hdr.last = last ∧
      f i (ip, rem, out, ent, blocks, none) =
        .ok (stepOf last (ip + 3 + 1, rem - 3 - 1, out ++ ByteArray.mk (Array.replicate n b), ent, blocks.push bt, none))

theorem blockStep_stepRaw (src dc : ByteArray) (fs cap bsm : Nat) : StepRaw src cap bsm fun _ => blockStep src dc fs cap bsm := by
  intro i ip rem out ent blocks last n data hh hds h1 h2 h3 h4
  have hex : src.extract (ip + 3) (ip + 3 + n) = data := by
    have := hh.right.extract; rwa [blockHeader24_size, hds] at this
  refine ⟨⟨⟨last, 0, n, n⟩, (out ++ data).size - out.size, none⟩, rfl, blockStep_ok_iff.2
    ⟨_, _, _, _, blockHeader_raw hh.left (by omega) h4, by dsimp only; omega, regenBlock_raw rfl h2, ?_⟩⟩
  dsimp only
  rw [hex, if_neg (by rw [ByteArray.size_append, hds, Bool.and_eq_true, decide_eq_true_eq]; omega)]

theorem blockStep_stepRle (src dc : ByteArray) (fs cap bsm : Nat) : StepRle src cap bsm fun _ => blockStep src dc fs cap bsm := by
  intro i ip rem out ent blocks last n b hh h1 h2 h3 h4
  have hb : src.u8 (ip + 3) = b.toNat := by
    have := hh.right.u8 0 Nat.zero_lt_one; rwa [blockHeader24_size] at this
  refine ⟨⟨⟨last, 1, 1, n⟩, (out ++ ByteArray.mk (Array.replicate n b)).size - out.size, none⟩, rfl, blockStep_ok_iff.2
    ⟨_, _, _, _, blockHeader_rle hh.left (by omega) h4, by dsimp only; omega, regenBlock_rle rfl h2, ?_⟩⟩
  dsimp only
  rw [hb, UInt8.ofNat_toNat, if_neg (by rw [ByteArray.size_append, size_replicate, Bool.and_eq_true, decide_eq_true_eq]; omega)]

def blockBytes (x : ByteArray) (pos : Nat) (last : Bool) : BlockChoice → ByteArray
  | .raw n => noCompressBlock last x pos n
  | .rle b n => rleCompressBlock last b n

theorem serializeBlocks_cons (x : ByteArray) (c : BlockChoice) (rest : List BlockChoice) (pos : Nat) :
    serializeBlocks x (c :: rest) pos = blockBytes x pos rest.isEmpty c ++ serializeBlocks x rest (pos + c.len) := by
  cases c <;> rfl

theorem blockBytes_size_ge (x : ByteArray) (pos : Nat) (last : Bool) (c : BlockChoice) : 3 ≤ (blockBytes x pos last c).size := by
  cases c <;> simp only [blockBytes, noCompressBlock, rleCompressBlock, ByteArray.size_append, blockHeader24_size] <;> omega

theorem serializeBlocks_size_ge (x : ByteArray) (bs : List BlockChoice) (pos : Nat) :
    3 * bs.length ≤ (serializeBlocks x bs pos).size := by
  induction bs generalizing pos with
  | nil => exact Nat.zero_le _
  | cons c rest ih =>
    have := ih (pos + c.len)
    have := blockBytes_size_ge x pos rest.isEmpty c
    rw [serializeBlocks_cons, ByteArray.size_append, List.length_cons]
    omega

theorem Tiles.cons {bsm : Nat} {x : ByteArray} {c : BlockChoice} {rest : List BlockChoice} {pos : Nat} (h : Tiles bsm x (c :: rest) pos) :
    pos + c.len ≤ x.size ∧ c.len ≤ bsm ∧ Tiles bsm x rest (pos + c.len) := by
  cases c with
  | raw n => exact h
  | rle b n => exact ⟨h.1, h.2.1, h.2.2.2⟩

theorem step_block {src x : ByteArray} {cap bsm : Nat} {f : Nat → St → R (ForInStep St)} (hbsm : bsm < 2 ^ 21)
    (hraw : StepRaw src cap bsm f) (hrle : StepRle src cap bsm f) {c : BlockChoice} {rest : List BlockChoice} {pos : Nat}
    (ht : Tiles bsm x (c :: rest) pos) (last : Bool) (i ip rem : Nat) (out : ByteArray) (ent : Block.Entropy)
    (blocks : Array Frame.BlockTrace) (hh : Holds src ip (blockBytes x pos last c)) (hrem : (blockBytes x pos last c).size ≤ rem)
    (hcap : c.len ≤ cap - out.size) :
    ∃ bt : Frame.BlockTrace, bt.hdr.last = last ∧ f i (ip, rem, out, ent, blocks, none) =
      .ok (stepOf last (ip + (blockBytes x pos last c).size, rem - (blockBytes x pos last c).size,
        out ++ x.extract pos (pos + c.len), ent, blocks.push bt, none)) := by
  cases c with
  | raw n =>
    obtain ⟨t1, t2, -⟩ := ht
    have hds : (x.extract pos (pos + n)).size = n := by rw [ByteArray.size_extract]; omega
    have hsz : (blockBytes x pos last (.raw n)).size = 3 + n := by
      rw [blockBytes, noCompressBlock, ByteArray.size_append, blockHeader24_size, hds]
    rw [hsz] at hrem ⊢
    rw [← Nat.add_assoc, ← Nat.sub_sub]
    exact hraw i ip rem out ent blocks last n _ hh hds hrem hcap t2 (by omega)
  | rle b n =>
    obtain ⟨t1, t2, t4, -⟩ := ht
    rw [BlockChoice.len, t4]
    exact hrle i ip rem out ent blocks last n b hh hrem hcap t2 (by omega)

/-- the block loop on serialized raw / RLE blocks stops at the flagged block with exactly the tiled content appended and the blocks'
bytes consumed.  `l` is the list the `for` runs over (only its length matters), `r` the number of input bytes behind the blocks -/
theorem blocks_loop (src x : ByteArray) (cap bsm r : Nat) (f : Nat → St → R (ForInStep St)) (hbsm : bsm < 2 ^ 21)
    (hraw : StepRaw src cap bsm f) (hrle : StepRle src cap bsm f) :
    ∀ (bs : List BlockChoice) (l : List Nat) (pos ip rem : Nat) (out : ByteArray) (ent : Block.Entropy) (blocks : Array Frame.BlockTrace),
      bs ≠ [] → bs.length ≤ l.length → Tiles bsm x bs pos → Holds src ip (serializeBlocks x bs pos) →
      rem = (serializeBlocks x bs pos).size + r → out.size + (x.size - pos) ≤ cap →
      ∃ bl : Array Frame.BlockTrace, bl.back?.map (·.hdr.last) = some true ∧
        forIn l ((ip, rem, out, ent, blocks, none) : St) f =
          .ok (ip + (serializeBlocks x bs pos).size, r, out ++ x.extract pos x.size, ent, bl, none) := by
  intro bs
  induction bs with
  | nil => intro _ _ _ _ _ _ _ h; exact absurd rfl h
  | cons c rest ih =>
    intro l pos ip rem out ent blocks _ hl ht hh hrem hcap
    obtain ⟨i, l', rfl⟩ := List.exists_cons_of_length_pos (Nat.lt_of_lt_of_le (Nat.succ_pos _) hl)
    obtain ⟨t1, t2, t3⟩ := ht.cons
    rw [serializeBlocks_cons] at hh
    rw [serializeBlocks_cons, ByteArray.size_append] at hrem ⊢
    obtain ⟨bt, hbt, hf⟩ := step_block hbsm hraw hrle ht rest.isEmpty i ip rem out ent blocks hh.left (by omega) (by omega)
    cases rest with
    | nil =>
      have hp : pos + c.len = x.size := t3
      refine ⟨blocks.push bt, by simp [hbt], ?_⟩
      rw [forIn_cons_done _ _ _ _ _ hf, hp]
      simp only [serializeBlocks, ByteArray.size_empty, Nat.add_zero] at hrem ⊢
      rw [hrem, Nat.add_sub_cancel_left]
    | cons c2 rest2 =>
      obtain ⟨bl, hb1, hb2⟩ := ih l' (pos + c.len) _ (rem - (blockBytes x pos (c2 :: rest2).isEmpty c).size)
        (out ++ x.extract pos (pos + c.len)) ent (blocks.push bt) (List.cons_ne_nil _ _) (Nat.le_of_succ_le_succ hl) t3 hh.right
        (by omega) (by rw [ByteArray.size_append, ByteArray.size_extract]; omega)
      refine ⟨bl, hb1, ?_⟩
      rw [forIn_cons_yield _ _ _ _ _ hf, hb2, ByteArray.append_assoc, ByteArray.extract_append_extract,
        Nat.min_eq_left (by omega), Nat.max_eq_right t1, Nat.add_assoc]

/-! ### the frame header inside a longer input -/

theorem parseFields_shift (pre s : ByteArray) (p fhd fh : Nat) :
    Frame.parseFields (pre ++ s) (pre.size + p) fhd fh = Frame.parseFields s p fhd fh := by
  unfold Frame.parseFields
  cases (fhd >>> 5) &&& 1 == 1 <;>
    simp only [Bool.false_eq_true, if_false, if_true, Nat.add_assoc, ByteArray.u8_append_right, ByteArray.le16_append_right, ByteArray.le32_append_right,
      ByteArray.le64_append_right]

theorem mk_append_toList (l : List UInt8) (b : ByteArray) : ByteArray.mk (l ++ b.data.toList).toArray = ofList l ++ b := by
  have := ofList_append l b.data.toList
  rwa [ofList_toList] at this

theorem writeHeader_magic (a : HArgs) (rest : List UInt8) :
    a.magicless = true ∨ (ByteArray.mk (writeHeader a ++ rest).toArray).le32 0 = ZSTD_MAGICNUMBER := by
  cases hm : a.magicless
  · rw [writeHeader_eq, magicBytes_of_false a hm, List.append_assoc]
    exact .inr (magic_le32 _)
  · exact .inl rfl

theorem writeHeader_length_ge (a : HArgs) : (if a.magicless then 2 else 6) ≤ (writeHeader a).length := by
  have hm := magicBytes_length a
  have h1 : 1 ≤ (wlBytes a).length + (fcsBytes a).length := by
    rw [wlBytes_length, fcsBytes_length]
    have := fcsCode_lt a
    cases single a
    · exact Nat.le_add_right 1 _
    · match fcsCode a, this with
      | 0, _ | 1, _ | 2, _ | 3, _ => decide
  rw [writeHeader_eq]
  simp only [List.length_append, List.length_cons]
  split <;> rename_i h
  · rw [if_pos h] at hm; omega
  · rw [if_neg h] at hm; omega

/-- `HeaderW.getHeader_writeHeader` transported to any offset of a longer input and to the way `Frame.decompressFrame` calls the parser
(announcing exactly the header size) -/
theorem getHeader_serialized (a : HArgs) (ha : a.wf) {src : ByteArray} {ip : Nat} {rest : ByteArray}
    (h : Holds src ip (ofList (writeHeader a) ++ rest)) :
    ∃ hd, Frame.headerSizeOf (src.u8 (ip + (if a.magicless then 1 else 5) - 1)) a.magicless = (writeHeader a).length ∧
      Frame.getHeader src ip (writeHeader a).length a.magicless = .ok hd ∧ hd.skippable = false ∧
      hd.fcs = (if a.contentSizeFlag then some a.pledged else none) ∧
      hd.windowSize = (if HeaderW.single a then a.pledged else 2 ^ a.windowLog) ∧
      hd.dictID = (if a.noDictID then 0 else a.dictID) ∧ hd.checksum = a.checksum := by
  obtain ⟨pre, post, rfl, rfl⟩ := h
  obtain ⟨hd, g1, g2, g3, g4, g5, g6, -⟩ := getHeader_writeHeader a ha (rest ++ post).data.toList
  have hmg := writeHeader_magic a (rest ++ post).data.toList
  rw [mk_append_toList] at g1 hmg
  obtain ⟨-, -, k4, k5⟩ := getHeader_ok g1 (.inr hmg)
  rw [Nat.zero_add] at k4 k5
  obtain ⟨p1, p2, -⟩ := parseFields_ok k5
  rw [g2] at p1
  rw [ByteArray.append_assoc]
  generalize ofList (writeHeader a) ++ (rest ++ post) = S at *
  have hge := headerSizeOf_ge (S.u8 ((if a.magicless then 1 else 5) - 1)) a.magicless
  have e : (pre ++ S).u8 (pre.size + (if a.magicless then 1 else 5) - 1) = S.u8 ((if a.magicless then 1 else 5) - 1) := by
    cases a.magicless
    · exact ByteArray.u8_append_right pre S 4
    · exact ByteArray.u8_append_right pre S 0
  refine ⟨hd, by rw [e, ← p1], ?_, p2, g3, g4, g5, g6⟩
  rw [getHeader_of_parse (by omega) (hmg.imp id fun c => by rw [← c]; exact ByteArray.le32_append_right pre S 0) (by rw [e, ← p1]; exact Nat.le_refl _)
    (by rw [e]; exact k4), e, parseFields_shift]
  exact k5

theorem getHeader_bsm {src : ByteArray} {start n : Nat} {ml : Bool} {hd : Frame.Header}
    (h : Frame.getHeader src start n ml = .ok hd) (hs : hd.skippable = false) : hd.blockSizeMax = min hd.windowSize ZSTD_BLOCKSIZE_MAX :=
  (parseFields_ok (getHeader_ok h (.inl hs)).2.2.2).2.2.1

/-! ### one serialized frame -/

/-- the blocks the decoder sees: an empty block list gets the empty raw last block of ZSTD_writeEpilogue -/
def effBlocks (bs : List BlockChoice) : List BlockChoice := if bs.isEmpty then [.raw 0] else bs

def checksumBytes (a : HArgs) (x : ByteArray) : ByteArray :=
  if a.checksum then ofList (le4 ((XXH64.hashRange x 0 x.size).toNat &&& 0xFFFFFFFF)) else ByteArray.empty

theorem serializeFrame_eq (a : HArgs) (bs : List BlockChoice) (x : ByteArray) :
    serializeFrame a bs x = ofList (writeHeader a) ++ (serializeBlocks x (effBlocks bs) 0 ++ checksumBytes a x) := by
  unfold serializeFrame epilogue effBlocks checksumBytes
  cases bs with
  | nil =>
    simp only [List.isEmpty_nil, if_true, serializeBlocks, noCompressBlock, ByteArray.empty_append, ByteArray.extract_same, ByteArray.append_empty]
  | cons c rest =>
    simp only [List.isEmpty_cons, Bool.false_eq_true, if_false, ByteArray.empty_append]

theorem tiles_effBlocks {bsm : Nat} {x : ByteArray} {bs : List BlockChoice} (h : Tiles bsm x bs 0) : Tiles bsm x (effBlocks bs) 0 := by
  cases bs with
  | nil => exact ⟨Nat.le_of_eq h, Nat.zero_le _, h⟩
  | cons c rest => exact h

theorem effBlocks_ne (bs : List BlockChoice) : effBlocks bs ≠ [] := by
  cases bs <;> exact List.cons_ne_nil _ _

theorem checksumBytes_size (a : HArgs) (x : ByteArray) : (checksumBytes a x).size = if a.checksum then 4 else 0 := by
  unfold checksumBytes
  cases a.checksum <;> rfl

/-- the largest block the decoder accepts for a frame written with `a`: min(Window_Size, 128 KiB) -/
def blockSizeMaxOf (a : HArgs) : Nat := min (if single a then a.pledged else 2 ^ a.windowLog) ZSTD_BLOCKSIZE_MAX

/-- the frame skeleton: a serialized header, bytes `blk` on which the decoder's block loop stops behind a last block with exactly `x`
appended and `blk` consumed, the checksum field.  Frames with further block kinds only have to supply the loop. -/
theorem decompressFrame_of_blocks (a : HArgs) (ha : a.wf) (dict : Frame.Dict)
    (hnd : a.noDictID = true ∨ a.dictID = 0 ∨ a.dictID = dict.id) (x blk : ByteArray)
    (hfcs : a.contentSizeFlag = true → a.pledged = x.size) (hblk : 3 ≤ blk.size)
    {src : ByteArray} {ip0 : Nat} (r : Nat) (hsrc : Holds src ip0 (ofList (writeHeader a) ++ (blk ++ checksumBytes a x)))
    (out0 : ByteArray) (cap : Nat) (o : Frame.Opts) (hml : o.magicless = a.magicless) (hmb : o.maxBlockSize = 0)
    (hloop : ∃ (bl : Array Frame.BlockTrace) (ent2 : Block.Entropy), bl.back?.map (·.hdr.last) = some true ∧
      forIn (List.range' 0 ((writeHeader a).length + (blk.size + (checksumBytes a x).size) + r))
        ((ip0 + (writeHeader a).length, blk.size + ((checksumBytes a x).size + r), out0, dict.ent, #[], none) : St)
        (fun _ => blockStep src dict.content out0.size cap (blockSizeMaxOf a)) =
      .ok (ip0 + (writeHeader a).length + blk.size, (checksumBytes a x).size + r, out0 ++ x, ent2, bl, none)) :
    ∃ tr, Frame.decompressFrame src ip0 ((writeHeader a).length + (blk.size + (checksumBytes a x).size) + r) dict out0 cap o =
      .ok (out0 ++ x, (writeHeader a).length + (blk.size + (checksumBytes a x).size), tr) := by
  obtain ⟨hd, g0, g1, hsk, gfcs, gws, gdid, gck⟩ := getHeader_serialized a ha hsrc
  have hfh : fhSizeAt src ip0 o = (writeHeader a).length := by
    rw [← g0, fhSizeAt, hml]; cases a.magicless <;> rfl
  have gbsm : bsmOf o hd = blockSizeMaxOf a := by
    rw [bsmOf, hmb, getHeader_bsm g1 hsk, gws]; rfl
  have hH := writeHeader_length_ge a
  have hC := checksumBytes_size a x
  have hckb := hsrc.right.right
  rw [size_ofList] at hckb
  obtain ⟨bl, ent2, hb1, hloop⟩ := hloop
  generalize (writeHeader a).length = H at *
  generalize blk.size = B at *
  generalize (checksumBytes a x).size = C at *
  have hused : ip0 + H + B + (if hd.checksum then 4 else 0) - ip0 = H + (B + C) := by rw [gck, hC]; split <;> omega
  have hdid : (hd.dictID != 0 && dict.id != hd.dictID) = false := by
    rw [gdid]
    rcases hnd with h | h | h
    · rw [h]; rfl
    · rw [h, ite_self]; rfl
    · cases a.noDictID
      · rw [h, if_neg Bool.false_ne_true, bne_self_eq_false, Bool.and_false]
      · rfl
  have hx : (out0 ++ x).size - out0.size = x.size := by rw [ByteArray.size_append]; omega
  suffices key : ∃ tr, Frame.decompressFrame src ip0 (H + (B + C) + r) dict out0 cap o =
      .ok (out0 ++ x, ip0 + H + B + (if hd.checksum then 4 else 0) - ip0, tr) by rwa [hused] at key
  refine ⟨_, decompressFrame_ok_iff.2 ⟨by rw [hml]; omega, by omega, hd, _, by rw [hfh, hml]; exact g1, hsk, hdid,
    by rw [hfh, gbsm, show H + (B + C) + r - H = B + (C + r) by omega]; exact hloop,
    frameEnd_ok_iff.2 ⟨by rw [lastSeen, hb1]; rfl, ?_, ?_, rfl, rfl⟩⟩⟩
  · intro n hn
    rw [gfcs] at hn
    cases hcs : a.contentSizeFlag
    · rw [hcs] at hn; cases hn
    · rw [hcs] at hn; cases hn; rw [hx, hfcs hcs]
  · intro hk
    rw [gck] at hk
    rw [if_pos hk] at hC
    refine ⟨by omega, fun _ => ?_⟩
    unfold checksumBytes at hckb
    rw [if_pos hk] at hckb
    rw [hckb.le32 (by rw [size_ofList]; exact Nat.le_refl 4), hx, ← Nat.add_zero out0.size, hashRange_shift]
    exact le32_le4 _ (Nat.lt_succ_of_le Nat.and_le_right)

theorem decompressFrame_serialized (a : HArgs) (ha : a.wf) (hnd : a.noDictID = true ∨ a.dictID = 0)
    (bs : List BlockChoice) (x : ByteArray) (hfcs : a.contentSizeFlag = true → a.pledged = x.size)
    (ht : Tiles (blockSizeMaxOf a) x bs 0)
    {src : ByteArray} {ip0 : Nat} (r : Nat) (hsrc : Holds src ip0 (serializeFrame a bs x))
    (dict : Frame.Dict) (out0 : ByteArray) (cap : Nat) (hcap : out0.size + x.size ≤ cap)
    (o : Frame.Opts) (hml : o.magicless = a.magicless) (hmb : o.maxBlockSize = 0) :
    ∃ tr, Frame.decompressFrame src ip0 ((serializeFrame a bs x).size + r) dict out0 cap o =
      .ok (out0 ++ x, (serializeFrame a bs x).size, tr) := by
  rw [serializeFrame_eq] at hsrc ⊢
  have htl := tiles_effBlocks ht
  have hne := effBlocks_ne bs
  generalize effBlocks bs = bs' at hsrc htl hne ⊢
  have hS := serializeBlocks_size_ge x bs' 0
  have hlen : 1 ≤ bs'.length := List.length_pos_iff.2 hne
  have hblk := hsrc.right.left
  rw [size_ofList] at hblk
  rw [ByteArray.size_append, ByteArray.size_append, size_ofList]
  refine decompressFrame_of_blocks a ha dict (hnd.imp_right .inl) x _ hfcs (by omega) r hsrc out0 cap o hml hmb ?_
  obtain ⟨bl, hb1, hloop⟩ := blocks_loop src x cap (blockSizeMaxOf a) ((checksumBytes a x).size + r)
    (fun _ => blockStep src dict.content out0.size cap (blockSizeMaxOf a)) (Nat.lt_of_le_of_lt (Nat.min_le_right _ _) (by decide))
    (blockStep_stepRaw _ _ _ _ _) (blockStep_stepRle _ _ _ _ _) bs'
    (List.range' 0 ((writeHeader a).length + ((serializeBlocks x bs' 0).size + (checksumBytes a x).size) + r)) 0 _ _ out0 dict.ent #[]
    hne (by rw [List.length_range']; omega) htl hblk rfl (by omega)
  rw [x.extract_zero_size] at hloop
  exact ⟨bl, dict.ent, hb1, hloop⟩

/-! ### sequences of frames (ZSTD_decompressMultiFrame) -/

inductive Segment where
  | frame (a : HArgs) (bs : List BlockChoice) (x : ByteArray)
  | skip (variant : Nat) (payload : ByteArray)

def Segment.bytes : Segment → ByteArray
  | .frame a bs x => serializeFrame a bs x
  | .skip v p => skippableFrame v p

def Segment.content : Segment → ByteArray
  | .frame _ _ x => x
  | .skip _ _ => ByteArray.empty

def serializeSegs : List Segment → ByteArray
  | [] => ByteArray.empty
  | s :: rest => s.bytes ++ serializeSegs rest

def contentOf : List Segment → ByteArray
  | [] => ByteArray.empty
  | s :: rest => s.content ++ contentOf rest

/-- hypotheses on one frame: accepted header arguments, no dictionary ID written, magic number present, truthful content size, blocks tile
the content -/
def FrameOK (a : HArgs) (bs : List BlockChoice) (x : ByteArray) : Prop :=
  a.wf ∧ (a.noDictID = true ∨ a.dictID = 0) ∧ a.magicless = false ∧ (a.contentSizeFlag = true → a.pledged = x.size) ∧
    Tiles (blockSizeMaxOf a) x bs 0

def SegOK : Segment → Prop
  | .frame a bs x => FrameOK a bs x
  | .skip v p => v < 16 ∧ p.size + 8 < 2 ^ 32

theorem serializeFrame_size_ge (a : HArgs) (bs : List BlockChoice) (x : ByteArray) : 5 ≤ (serializeFrame a bs x).size := by
  have h1 := writeHeader_length_ge a
  have h2 := serializeBlocks_size_ge x (effBlocks bs) 0
  have h3 : 1 ≤ (effBlocks bs).length := List.length_pos_iff.2 (effBlocks_ne bs)
  rw [serializeFrame_eq, ByteArray.size_append, ByteArray.size_append, size_ofList]
  split at h1 <;> omega

theorem skippableFrame_size (v : Nat) (p : ByteArray) : (skippableFrame v p).size = p.size + 8 := by
  unfold skippableFrame
  rw [ByteArray.size_append, size_ofList, Nat.add_comm]
  rfl

theorem serializeSegs_size_ge (segs : List Segment) : segs.length ≤ (serializeSegs segs).size := by
  induction segs with
  | nil => exact Nat.zero_le _
  | cons s rest ih =>
    rw [serializeSegs, ByteArray.size_append, List.length_cons]
    cases s with
    | frame a bs x => have := serializeFrame_size_ge a bs x; rw [Segment.bytes]; omega
    | skip v p => rw [Segment.bytes, skippableFrame_size]; omega

theorem header_magic {src : ByteArray} {ip : Nat} {a : HArgs} {rest : ByteArray} (h : Holds src ip (ofList (writeHeader a) ++ rest))
    (hm : a.magicless = false) : src.le32 ip = ZSTD_MAGICNUMBER := by
  have h6 := writeHeader_length_ge a
  rw [hm] at h6
  rw [h.le32 (by rw [ByteArray.size_append, size_ofList]; exact Nat.le_trans (by decide) (Nat.le_add_right_of_le h6)), ← mk_append_toList]
  exact (writeHeader_magic a _).resolve_left (by rw [hm]; exact Bool.false_ne_true)

theorem skip_magic_facts : ∀ v, v < 16 →
    Frame.isLegacyMagic (ZSTD_MAGIC_SKIPPABLE_START + v) = false ∧
    ((ZSTD_MAGIC_SKIPPABLE_START + v) &&& ZSTD_MAGIC_SKIPPABLE_MASK == ZSTD_MAGIC_SKIPPABLE_START) = true := by
  decide

theorem skip_reads {src : ByteArray} {ip v : Nat} {p : ByteArray} (h : Holds src ip (skippableFrame v p)) (hv : v < 16)
    (hp : p.size < 2 ^ 32) : src.le32 ip = ZSTD_MAGIC_SKIPPABLE_START + v ∧ src.le32 (ip + 4) = p.size := by
  unfold skippableFrame at h
  rw [ofList_append, ByteArray.append_assoc] at h
  have h4 : ∀ n, (ofList (le4 n)).size = 4 := fun _ => rfl
  have h2 := h.right.left
  rw [h4] at h2
  rw [h.left.le32 (Nat.le_of_eq (h4 _).symm), h2.le32 (Nat.le_of_eq (h4 _).symm)]
  exact ⟨le32_le4 _ (by simp only [ZSTD_MAGIC_SKIPPABLE_START]; omega), le32_le4 _ hp⟩

section Loop
variable {src : ByteArray} {dict : Frame.Dict} {cap : Nat} {o : Frame.Opts} (hml : o.magicless = false) (hmb : o.maxBlockSize = 0)

theorem frameStep_skip {ip rem : Nat} {out : ByteArray} {trs : Array Frame.FrameTrace} {more : Bool} {v : Nat} {p : ByteArray}
    (hh : Holds src ip (skippableFrame v p)) (hv : v < 16) (hp : p.size + 8 < 2 ^ 32) (hrem : p.size + 8 ≤ rem) :
    ∃ t, frameStep src dict cap o (ip, rem, out, trs, more) =
      .ok (.yield (ip + (p.size + 8), rem - (p.size + 8), out, trs.push t, more)) := by
  obtain ⟨m1, m2⟩ := skip_reads hh hv (by omega)
  obtain ⟨f1, f2⟩ := skip_magic_facts v hv
  rw [frameStep, if_neg (by omega), m1, f1, f2, if_neg Bool.false_ne_true, if_pos rfl, Frame.skippableSize, m2]
  simp only [show ZSTD_SKIPPABLEHEADERSIZE = 8 from rfl]
  rw [if_neg (by omega), if_neg (by omega), if_neg (by omega)]
  exact ⟨_, rfl⟩

include hml hmb

theorem frameStep_frame {ip r : Nat} {out : ByteArray} {trs : Array Frame.FrameTrace} {more : Bool} {a : HArgs} {bs : List BlockChoice}
    {x : ByteArray} (hh : Holds src ip (serializeFrame a bs x)) (hok : FrameOK a bs x) (hcap : out.size + x.size ≤ cap) :
    ∃ t, frameStep src dict cap o (ip, (serializeFrame a bs x).size + r, out, trs, more) =
      .ok (.yield (ip + (serializeFrame a bs x).size, r, out ++ x, trs.push t, true)) := by
  obtain ⟨k1, k2, k3, k4, k5⟩ := hok
  obtain ⟨tr, hdf⟩ := decompressFrame_serialized a k1 k2 bs x k4 k5 r hh dict out cap hcap o (by rw [hml, k3]) hmb
  have h5 := serializeFrame_size_ge a bs x
  rw [frameStep, if_neg (by omega), header_magic hh k3, if_neg (by decide), if_neg (by decide), hdf]
  exact ⟨tr, by dsimp only; rw [Nat.add_sub_cancel_left]⟩

theorem segs_loop : ∀ (segs : List Segment) (l : List Nat) (ip : Nat) (out : ByteArray) (trs : Array Frame.FrameTrace) (more : Bool),
    segs.length < l.length → (∀ s ∈ segs, SegOK s) → Holds src ip (serializeSegs segs) → out.size + (contentOf segs).size ≤ cap →
    ∃ trs' more', forIn l ((ip, (serializeSegs segs).size, out, trs, more) : StA) (fun _ => frameStep src dict cap o) =
      .ok (ip + (serializeSegs segs).size, 0, out ++ contentOf segs, trs', more') := by
  intro segs
  induction segs with
  | nil =>
    intro l ip out trs more hl _ _ _
    obtain ⟨i, l', rfl⟩ := List.exists_cons_of_length_pos hl
    refine ⟨trs, more, ?_⟩
    rw [serializeSegs, contentOf, ByteArray.size_empty, ByteArray.append_empty, Nat.add_zero]
    exact forIn_cons_done _ _ _ _ _ (by rw [frameStep, if_pos (by decide)])
  | cons s rest ih =>
    intro l ip out trs more hl hok hh hcap
    obtain ⟨i, l', rfl⟩ := List.exists_cons_of_length_pos (Nat.zero_lt_of_lt hl)
    have hl' : rest.length < l'.length := Nat.lt_of_succ_lt_succ hl
    have hrest : ∀ s ∈ rest, SegOK s := fun s hs => hok s (List.mem_cons_of_mem _ hs)
    have hs := hok s List.mem_cons_self
    cases s with
    | frame a bs x =>
      simp only [serializeSegs, contentOf, Segment.bytes, Segment.content, ByteArray.size_append] at hh hcap ⊢
      obtain ⟨t, ht⟩ := frameStep_frame hml hmb (dict := dict) (cap := cap) (out := out) (trs := trs) (more := more)
        (r := (serializeSegs rest).size) hh.left hs (by omega)
      obtain ⟨trs', more', hr⟩ := ih l' (ip + (serializeFrame a bs x).size) (out ++ x) (trs.push t) true hl' hrest hh.right
        (by rw [ByteArray.size_append]; omega)
      exact ⟨trs', more', by
        rw [forIn_cons_yield i l' (fun _ => frameStep src dict cap o) _ _ ht, hr, ByteArray.append_assoc, Nat.add_assoc]⟩
    | skip v p =>
      simp only [serializeSegs, contentOf, Segment.bytes, Segment.content, ByteArray.size_append, skippableFrame_size,
        ByteArray.empty_append] at hh hcap ⊢
      have hr' := hh.right
      rw [skippableFrame_size] at hr'
      obtain ⟨t, ht⟩ := frameStep_skip (dict := dict) (o := o) (cap := cap) (out := out) (trs := trs) (more := more) hh.left hs.1 hs.2
        (Nat.le_add_right _ (serializeSegs rest).size)
      obtain ⟨trs', more', hr⟩ := ih l' (ip + (p.size + 8)) out (trs.push t) more hl' hrest hr' hcap
      exact ⟨trs', more', by
        rw [forIn_cons_yield i l' (fun _ => frameStep src dict cap o) _ _ ht, Nat.add_sub_cancel_left, hr, Nat.add_assoc]⟩

end Loop

/-- **multi-frame round trip**: ZSTD_decompress (ZSTD_decompressMultiFrame) applied to any concatenation of serialized raw / RLE frames
(checksums allowed everywhere) and skippable frames (any of the 16 magic variants) returns the concatenation of the frame contents -/
theorem multi_frame_roundtrip (segs : List Segment) (hok : ∀ s ∈ segs, SegOK s) (dict : Frame.Dict) (cap : Nat)
    (hcap : (contentOf segs).size ≤ cap) (o : Frame.Opts) (hml : o.magicless = false) (hmb : o.maxBlockSize = 0) :
    ∃ traces, Frame.decompressAll (serializeSegs segs) dict cap o = .ok (contentOf segs, traces) := by
  obtain ⟨trs, more, h⟩ := segs_loop hml hmb (src := serializeSegs segs) (dict := dict) (cap := cap) segs
    (List.range' 0 ((serializeSegs segs).size + 1)) 0 ByteArray.empty #[] false
    (by rw [List.length_range']; exact Nat.lt_succ_of_le (serializeSegs_size_ge segs)) hok (holds_self _)
    (by rw [ByteArray.size_empty, Nat.zero_add]; exact hcap)
  rw [Nat.zero_add, ByteArray.empty_append] at h
  exact ⟨trs, (decompressAll_ok_iff hml).2 ⟨_, more, h⟩⟩

/-! ### single frames -/

theorem contentOf_single (a : HArgs) (bs : List BlockChoice) (x : ByteArray) : contentOf [.frame a bs x] = x :=
  ByteArray.append_empty

theorem serializeSegs_single (a : HArgs) (bs : List BlockChoice) (x : ByteArray) : serializeSegs [.frame a bs x] = serializeFrame a bs x :=
  ByteArray.append_empty

/-- **frame round trip, any raw / RLE block decisions** that tile `x` with blocks of at most min(Window_Size, 128 KiB) bytes: for every
accepted header-argument tuple, capacity that can hold `x`, dictionary loaded in the decoder, with or without checksum verification -/
theorem frame_roundtrip_blocks (a : HArgs) (bs : List BlockChoice) (x : ByteArray) (hok : FrameOK a bs x)
    (dict : Frame.Dict) (cap : Nat) (hcap : x.size ≤ cap) (o : Frame.Opts) (hml : o.magicless = false) (hmb : o.maxBlockSize = 0) :
    ∃ traces, Frame.decompressAll (serializeFrame a bs x) dict cap o = .ok (x, traces) := by
  have h := multi_frame_roundtrip [.frame a bs x] (fun s hs => by rw [List.mem_singleton.1 hs]; exact hok) dict cap
    (by rw [contentOf_single]; exact hcap) o hml hmb
  rwa [contentOf_single, serializeSegs_single] at h

theorem tiles_rawBlocksFuel (bsm bsz : Nat) (x : ByteArray) (h1 : 1 ≤ bsz) (hb : ∀ n, n ≤ bsz → n ≤ x.size → n ≤ bsm) :
    ∀ (fuel remaining pos : Nat), remaining ≤ fuel → pos + remaining = x.size → Tiles bsm x (rawBlocksFuel bsz fuel remaining) pos := by
  intro fuel
  induction fuel with
  | zero =>
    intro remaining pos hf hp
    simp only [rawBlocksFuel, Tiles]; omega
  | succ k ih =>
    intro remaining pos hf hp
    unfold rawBlocksFuel
    by_cases h0 : remaining = 0
    · rw [if_pos h0]; simp only [Tiles]; omega
    · rw [if_neg h0]
      have hm : min bsz remaining ≤ remaining := Nat.min_le_right _ _
      have hm1 : 1 ≤ min bsz remaining := by rw [Nat.le_min]; omega
      exact ⟨by omega, hb _ (Nat.min_le_left _ _) (by omega), ih _ _ (by omega) (by omega)⟩

theorem blockSize_bounds (a : HArgs) : 1 ≤ blockSize a ∧ blockSize a ≤ ZSTD_BLOCKSIZE_MAX ∧ blockSize a ≤ 2 ^ a.windowLog := by
  have hp : 1 ≤ 2 ^ a.windowLog := Nat.one_le_two_pow
  unfold blockSize
  simp only [ZSTD_BLOCKSIZE_MAX]
  omega

theorem frameOK_rawBlocks (a : HArgs) (ha : a.wf) (hnd : a.noDictID = true ∨ a.dictID = 0) (hm : a.magicless = false)
    (x : ByteArray) (hp : a.contentSizeFlag = true → a.pledged = x.size) (bsz : Nat) (h1 : 1 ≤ bsz)
    (h2 : bsz ≤ ZSTD_BLOCKSIZE_MAX) (h3 : bsz ≤ 2 ^ a.windowLog) : FrameOK a (rawBlocks bsz x.size) x := by
  refine ⟨ha, hnd, hm, hp, tiles_rawBlocksFuel _ bsz x h1 (fun n hn hx => ?_) _ _ _ (Nat.le_refl _) (Nat.zero_add _)⟩
  unfold blockSizeMaxOf
  rw [Nat.le_min]
  refine ⟨?_, by omega⟩
  split
  · -- a single-segment frame announces its content size as window
    rename_i hs
    rw [hp (Bool.and_eq_true_iff.1 hs).1]; exact hx
  · omega

theorem frame_roundtrip_rawWith (a : HArgs) (ha : a.wf) (hnd : a.noDictID = true ∨ a.dictID = 0) (hm : a.magicless = false)
    (x : ByteArray) (hp : a.contentSizeFlag = true → a.pledged = x.size) (bsz : Nat) (h1 : 1 ≤ bsz)
    (h2 : bsz ≤ ZSTD_BLOCKSIZE_MAX) (h3 : bsz ≤ 2 ^ a.windowLog)
    (dict : Frame.Dict) (cap : Nat) (hcap : x.size ≤ cap) (o : Frame.Opts) (hml : o.magicless = false) (hmb : o.maxBlockSize = 0) :
    ∃ traces, Frame.decompressAll (rawFrameWith a bsz x) dict cap o = .ok (x, traces) :=
  frame_roundtrip_blocks a _ x (frameOK_rawBlocks a ha hnd hm x hp bsz h1 h2 h3) dict cap hcap o hml hmb

/-- **the total fallback round-trips** (C01 "decode(compress(x)) = x" for whole frames): ZSTD_decompress applied to the frame that emits
every block raw (`rawFrame`: ZSTD_writeFrameHeader, ZSTD_noCompressBlock per block of ZSTD_compress_frameChunk, ZSTD_writeEpilogue)
returns `x`, for every input (no size bound beyond the 64-bit content-size field), every window log 10..31, with or without checksum
and content size, dictionary ID absent, magic number present -/
theorem frame_roundtrip_raw (a : HArgs) (ha : a.wf) (hnd : a.noDictID = true ∨ a.dictID = 0) (hm : a.magicless = false)
    (x : ByteArray) (hp : a.contentSizeFlag = true → a.pledged = x.size)
    (dict : Frame.Dict) (cap : Nat) (hcap : x.size ≤ cap) (o : Frame.Opts) (hml : o.magicless = false) (hmb : o.maxBlockSize = 0) :
    ∃ traces, Frame.decompressAll (rawFrame a x) dict cap o = .ok (x, traces) :=
  have hb := blockSize_bounds a
  frame_roundtrip_rawWith a ha hnd hm x hp (blockSize a) hb.1 hb.2.1 hb.2.2 dict cap hcap o hml hmb

/-! ### non-vacuity -/

/-- empty input, content size and checksum on: one empty raw last block -/
example : ∃ tr, Frame.decompressAll (rawFrame ⟨17, 0, true, 0, false, true, false⟩ ByteArray.empty) {} 0 {} = .ok (ByteArray.empty, tr) :=
  frame_roundtrip_raw _ (by unfold HArgs.wf; decide) (Or.inr rfl) rfl _ (fun _ => rfl) {} 0 (Nat.le_refl _) {} rfl rfl

/-- one byte, checksum on, no content size (windowed frame) -/
example : ∃ tr, Frame.decompressAll (rawFrame ⟨10, 0, false, 0, false, true, false⟩ (ofList [0x41])) {} 1 {} = .ok (ofList [0x41], tr) :=
  frame_roundtrip_raw _ (by unfold HArgs.wf; decide) (Or.inr rfl) rfl _ (fun h => by cases h) {} 1 (Nat.le_refl _) {} rfl rfl

/-! the serializer evaluated on three small inputs: magic, frame header, 3-byte block headers, bodies (tools/ent_frame.py ties the
serializer to the library byte for byte) -/

example : (rawFrame ⟨17, 1, true, 0, false, false, false⟩ (ofList [0x41])).data = #[0x28, 0xB5, 0x2F, 0xFD, 0x20, 0x01, 0x09, 0x00, 0x00, 0x41] := by
  decide

example : (rawFrame ⟨17, 0, true, 0, false, false, false⟩ ByteArray.empty).data = #[0x28, 0xB5, 0x2F, 0xFD, 0x20, 0x00, 0x01, 0x00, 0x00] := by
  decide

example : (serializeFrame ⟨10, 0, false, 0, false, false, false⟩ [.rle 7 5, .raw 1] (ofList [7, 7, 7, 7, 7, 9])).data =
    #[0x28, 0xB5, 0x2F, 0xFD, 0x00, 0x00, 0x2A, 0x00, 0x00, 0x07, 0x09, 0x00, 0x00, 0x09] := by
  decide

example : FrameOK ⟨10, 0, false, 0, false, false, false⟩ [.rle 7 5, .raw 1] (ofList [7, 7, 7, 7, 7, 9]) := by
  refine ⟨by unfold HArgs.wf; decide, Or.inr rfl, rfl, (fun h => by cases h), ?_⟩
  simp only [Tiles]
  decide

theorem sampleSegs_ok : ∀ s ∈ [Segment.frame ⟨10, 1, true, 0, false, false, false⟩ [.raw 1] (ofList [1]), .skip 3 (ofList [9, 9]),
    .frame ⟨10, 0, false, 0, false, true, false⟩ [.rle 7 2] (ofList [7, 7])], SegOK s := by
  intro s hs
  simp only [List.mem_cons, List.mem_nil_iff, or_false] at hs
  rcases hs with rfl | rfl | rfl
  · exact ⟨by unfold HArgs.wf; decide, Or.inr rfl, rfl, (fun _ => rfl), by simp only [Tiles]; decide⟩
  · exact ⟨by decide, by decide⟩
  · exact ⟨by unfold HArgs.wf; decide, Or.inr rfl, rfl, (fun h => by cases h), by simp only [Tiles]; decide⟩

/-- two frames (the second with checksum) around a skippable frame -/
example : ∃ tr, Frame.decompressAll (serializeSegs [.frame ⟨10, 1, true, 0, false, false, false⟩ [.raw 1] (ofList [1]), .skip 3 (ofList [9, 9]),
      .frame ⟨10, 0, false, 0, false, true, false⟩ [.rle 7 2] (ofList [7, 7])]) {} 3 {} = .ok (ofList [1] ++ (ByteArray.empty ++ (ofList [7, 7] ++ ByteArray.empty)), tr) :=
  multi_frame_roundtrip _ sampleSegs_ok {} 3 (by decide) {} rfl rfl

end ZstdVerif.FrameRT
