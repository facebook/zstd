/-
Round trip of the frame header: the decoder-side parser (Model/Frame.getHeader) applied to what the writer model (Model/HeaderW,
tied to ZSTD_writeFrameHeader) emits gives back the fields that went in.  The writer's output is cut into its five fields
(`writeHeader_eq`); each field is read back by its own lemma at the position `A.length` behind whatever prefix `A` precedes it, so
the descriptor shapes (4 dictionary-ID widths, 5 content-size shapes, magic, window byte) never multiply.
-/
import ZstdVerif.Model.HeaderW
import ZstdVerif.Lemmas.Bytes
import ZstdVerif.Lemmas.FrameAnatomy
namespace ZstdVerif.HeaderW
open ZstdVerif ZstdVerif.Gen
open ByteArray (u8_mk u8_mk_append)

theorem byte_toNat (n : Nat) : (byte n).toNat = n % 256 := by
  simp [byte]

/-! ### reading a field that sits behind a prefix `A` -/

theorem u8_cons_zero (b : UInt8) (B : List UInt8) : (ByteArray.mk (b :: B).toArray).u8 0 = b.toNat := by
  rw [u8_mk]; rfl

theorem u8_cons_succ (b : UInt8) (B : List UInt8) (i : Nat) :
    (ByteArray.mk (b :: B).toArray).u8 (i + 1) = (ByteArray.mk B.toArray).u8 i := by
  rw [u8_mk, u8_mk]; rfl

theorem le16_le2 (n : Nat) (B : List UInt8) : (ByteArray.mk (le2 n ++ B).toArray).le16 0 = n % 65536 := by
  unfold ByteArray.le16 le2
  simp only [List.cons_append, u8_cons_zero, u8_cons_succ, byte_toNat, Nat.shiftLeft_eq]
  omega

theorem le32_le4 (n : Nat) (B : List UInt8) : (ByteArray.mk (le4 n ++ B).toArray).le32 0 = n % 4294967296 := by
  unfold ByteArray.le32 le4
  simp only [List.cons_append, u8_cons_zero, u8_cons_succ, byte_toNat, Nat.shiftLeft_eq]
  omega

variable {L A B : List UInt8} {p : Nat}

theorem u8_at (n : Nat) (hL : L = A ++ (byte n :: B)) (hp : p = A.length) : (ByteArray.mk L.toArray).u8 p = n % 256 := by
  subst hL hp
  have := u8_mk_append A (byte n :: B) 0
  rw [Nat.add_zero] at this
  rw [this, u8_cons_zero, byte_toNat]

theorem le16_at (n : Nat) (hL : L = A ++ (le2 n ++ B)) (hp : p = A.length) : (ByteArray.mk L.toArray).le16 p = n % 65536 := by
  subst hL hp
  rw [← Nat.add_zero A.length, ByteArray.le16_mk_append, le16_le2]

theorem le32_at (n : Nat) (hL : L = A ++ (le4 n ++ B)) (hp : p = A.length) : (ByteArray.mk L.toArray).le32 p = n % 4294967296 := by
  subst hL hp
  rw [← Nat.add_zero A.length, ByteArray.le32_mk_append, le32_le4]

theorem le64_at (n : Nat) (hL : L = A ++ (le8 n ++ B)) (hp : p = A.length) :
    (ByteArray.mk L.toArray).le64 p = n % 18446744073709551616 := by
  have h1 := le32_at (L := L) (B := le4 (n / 4294967296) ++ B) n (by rw [hL, le8, List.append_assoc]) hp
  have h2 := le32_at (L := L) (A := A ++ le4 n) (B := B) (p := p + 4) (n / 4294967296) (by rw [hL, le8, List.append_assoc, List.append_assoc])
    (by rw [hp, List.length_append]; rfl)
  unfold ByteArray.le64
  rw [h1, h2, Nat.shiftLeft_eq]
  omega

/-! ### the writer's layout -/

/-- dictionary-ID field of `writeHeader` -/
def didBytes (a : HArgs) : List UInt8 :=
  match dictCode a with
  | 0 => []
  | 1 => [byte a.dictID]
  | 2 => le2 a.dictID
  | _ => le4 a.dictID

/-- content-size field of `writeHeader` -/
def fcsBytes (a : HArgs) : List UInt8 :=
  match fcsCode a with
  | 0 => if single a then [byte a.pledged] else []
  | 1 => le2 (a.pledged - 256)
  | 2 => le4 a.pledged
  | _ => le8 a.pledged

def magicBytes (a : HArgs) : List UInt8 := if a.magicless then [] else le4 ZSTD_MAGICNUMBER
def wlBytes (a : HArgs) : List UInt8 := if single a then [] else [byte ((a.windowLog - ZSTD_WINDOWLOG_ABSOLUTEMIN) * 8)]

theorem writeHeader_eq (a : HArgs) :
    writeHeader a = magicBytes a ++ (byte (descriptor a) :: (wlBytes a ++ (didBytes a ++ fcsBytes a))) := by
  simp only [writeHeader, magicBytes, wlBytes, didBytes, fcsBytes, List.append_assoc, List.cons_append, List.nil_append]
  rfl

theorem dictCode_lt (a : HArgs) : dictCode a < 4 := by
  unfold dictCode; repeat' split
  all_goals omega
theorem fcsCode_lt (a : HArgs) : fcsCode a < 4 := by
  unfold fcsCode; repeat' split
  all_goals omega

/-- the descriptor byte's bit fields, over all 4 x 4 x 2 x 2 values they can take -/
theorem descriptor_fields : ∀ dc < 4, ∀ fc < 4, ∀ ck sg : Bool,
    let d := dc + (if ck then 4 else 0) + (if sg then 32 else 0) + fc * 64
    d < 256 ∧ d &&& 3 = dc ∧ ((d >>> 2) &&& 1 == 1) = ck ∧ ((d >>> 5) &&& 1 == 1) = sg ∧ d >>> 6 = fc ∧ d &&& 8 = 0 ∧
      (d >>> 5) &&& 1 = (if sg then 1 else 0) := by
  decide

theorem descriptor_decode (a : HArgs) :
    descriptor a < 256 ∧ descriptor a &&& 3 = dictCode a ∧ ((descriptor a >>> 2) &&& 1 == 1) = a.checksum ∧
      ((descriptor a >>> 5) &&& 1 == 1) = single a ∧ descriptor a >>> 6 = fcsCode a ∧ descriptor a &&& 8 = 0 ∧
      (descriptor a >>> 5) &&& 1 = (if single a then 1 else 0) :=
  descriptor_fields _ (dictCode_lt a) _ (fcsCode_lt a) a.checksum (single a)

theorem magicBytes_length (a : HArgs) : (magicBytes a).length + 1 = if a.magicless then 1 else 5 := by
  unfold magicBytes; cases a.magicless <;> rfl

theorem wlBytes_length (a : HArgs) : (wlBytes a).length = if single a then 0 else 1 := by
  unfold wlBytes; cases single a <;> rfl

theorem didBytes_length (a : HArgs) : (didBytes a).length = ZSTD_did_fieldSize.getD (dictCode a) 0 := by
  have := dictCode_lt a
  unfold didBytes
  match dictCode a, this with
  | 0, _ | 1, _ | 2, _ | 3, _ => rfl

theorem fcsBytes_length (a : HArgs) :
    (fcsBytes a).length = ZSTD_fcs_fieldSize.getD (fcsCode a) 0 + if single a && fcsCode a == 0 then 1 else 0 := by
  have := fcsCode_lt a
  unfold fcsBytes
  match fcsCode a, this with
  | 0, _ => cases single a <;> rfl
  | 1, _ | 2, _ | 3, _ => cases single a <;> rfl


theorem wl_byte (wl : Nat) (h1 : ZSTD_WINDOWLOG_ABSOLUTEMIN ≤ wl) (h2 : wl ≤ ZSTD_WINDOWLOG_MAX) :
    (((wl - ZSTD_WINDOWLOG_ABSOLUTEMIN) * 8 % 256) >>> 3) + ZSTD_WINDOWLOG_ABSOLUTEMIN = wl ∧
      ((wl - ZSTD_WINDOWLOG_ABSOLUTEMIN) * 8 % 256) &&& 7 = 0 := by
  unfold ZSTD_WINDOWLOG_ABSOLUTEMIN ZSTD_WINDOWLOG_MAX at *
  have h7 : (wl - 10) * 8 % 256 &&& 7 = (wl - 10) * 8 % 256 % 8 := Nat.and_two_pow_sub_one_eq_mod _ 3
  rw [Nat.shiftRight_eq_div_pow, h7]
  omega

/-! ### the parser's reads, field by field -/

/-- how `Frame.parseFields` reads the dictionary ID (`dc` = descriptor bits 0-1) -/
def readDid (src : Bytes) (dc p : Nat) : Nat :=
  match dc with
  | 0 => 0
  | 1 => src.u8 p
  | 2 => src.le16 p
  | _ => src.le32 p

/-- how `Frame.parseFields` reads the content size (`fc` = descriptor bits 6-7) -/
def readFcs (src : Bytes) (fc : Nat) (sg : Bool) (p : Nat) : Option Nat :=
  match fc with
  | 0 => if sg then some (src.u8 p) else none
  | 1 => some (src.le16 p + 256)
  | 2 => some (src.le32 p)
  | _ => some (src.le64 p)

theorem parseFields_eq (src : Bytes) (pos0 fhd fh : Nat) :
    Frame.parseFields src pos0 fhd fh =
      let sg := (fhd >>> 5) &&& 1 == 1
      let wlByte := src.u8 pos0
      let windowLog := (wlByte >>> 3) + ZSTD_WINDOWLOG_ABSOLUTEMIN
      if !sg && windowLog > ZSTD_WINDOWLOG_MAX then .err .windowTooLarge
      else
        let pos1 := if sg then pos0 else pos0 + 1
        let fcs := readFcs src (fhd >>> 6) sg (pos1 + ZSTD_did_fieldSize.getD (fhd &&& 3) 0)
        let windowSize := if sg then fcs.getD 0 else 1 <<< windowLog + ((1 <<< windowLog) >>> 3) * (wlByte &&& 7)
        .ok { headerSize := fh, windowSize := windowSize, fcs := fcs, dictID := readDid src (fhd &&& 3) pos1,
              checksum := (fhd >>> 2) &&& 1 == 1, singleSegment := sg, blockSizeMax := min windowSize ZSTD_BLOCKSIZE_MAX,
              descriptor := fhd, windowByte := if sg then none else some wlByte } := rfl

theorem dictCode_ranges (a : HArgs) (h : a.noDictID = false) :
    (dictCode a = 0 → a.dictID = 0) ∧ (dictCode a = 1 → a.dictID < 256) ∧ (dictCode a = 2 → a.dictID < 65536) := by
  simp only [dictCode, h, Bool.false_eq_true, if_false]
  repeat' split
  all_goals omega

theorem fcsCode_ranges (a : HArgs) (h : a.contentSizeFlag = true) :
    (fcsCode a = 0 → a.pledged < 256) ∧ (fcsCode a = 1 → 256 ≤ a.pledged ∧ a.pledged < 65536 + 256) ∧
      (fcsCode a = 2 → a.pledged < 2 ^ 32) := by
  simp only [fcsCode, h, if_true]
  repeat' split
  all_goals omega

theorem did_field (a : HArgs) (hd : a.dictID < 2 ^ 32) (hL : L = A ++ (didBytes a ++ B)) (hp : p = A.length) :
    readDid (ByteArray.mk L.toArray) (dictCode a) p = if a.noDictID then 0 else a.dictID := by
  unfold didBytes at hL
  unfold readDid
  cases hnd : a.noDictID with
  | true => rw [show dictCode a = 0 by simp only [dictCode, hnd, if_true]]; rfl
  | false =>
    obtain ⟨r0, r1, r2⟩ := dictCode_ranges a hnd
    match h : dictCode a, dictCode_lt a with
    | 0, _ => exact (r0 h).symm
    | 1, _ => rw [h] at hL; exact (u8_at a.dictID hL hp).trans (Nat.mod_eq_of_lt (r1 h))
    | 2, _ => rw [h] at hL; exact (le16_at a.dictID hL hp).trans (Nat.mod_eq_of_lt (r2 h))
    | 3, _ => rw [h] at hL; exact (le32_at a.dictID hL hp).trans (Nat.mod_eq_of_lt hd)

theorem fcs_field (a : HArgs) (hw : 8 ≤ a.windowLog) (hpl : a.pledged < 2 ^ 64) (hL : L = A ++ (fcsBytes a ++ B)) (hp : p = A.length) :
    readFcs (ByteArray.mk L.toArray) (fcsCode a) (single a) p = if a.contentSizeFlag then some a.pledged else none := by
  unfold fcsBytes at hL
  unfold readFcs
  cases hcs : a.contentSizeFlag with
  | false => rw [show fcsCode a = 0 by simp only [fcsCode, hcs, Bool.false_eq_true, if_false], show single a = false by simp only [single, hcs, Bool.false_and]]; rfl
  | true =>
    obtain ⟨r0, r1, r2⟩ := fcsCode_ranges a hcs
    have hs : single a = decide (2 ^ a.windowLog ≥ a.pledged) := by simp only [single, hcs, Bool.true_and]
    have hpow : 2 ^ 8 ≤ 2 ^ a.windowLog := Nat.pow_le_pow_right (by decide) hw
    match h : fcsCode a, fcsCode_lt a with
    | 0, _ =>
      have hsg : single a = true := by rw [hs, decide_eq_true_eq]; have := r0 h; omega
      rw [h, hsg] at hL
      rw [hsg]
      exact congrArg some ((u8_at a.pledged hL hp).trans (Nat.mod_eq_of_lt (r0 h)))
    | 1, _ =>
      rw [h] at hL
      exact congrArg some (by rw [le16_at (a.pledged - 256) hL hp]; have := r1 h; omega)
    | 2, _ => rw [h] at hL; exact congrArg some ((le32_at a.pledged hL hp).trans (Nat.mod_eq_of_lt (r2 h)))
    | 3, _ => rw [h] at hL; exact congrArg some ((le64_at a.pledged hL hp).trans (Nat.mod_eq_of_lt hpl))

theorem magicBytes_of_false (a : HArgs) (h : a.magicless = false) : magicBytes a = le4 ZSTD_MAGICNUMBER := by
  unfold magicBytes; rw [h]; rfl

theorem magic_le32 (X : List UInt8) : (ByteArray.mk (le4 ZSTD_MAGICNUMBER ++ X).toArray).le32 0 = ZSTD_MAGICNUMBER :=
  (le32_le4 _ _).trans (by decide)

theorem getHeader_writeHeader (a : HArgs) (ha : a.wf) (rest : List UInt8) :
    ∃ hd, Frame.getHeader (ByteArray.mk (writeHeader a ++ rest).toArray) 0 ((writeHeader a ++ rest).length) a.magicless = .ok hd ∧
      hd.headerSize = (writeHeader a).length ∧
      hd.fcs = (if a.contentSizeFlag then some a.pledged else none) ∧
      hd.windowSize = (if single a then a.pledged else 2 ^ a.windowLog) ∧
      hd.dictID = (if a.noDictID then 0 else a.dictID) ∧ hd.checksum = a.checksum ∧ hd.singleSegment = single a := by
  obtain ⟨hw1, hw2, hdid, hpl⟩ := ha
  obtain ⟨d1, d2, d3, d4, d5, d6, d7⟩ := descriptor_decode a
  generalize hL : writeHeader a ++ rest = L
  have hsplit : L = magicBytes a ++ (byte (descriptor a) :: (wlBytes a ++ (didBytes a ++ (fcsBytes a ++ rest)))) := by
    rw [← hL, writeHeader_eq]
    simp only [List.append_assoc, List.cons_append]
  have hlen : L.length = (writeHeader a).length + rest.length := by rw [← hL, List.length_append]
  have hwlen : (writeHeader a).length =
      (magicBytes a).length + 1 + (wlBytes a).length + (didBytes a).length + (fcsBytes a).length := by
    rw [writeHeader_eq]
    simp only [List.length_append, List.length_cons]
    omega
  have hm := magicBytes_length a
  have hD : (ByteArray.mk L.toArray).u8 ((if a.magicless then 1 else 5) - 1) = descriptor a := by
    rw [u8_at (descriptor a) hsplit (by omega), Nat.mod_eq_of_lt d1]
  have hfh : Frame.headerSizeOf (descriptor a) a.magicless = (writeHeader a).length := by
    rw [hwlen, wlBytes_length, didBytes_length, fcsBytes_length]
    unfold Frame.headerSizeOf
    simp only [d2, d5, d7]
    cases single a <;> simp <;> omega
  have hmagic : a.magicless = true ∨ (ByteArray.mk L.toArray).le32 0 = ZSTD_MAGICNUMBER := by
    cases hml : a.magicless with
    | true => exact Or.inl rfl
    | false => rw [hsplit, magicBytes_of_false a hml]; exact Or.inr (magic_le32 _)
  rw [FrameRT.getHeader_of_parse (start := 0) (by omega) hmagic (by rw [Nat.zero_add, hD, hfh]; omega)
      (by rw [Nat.zero_add, hD, d6]; rfl), Nat.zero_add, hD, hfh, parseFields_eq]
  simp only [d2, d3, d4, d5]
  have hdl := didBytes_length a
  cases hs : single a with
  | true =>
    have hcs : a.contentSizeFlag = true := by
      have : single a = (a.contentSizeFlag && decide (2 ^ a.windowLog ≥ a.pledged)) := rfl
      rw [hs] at this; exact (Bool.and_eq_true_iff.1 this.symm).1
    have hwl : wlBytes a = [] := by unfold wlBytes; rw [hs]; rfl
    rw [hwl, List.nil_append] at hsplit
    have e1 := did_field (L := L) (A := magicBytes a ++ [byte (descriptor a)]) (B := fcsBytes a ++ rest) (p := if a.magicless then 1 else 5) a hdid
      (by rw [hsplit]; simp only [List.append_assoc, List.cons_append, List.nil_append])
      (by rw [List.length_append]; exact hm.symm)
    have e2 := fcs_field (L := L) (A := magicBytes a ++ byte (descriptor a) :: didBytes a) (B := rest)
      (p := (if a.magicless then 1 else 5) + ZSTD_did_fieldSize.getD (dictCode a) 0) a (by unfold ZSTD_WINDOWLOG_ABSOLUTEMIN at hw1; omega) hpl
      (by rw [hsplit]; simp only [List.append_assoc, List.cons_append])
      (by simp only [List.length_append, List.length_cons]; omega)
    rw [hs] at e2
    simp only [Bool.not_true, Bool.false_and, Bool.false_eq_true, if_false, if_true, e1, e2, hcs]
    exact ⟨_, rfl, rfl, rfl, rfl, rfl, rfl, rfl⟩
  | false =>
    have hwl : wlBytes a = [byte ((a.windowLog - ZSTD_WINDOWLOG_ABSOLUTEMIN) * 8)] := by unfold wlBytes; rw [hs]; rfl
    rw [hwl] at hsplit
    obtain ⟨w1, w2⟩ := wl_byte a.windowLog hw1 hw2
    have e0 := u8_at (L := L) (A := magicBytes a ++ [byte (descriptor a)]) (B := didBytes a ++ (fcsBytes a ++ rest))
      (p := if a.magicless then 1 else 5) ((a.windowLog - ZSTD_WINDOWLOG_ABSOLUTEMIN) * 8)
      (by rw [hsplit]; simp only [List.append_assoc, List.cons_append, List.nil_append])
      (by rw [List.length_append]; exact hm.symm)
    have e1 := did_field (L := L) (A := magicBytes a ++ [byte (descriptor a), byte ((a.windowLog - ZSTD_WINDOWLOG_ABSOLUTEMIN) * 8)])
      (B := fcsBytes a ++ rest) (p := (if a.magicless then 1 else 5) + 1) a hdid
      (by rw [hsplit]; simp only [List.append_assoc, List.cons_append, List.nil_append])
      (by simp only [List.length_append, List.length_cons, List.length_nil]; omega)
    have e2 := fcs_field (L := L)
      (A := magicBytes a ++ byte (descriptor a) :: byte ((a.windowLog - ZSTD_WINDOWLOG_ABSOLUTEMIN) * 8) :: didBytes a) (B := rest)
      (p := (if a.magicless then 1 else 5) + 1 + ZSTD_did_fieldSize.getD (dictCode a) 0) a
      (by unfold ZSTD_WINDOWLOG_ABSOLUTEMIN at hw1; omega) hpl
      (by rw [hsplit]; simp only [List.append_assoc, List.cons_append, List.nil_append])
      (by simp only [List.length_append, List.length_cons]; omega)
    rw [hs] at e2
    have hw3 : ¬ a.windowLog > ZSTD_WINDOWLOG_MAX := Nat.not_lt.2 hw2
    simp only [Bool.not_false, Bool.true_and, Bool.false_eq_true, if_false, e0, e1, e2, w1, w2, hw3, decide_false,
      Nat.shiftLeft_eq, Nat.one_mul, Nat.mul_zero, Nat.add_zero]
    exact ⟨_, rfl, rfl, rfl, rfl, rfl, rfl, rfl⟩

/-- **header_roundtrip**: for every accepted window log, pledged size, dictionary ID and flag combination, parsing what
ZSTD_writeFrameHeader writes (followed by anything) succeeds and returns exactly the fields that went in -/
theorem header_roundtrip (wl pl did : Nat) (cs nd ck ml : Bool) (rest : List UInt8)
    (h1 : 10 ≤ wl) (h2 : wl ≤ 31) (hdid : did < 4294967296) (hpl : pl < 18446744073709551616) :
    ∃ hd, Frame.getHeader (ByteArray.mk (writeHeader ⟨wl, pl, cs, did, nd, ck, ml⟩ ++ rest).toArray) 0
            ((writeHeader ⟨wl, pl, cs, did, nd, ck, ml⟩ ++ rest).length) ml = .ok hd ∧
      hd.headerSize = (writeHeader ⟨wl, pl, cs, did, nd, ck, ml⟩).length ∧
      hd.fcs = (if cs then some pl else none) ∧
      hd.windowSize = (if single ⟨wl, pl, cs, did, nd, ck, ml⟩ then pl else 2 ^ wl) ∧
      hd.dictID = (if nd then 0 else did) ∧ hd.checksum = ck ∧ hd.singleSegment = single ⟨wl, pl, cs, did, nd, ck, ml⟩ :=
  getHeader_writeHeader ⟨wl, pl, cs, did, nd, ck, ml⟩ ⟨h1, h2, hdid, hpl⟩ rest

/-! ### tactics for goals about a header given as an explicit byte list (no proof in the library calls them) -/

set_option hygiene false in
/-- byte facts of one parameter family: expects `hdc : dictCode a = _`, `hfc : fcsCode a = _`, `hsg : single a = _`;
leaves `L` (the whole input), `b0 .. b17 : (mk L).u8 k = value`, `hl : L.length = n + rest.length` -/
macro "hdr_bytes" hdc:ident hfc:ident hsg:ident : tactic => `(tactic| (
  generalize hL : (writeHeader _ ++ _) = L
  simp only [writeHeader, descriptor, $hdc:ident, $hfc:ident, $hsg:ident, ZSTD_WINDOWLOG_ABSOLUTEMIN, le4, le2, le8, ZSTD_MAGICNUMBER, Bool.false_eq_true, if_false, if_true, Nat.reduceAdd, Nat.reduceMul, Nat.reduceDiv,
    List.cons_append, List.nil_append, List.append_assoc, List.length_cons, List.length_nil] at hL ⊢
  have b0 := u8_mk L 0; have b1 := u8_mk L 1; have b2 := u8_mk L 2; have b3 := u8_mk L 3; have b4 := u8_mk L 4; have b5 := u8_mk L 5; have b6 := u8_mk L 6; have b7 := u8_mk L 7; have b8 := u8_mk L 8
  have b9 := u8_mk L 9; have b10 := u8_mk L 10; have b11 := u8_mk L 11; have b12 := u8_mk L 12; have b13 := u8_mk L 13; have b14 := u8_mk L 14; have b15 := u8_mk L 15; have b16 := u8_mk L 16; have b17 := u8_mk L 17
  have hl : L.length = L.length := rfl
  conv at b0 => rhs; rw [← hL]
  conv at b1 => rhs; rw [← hL]
  conv at b2 => rhs; rw [← hL]
  conv at b3 => rhs; rw [← hL]
  conv at b4 => rhs; rw [← hL]
  conv at b5 => rhs; rw [← hL]
  conv at b6 => rhs; rw [← hL]
  conv at b7 => rhs; rw [← hL]
  conv at b8 => rhs; rw [← hL]
  conv at b9 => rhs; rw [← hL]
  conv at b10 => rhs; rw [← hL]
  conv at b11 => rhs; rw [← hL]
  conv at b12 => rhs; rw [← hL]
  conv at b13 => rhs; rw [← hL]
  conv at b14 => rhs; rw [← hL]
  conv at b15 => rhs; rw [← hL]
  conv at b16 => rhs; rw [← hL]
  conv at b17 => rhs; rw [← hL]
  conv at hl => rhs; rw [← hL]
  simp only [List.getElem?_cons_succ, List.getElem?_cons_zero, Option.map_some, Option.getD_some, byte_toNat, Nat.reduceMod, List.length_cons] at b0 b1 b2 b3 b4 b5 b6 b7 b8 b9 b10 b11 b12 b13 b14 b15 b16 b17 hl
  clear hL))

set_option hygiene false in
/-- second half: dispatch + field evaluation, for the context left by `hdr_bytes` (ml = the magicless flag as a term) -/
macro "hdr_finish" ml:term : tactic => `(tactic| (
  have hmagic : $ml = true ∨ (ByteArray.mk L.toArray).le32 0 = ZSTD_MAGICNUMBER := by
    first
      | exact Or.inl rfl
      | (refine Or.inr ?_; unfold ByteArray.le32; rw [b0, b1, b2, b3]; rfl)
  rw [getHeader_dispatch _ _ $ml (by simp only [Bool.false_eq_true, if_false, if_true]; omega) hmagic
      (by simp only [Bool.false_eq_true, if_false, if_true, Nat.reduceSub, Nat.sub_self, b0, b4, Frame.headerSizeOf, ZSTD_did_fieldSize, ZSTD_fcs_fieldSize, Nat.reduceAnd, Nat.reduceShiftRight, Nat.reduceBEq,
            Nat.reduceAdd, List.getD_cons_succ, List.getD_cons_zero, Bool.and_false, Bool.and_true, Bool.false_and, Bool.true_and]; omega)
      (by simp only [Bool.false_eq_true, if_false, if_true, Nat.reduceSub, Nat.sub_self, b0, b4, Nat.reduceAnd])]
  simp only [Bool.false_eq_true, if_false, if_true, Nat.reduceSub, Nat.sub_self, b0, b4]
  unfold Frame.parseFields
  simp only [ZSTD_did_fieldSize, ZSTD_fcs_fieldSize, Frame.headerSizeOf, ZSTD_WINDOWLOG_ABSOLUTEMIN, ZSTD_WINDOWLOG_MAX, Nat.reduceAnd, Nat.reduceShiftRight, Nat.reduceBEq, Nat.reduceAdd, Nat.reduceSub,
    Bool.false_eq_true, if_false, if_true, List.getD_cons_succ, List.getD_cons_zero, Bool.not_false, Bool.not_true, Bool.true_and, Bool.false_and, Bool.and_false, Bool.and_true]
  try unfold ByteArray.le64
  try unfold ByteArray.le32
  try unfold ByteArray.le16
  simp only [Nat.reduceAdd, b0, b1, b2, b3, b4, b5, b6, b7, b8, b9, b10, b11, b12, b13, b14, b15, b16, b17]))


set_option hygiene false in
macro "hdr_close" wl:ident h1:ident h2:ident did:term:max pl:ident : tactic => `(tactic| (
  have hw1 := (wl_byte $wl $h1 $h2).1
  have hw2 := (wl_byte $wl $h1 $h2).2
  try simp only [hw1, hw2, show ¬ $wl > 31 by omega, decide_false, Bool.false_eq_true, if_false]
  try simp only [le2_val $did (by omega)]
  try simp only [le4_val $did (by omega)]
  try simp only [le2_val ($pl - 256) (by omega)]
  try simp only [le4_val $pl (by omega)]
  try simp only [le8_val $pl (by omega)]
  refine ⟨_, rfl, ?_⟩
  simp only [Nat.shiftLeft_eq, Nat.zero_mul, Nat.mul_zero, Nat.add_zero, Nat.one_mul, Option.getD_some, if_true, if_false, Bool.false_eq_true]
  refine ⟨?_, ?_, ?_, ?_, ?_, ?_⟩ <;> first | rfl | omega | (congr 1; omega) | simp))

end ZstdVerif.HeaderW
