/-
The Huffman stream round trip at BYTE level.  `HufRT.stream_roundtrip` works on an abstract stack of bits; here the stack is tied
to the byte-level bit writer (`BitW.ofFields`, bitstream.h BIT_addBits / BIT_flushBits / BIT_closeCStream) and the backward bit
reader (`BitR`, BIT_initDStream / BIT_lookBits / BIT_skipBits): `BitR.peek` / `BitR.skip` compute what `HufRT.peekBits` /
`BitStack.skip` compute on the stack of the written fields.  Hence `Huf.decode1` (HUF_decompress1X1_usingDTable_internal) and
`Huf.decode4` (HUF_decompress4X1_usingDTable_internal) read back, from the bytes the encoder emits, exactly the literals, without
any `lax` verdict.
-/
import ZstdVerif.Lemmas.HufRT
import ZstdVerif.Lemmas.BitsRT
namespace ZstdVerif.HufBytes
open ZstdVerif.HufEnc ZstdVerif.Huf ZstdVerif.HufRT ZstdVerif.BitW

theorem peekBits_split (bs : List Bool) (k : Nat) (h : k ≤ bs.length) :
    peekBits bs.length bs = peekBits k bs * 2 ^ (bs.length - k) + peekBits (bs.length - k) (bs.drop k) := by
  induction bs generalizing k with
  | nil => cases Nat.le_zero.1 h; rfl
  | cons b bs ih =>
    cases k with
    | zero => rw [peekBits, Nat.zero_mul, Nat.zero_add]; rfl
    | succ k =>
      have h' : k ≤ bs.length := Nat.le_of_succ_le_succ h
      have e : 2 ^ bs.length = 2 ^ k * 2 ^ (bs.length - k) := by rw [← Nat.pow_add, Nat.add_sub_cancel' h']
      rw [List.length_cons, Nat.add_sub_add_right, List.drop_succ_cons, peekBits, peekBits, ih k h', e, Nat.add_mul, Nat.mul_assoc,
        Nat.add_assoc]

theorem peekBits_le (bs : List Bool) (k : Nat) (h : k ≤ bs.length) :
    peekBits k bs = peekBits bs.length bs / 2 ^ (bs.length - k) := by
  rw [peekBits_split bs k h, Nat.mul_comm, Nat.mul_add_div (Nat.two_pow_pos _), Nat.div_eq_of_lt (peekBits_lt _ _), Nat.add_zero]

theorem peekBits_ge (bs : List Bool) (k : Nat) (h : bs.length ≤ k) :
    peekBits k bs = peekBits bs.length bs * 2 ^ (k - bs.length) := by
  induction bs generalizing k with
  | nil => cases k <;> simp [peekBits]
  | cons b bs ih =>
    cases k with
    | zero => simp at h
    | succ k =>
      simp only [List.length_cons, Nat.add_le_add_iff_right] at h
      simp only [peekBits, List.length_cons, Nat.add_sub_add_right, ih k h, Nat.add_mul]
      have e : 2 ^ k = 2 ^ bs.length * 2 ^ (k - bs.length) := by rw [← Nat.pow_add]; congr 1; omega
      rw [e, Nat.mul_assoc]

theorem peekBits_drop (bs : List Bool) (k : Nat) (h : k ≤ bs.length) :
    peekBits (bs.length - k) (bs.drop k) = peekBits bs.length bs % 2 ^ (bs.length - k) := by
  rw [peekBits_split bs k h, Nat.mul_add_mod_self_right, Nat.mod_eq_of_lt (peekBits_lt _ _)]

/-- the reader `r`, working on a stream of `len` bytes, is in the state described by the bit stack `st`: same sticky flag, as many
bits left as the stack holds, and the unread low part of the stream value is the value of the stack -/
structure Sim (len : Nat) (r : BitR) (st : BitStack) : Prop where
  over : r.over = st.over
  left : r.left = st.bits.length
  fits : r.left ≤ 8 * len
  val : r.src.toNatLE r.start len % 2 ^ r.left = peekBits st.bits.length st.bits

/-- `BitR.peek` (BIT_lookBitsFast on a reloaded container, zero bits below the start of the stream) computes
`peekBits` of the simulated stack, for every width the 64-bit loads support -/
theorem peek_sim {len : Nat} {r : BitR} {st : BitStack} (h : Sim len r st) (k : Nat) (hk : k ≤ 56) :
    r.peek k = st.peek k := by
  obtain ⟨_, hl, hf, hv⟩ := h
  unfold BitR.peek BitStack.peek
  split
  · next hle =>
    rw [BitR.field_eq r.src r.start len _ _ hk (by omega), peekBits_le _ _ (by omega), ← hv, ← hl]
    have e : 2 ^ r.left = 2 ^ (r.left - k) * 2 ^ k := by rw [← Nat.pow_add]; congr 1; omega
    rw [e, Nat.mod_mul_right_div_self]
  · next hle =>
    rw [BitR.field_eq r.src r.start len _ _ (by omega) (by omega), peekBits_ge _ _ (by omega), ← hv, ← hl,
      Nat.pow_zero, Nat.div_one, Nat.shiftLeft_eq]

theorem skip_sim {len : Nat} {r : BitR} {st : BitStack} (h : Sim len r st) (k : Nat) :
    Sim len (r.skip k) (st.skip k) := by
  obtain ⟨ho, hl, hf, hv⟩ := h
  unfold BitR.skip BitStack.skip
  rw [← hl]
  split
  · next hle =>
    refine ⟨ho, by simp only [List.length_drop]; omega, by simp only []; omega, ?_⟩
    simp only [List.length_drop]
    rw [peekBits_drop _ _ (by omega), ← hv, ← hl]
    exact (Nat.mod_mod_of_dvd _ (Nat.pow_dvd_pow 2 (by omega))).symm
  · next hle =>
    exact ⟨rfl, rfl, Nat.zero_le _, by simp [Nat.mod_one, peekBits]⟩

theorem skip_src (r : BitR) (k : Nat) : (r.skip k).src = r.src ∧ (r.skip k).start = r.start := by
  unfold BitR.skip; split <;> exact ⟨rfl, rfl⟩

theorem stackBits_length (fs : List (Nat × Nat)) : (stackBits fs).length = totalBits fs := by
  unfold stackBits
  rw [← totalBits_reverse]
  induction fs.reverse with
  | nil => rfl
  | cons f gs ih => simp only [List.flatMap_cons, List.length_append, bitsMSB_length, totalBits, ih]

theorem stackBits_value (fs : List (Nat × Nat)) :
    peekBits (stackBits fs).length (stackBits fs) = fieldsValFrom 0 fs := by
  rw [stackBits_length, ← valRev_reverse, ← totalBits_reverse]
  unfold stackBits
  induction fs.reverse with
  | nil => rfl
  | cons f gs ih =>
    simp only [List.flatMap_cons, totalBits, valRev, peekBits_field, ih]
    omega

/-- BIT_initDStream on the embedded bytes of `BitW.ofFields fs` yields a reader that simulates `stackBits fs` (last written field on top) -/
theorem init_sim (fs : List (Nat × Nat)) (src : Bytes) (start : Nat)
    (hsrc : src.extract start (start + (ofFields fs).size) = ofFields fs) :
    ∃ r0, BitR.init src start (ofFields fs).size = .ok r0 ∧
      Sim (ofFields fs).size r0 { bits := stackBits fs, over := false } := by
  obtain ⟨hinit, hlen, hmod⟩ := BitR.init_ofFields fs src start hsrc
  exact ⟨_, hinit, rfl, (stackBits_length fs).symm, hlen, by rw [stackBits_value]; exact hmod⟩

def litBytes (l : List Nat) : ByteArray := (l.map UInt8.ofNat).toByteArray

theorem litBytes_nil : litBytes [] = ByteArray.empty := rfl

theorem litBytes_size (l : List Nat) : (litBytes l).size = l.length := by
  simp [litBytes, List.size_toByteArray]

theorem litBytes_append (a b : List Nat) : litBytes (a ++ b) = litBytes a ++ litBytes b := by
  simp only [litBytes, List.map_append, List.toByteArray_append]

theorem push_litBytes (o : ByteArray) (x : Nat) (l : List Nat) :
    o.push (UInt8.ofNat x) ++ litBytes l = o ++ litBytes (x :: l) := by
  unfold litBytes
  rw [List.map_cons, ← List.singleton_append, List.toByteArray_append, ← ByteArray.append_assoc,
    ByteArray.append_toByteArray_singleton]

theorem skip_over_sticky (st : BitStack) (k : Nat) (h : st.over = true) : (st.skip k).over = true := by
  unfold BitStack.skip; split
  · exact h
  · rfl

theorem decodeLoop_over_sticky (t : Table) (n : Nat) (st : BitStack) (h : st.over = true) :
    (decodeLoop t n st).2.over = true := by
  induction n generalizing st with
  | zero => exact h
  | succ n ih => exact ih _ (skip_over_sticky _ _ h)

/-- the `for` loop of `Huf.decode1` (`f` is its body: look `tableLog` bits, table cell, consume `nbBits`, remember an early
over-read, push the symbol) run on a reader that simulates the stack `st` is `HufRT.decodeLoop` on `st` -/
theorem loop_sim (t : Table) (hlog : t.log ≤ 56) (len n : Nat)
    (f : Nat → BitR × ByteArray × Bool → R (ForInStep (BitR × ByteArray × Bool)))
    (hf : ∀ i s, f i s = .ok (.yield (s.1.skip t.cells[s.1.peek t.log]!.2,
        s.2.1.push (UInt8.ofNat t.cells[s.1.peek t.log]!.1),
        if ((s.1.skip t.cells[s.1.peek t.log]!.2).over && decide (i + 1 < n)) = true then true else s.2.2)))
    (k i : Nat) (r : BitR) (o : ByteArray) (oe : Bool) (st : BitStack) (hs : Sim len r st) :
    ∃ r1 oe1, forIn (List.range' i k) (r, o, oe) f = .ok (r1, o ++ litBytes (decodeLoop t k st).1, oe1) ∧
      Sim len r1 (decodeLoop t k st).2 ∧ (oe1 = true → oe = true ∨ (decodeLoop t k st).2.over = true) := by
  induction k generalizing i r o oe st with
  | zero =>
    refine ⟨r, oe, ?_, hs, Or.inl⟩
    simp only [List.range'_zero, List.forIn_nil, decodeLoop, litBytes_nil, ByteArray.append_empty]
    rfl
  | succ k ih =>
    have hs1 := skip_sim hs (t.cells[st.peek t.log]!.2)
    rw [List.range'_succ, List.forIn_cons, hf]
    simp only [peek_sim hs _ hlog, bind, Except.bind]
    obtain ⟨r1, oe1, h1, h2, h3⟩ := ih (i + 1) _ (o.push (UInt8.ofNat t.cells[st.peek t.log]!.1))
      (if ((r.skip t.cells[st.peek t.log]!.2).over && decide (i + 1 < n)) = true then true else oe) _ hs1
    refine ⟨r1, oe1, ?_, h2, ?_⟩
    · rw [h1, push_litBytes]; rfl
    · intro h
      rcases h3 h with h4 | h4
      · split at h4
        · next hc =>
          right
          simp only [Bool.and_eq_true] at hc
          exact decodeLoop_over_sticky t k (st.skip t.cells[st.peek t.log]!.2) (by rw [← hs1.over]; exact hc.1)
        · exact Or.inl h4
      · exact Or.inr h4

/-- no error and none of the `lax` verdicts, whether or not the caller announces the 4-stream fast path -/
theorem decode1_of_sim (t : Table) (hlog : t.log ≤ 56) (src : Bytes) (start len n : Nat) (out : ByteArray) (fp : Bool)
    (r0 : BitR) (st0 : BitStack) (syms : List Nat) (hinit : BitR.init src start len = .ok r0) (hs : Sim len r0 st0)
    (hloop : decodeLoop t n st0 = (syms, { bits := [], over := false })) :
    decode1 t src start len n out fp = .ok (out ++ litBytes syms) := by
  unfold decode1
  simp only [bind, Except.bind, pure, Except.pure, throw, throwThe, MonadExceptOf.throw, hinit]
  rw [Std.Legacy.Range.forIn_eq_forIn_range']
  obtain ⟨r1, oe1, h1, h2, h3⟩ := loop_sim t hlog len n
    -- the elaborated body of the loop of `Huf.decode1`, token for token
    (fun i __s =>
      if ((__s.fst.skip t.cells[__s.fst.peek t.log]!.snd).over && decide (i + 1 < n)) = true then
        Except.ok (ForInStep.yield (__s.fst.skip t.cells[__s.fst.peek t.log]!.snd,
          __s.snd.fst.push (UInt8.ofNat t.cells[__s.fst.peek t.log]!.fst), true))
      else
        Except.ok (ForInStep.yield (__s.fst.skip t.cells[__s.fst.peek t.log]!.snd,
          __s.snd.fst.push (UInt8.ofNat t.cells[__s.fst.peek t.log]!.fst), __s.snd.snd)))
    (fun i s => by split <;> rfl) n 0 r0 out false st0 hs
  have hsz : ([:n] : Std.Legacy.Range).size = n := by simp [Std.Legacy.Range.size]
  simp only [hsz] at *
  rw [h1]
  rw [hloop] at h2 h3
  have hover : r1.over = false := h2.over
  have hleft : r1.left = 0 := h2.left
  have hoe : oe1 = false := by
    cases oe1 with
    | false => rfl
    | true => rcases h3 rfl with h | h <;> cases h
  -- none of the four verdicts behind the loop fires: not over, nothing left, no early over-read
  simp [hover, hleft, hoe, hloop]

/-- One stream: `Huf.decode1` on the bytes the bit writer produces from the encoder's fields, embedded at `start` in any `src`, returns
exactly the literals - no `lax` verdict, no error.  `log ≤ 56` is what the reader's 64-bit loads support; the format has
`log ≤ 12` (HUF_TABLELOG_MAX). -/
theorem huf_decode1_bytes_at {weights : Array Nat} {log : Nat} (ok : WeightsOK weights log) (hlog : log ≤ 56) (used : Nat)
    (lits : List Nat) (h : ∀ s ∈ lits, ∃ hs : s < weights.size, 0 < weights[s]) (src : Bytes) (start : Nat)
    (hsrc : src.extract start (start + (ofFields (encode1 (codesOf weights log) lits)).size)
      = ofFields (encode1 (codesOf weights log) lits))
    (out : ByteArray) (fp : Bool) :
    decode1 (buildTable ⟨weights, log, used⟩) src start (ofFields (encode1 (codesOf weights log) lits)).size lits.length out fp
      = .ok (out ++ litBytes lits) := by
  obtain ⟨r0, hinit, hs⟩ := init_sim (encode1 (codesOf weights log) lits) src start hsrc
  exact decode1_of_sim _ hlog src start _ _ out fp r0 _ lits hinit hs (stream_roundtrip ok used lits h)

theorem huf_decode1_bytes {weights : Array Nat} {log : Nat} (ok : WeightsOK weights log) (hlog : log ≤ 56) (used : Nat)
    (lits : List Nat) (h : ∀ s ∈ lits, ∃ hs : s < weights.size, 0 < weights[s]) (out : ByteArray) :
    decode1 (buildTable ⟨weights, log, used⟩) (ofFields (encode1 (codesOf weights log) lits)) 0
      (ofFields (encode1 (codesOf weights log) lits)).size lits.length out false = .ok (out ++ litBytes lits) :=
  huf_decode1_bytes_at ok hlog used lits h _ 0 (by rw [Nat.zero_add]; exact ByteArray.extract_zero_size) out false

/-- with the table of any weights header the decoder accepts (for which `HufRT.readStats_log_le` gives `tableLog ≤ hufLogMax`) -/
theorem huf_decode1_bytes_readStats (hsrc : Bytes) (hstart hn : Nat) (st : Stats)
    (hst : readStats hsrc hstart hn = .ok st) (lits : List Nat) (h : ∀ s ∈ lits, ∃ hs : s < st.weights.size, 0 < st.weights[s])
    (hlog : st.tableLog ≤ 56) (out : ByteArray) :
    decode1 (buildTable st) (ofFields (encode1 (codesOf st.weights st.tableLog) lits)) 0
      (ofFields (encode1 (codesOf st.weights st.tableLog) lits)).size lits.length out false = .ok (out ++ litBytes lits) :=
  huf_decode1_bytes (readStats_weightsOK hsrc hstart hn _ st hst) hlog st.used lits h out

theorem embedded_part {src : ByteArray} {s : Nat} (pre c post : ByteArray)
    (h : src.extract s (s + (pre ++ c ++ post).size) = pre ++ c ++ post) :
    src.extract (s + pre.size) (s + pre.size + c.size) = c := by
  have h2 : (pre ++ c ++ post).extract pre.size (pre.size + c.size) = c := by
    rw [ByteArray.extract_append, ByteArray.extract_append_eq_right rfl rfl]
    simp only [ByteArray.size_append, Nat.sub_self]
    rw [ByteArray.extract_eq_empty_iff.mpr (by omega), ByteArray.append_empty]
  rw [← h, ByteArray.extract_extract, Nat.min_eq_left (by simp only [ByteArray.size_append]; omega)] at h2
  rw [Nat.add_assoc]; exact h2

theorem u8_embedded {src blob : ByteArray} {s : Nat} (h : src.extract s (s + blob.size) = blob) (j : Nat) (hj : j < blob.size) :
    src.u8 (s + j) = blob.u8 j := by
  have := ByteArray.u8_extract src s (s + blob.size) j (by omega)
  rw [h] at this; exact this.symm

theorem le16_embedded {src blob : ByteArray} {s : Nat} (h : src.extract s (s + blob.size) = blob) (j : Nat)
    (hj : j + 2 ≤ blob.size) : src.le16 (s + j) = blob.le16 j := by
  unfold ByteArray.le16
  rw [Nat.add_assoc, u8_embedded h j (by omega), u8_embedded h (j + 1) (by omega)]

theorem le16_size (n : Nat) : (HufEnc.le16 n).size = 2 := rfl

theorem le16_le16 {n : Nat} (h : n ≤ 65535) : (HufEnc.le16 n).le16 0 = n := by
  have h0 : (HufEnc.le16 n).u8 0 = n % 256 % 256 := by
    rw [HufEnc.le16, ByteArray.u8_push_lt _ _ _ (Nat.succ_pos 0)]
    exact (ByteArray.u8_push_eq ByteArray.empty _).trans (ofNat_toNat _)
  have h1 : (HufEnc.le16 n).u8 (0 + 1) = n / 256 % 256 % 256 :=
    (ByteArray.u8_push_eq (ByteArray.empty.push _) _).trans (ofNat_toNat _)
  rw [ByteArray.le16, h0, h1, Nat.shiftLeft_eq]
  omega

/-- HUF_compress4X_usingCTable_internal accepted: the layout, and every stream fits its 16-bit size field -/
theorem layout4_some {c1 c2 c3 c4 out : ByteArray} (h : layout4 c1 c2 c3 c4 = some out) :
    out = HufEnc.le16 c1.size ++ HufEnc.le16 c2.size ++ HufEnc.le16 c3.size ++ c1 ++ c2 ++ c3 ++ c4 ∧
      (0 < c1.size ∧ c1.size ≤ 65535) ∧ (0 < c2.size ∧ c2.size ≤ 65535) ∧ (0 < c3.size ∧ c3.size ≤ 65535) ∧ 0 < c4.size := by
  unfold layout4 at h
  by_cases h1 : c1.size = 0 ∨ c1.size > 65535
  · rw [if_pos h1] at h; cases h
  by_cases h2 : c2.size = 0 ∨ c2.size > 65535
  · rw [if_neg h1, if_pos h2] at h; cases h
  by_cases h3 : c3.size = 0 ∨ c3.size > 65535
  · rw [if_neg h1, if_neg h2, if_pos h3] at h; cases h
  by_cases h4 : c4.size = 0 ∨ c4.size > 65535
  · rw [if_neg h1, if_neg h2, if_neg h3, if_pos h4] at h; cases h
  rw [if_neg h1, if_neg h2, if_neg h3, if_neg h4] at h
  exact ⟨(Option.some.inj h).symm, by omega, by omega, by omega, by omega⟩

theorem embedded_append {src a b : ByteArray} {s : Nat} (h : src.extract s (s + (a ++ b).size) = a ++ b) :
    src.extract s (s + a.size) = a ∧ src.extract (s + a.size) (s + a.size + b.size) = b := by
  constructor
  · have := embedded_part ByteArray.empty a b (src := src) (s := s) (by rw [ByteArray.empty_append]; exact h)
    rwa [ByteArray.size_empty, Nat.add_zero] at this
  · exact embedded_part a b ByteArray.empty (by rw [ByteArray.append_empty]; exact h)

theorem le16_of_embedded {src : ByteArray} {s n : Nat} (h : src.extract s (s + (HufEnc.le16 n).size) = HufEnc.le16 n)
    (hn : n ≤ 65535) : src.le16 s = n := by
  have := le16_embedded h 0 (Nat.le_refl 2)
  rwa [Nat.add_zero, le16_le16 hn] at this

/-- Four streams: what HUF_compress4X_usingCTable_internal (`HufEnc.compress4` with the byte-level bit writer) accepts and lays out,
`Huf.decode4` reads back, embedded at `start` in any `src`.  `decode4` announces the fast path when all four streams are
≥ 8 bytes, and `decode1` then reports `lax` for a stream that is not exactly exhausted: the encoder's streams ARE exactly exhausted,
so the verdict is `.ok` either way. -/
theorem huf_decode4_bytes_at {weights : Array Nat} {log : Nat} (ok : WeightsOK weights log) (hlog : log ≤ 56) (used : Nat)
    (lits : List Nat) (h : ∀ s ∈ lits, ∃ hs : s < weights.size, 0 < weights[s]) (blob : ByteArray)
    (hc : compress4 ofFields (codesOf weights log) lits = some blob) (src : Bytes) (start : Nat)
    (hsrc : src.extract start (start + blob.size) = blob) (out : ByteArray) :
    decode4 (buildTable ⟨weights, log, used⟩) src start blob.size lits.length out = .ok (out ++ litBytes lits) := by
  have h12 := compress4_accepts hc
  obtain ⟨hcat, hl1, hl2, hl3, hl4, -, hn3⟩ := four_streams_partition lits (by omega)
  unfold compress4 at hc
  rw [if_neg (by omega)] at hc
  generalize segments lits = sg at hc hcat hl1 hl2 hl3 hl4
  obtain ⟨s1, s2, s3, s4⟩ := sg
  simp only [] at hc hcat hl1 hl2 hl3 hl4
  obtain ⟨hblob, b1, b2, b3, b4⟩ := layout4_some hc
  have hsz : blob.size = 6 + (ofFields (encode1 (codesOf weights log) s1)).size + (ofFields (encode1 (codesOf weights log) s2)).size
      + (ofFields (encode1 (codesOf weights log) s3)).size + (ofFields (encode1 (codesOf weights log) s4)).size := by
    rw [hblob]; simp only [ByteArray.size_append, le16_size]
  -- the jump table and the four streams inside `src`
  rw [hblob] at hsrc
  simp only [ByteArray.append_assoc] at hsrc
  obtain ⟨j1, hsrc⟩ := embedded_append hsrc
  obtain ⟨j2, hsrc⟩ := embedded_append hsrc
  obtain ⟨j3, hsrc⟩ := embedded_append hsrc
  obtain ⟨x1, hsrc⟩ := embedded_append hsrc
  obtain ⟨x2, hsrc⟩ := embedded_append hsrc
  obtain ⟨x3, x4⟩ := embedded_append hsrc
  have e1 := le16_of_embedded j1 b1.2
  have e2 := le16_of_embedded j2 b2.2
  have e3 := le16_of_embedded j3 b3.2
  simp only [le16_size] at e2 e3 x1 x2 x3 x4
  rw [show start + 2 + 2 = start + 4 from rfl] at e3
  rw [show start + 2 + 2 + 2 = start + 6 from rfl] at x1 x2 x3 x4
  rw [← hcat] at h
  unfold decode4
  simp only [bind, Except.bind, throw, throwThe, MonadExceptOf.throw, e1, e2, e3]
  rw [if_neg (by omega), if_neg (by omega), if_neg (by omega), if_neg (by omega)]
  generalize (decide (_ ≥ 8) && decide (_ ≥ 8) && decide (_ ≥ 8) && decide (_ ≥ 8)) = fast
  have d1 := huf_decode1_bytes_at ok hlog used s1 (fun s hs => h s (by simp [hs])) src (start + 6) x1 out fast
  have d2 := huf_decode1_bytes_at ok hlog used s2 (fun s hs => h s (by simp [hs])) src _ x2 (out ++ litBytes s1) fast
  have d3 := huf_decode1_bytes_at ok hlog used s3 (fun s hs => h s (by simp [hs])) src _ x3
    (out ++ litBytes s1 ++ litBytes s2) fast
  have d4 := huf_decode1_bytes_at ok hlog used s4 (fun s hs => h s (by simp [hs])) src _ x4
    (out ++ litBytes s1 ++ litBytes s2 ++ litBytes s3) fast
  rw [hl1] at d1; rw [hl2] at d2; rw [hl3] at d3; rw [hl4] at d4
  rw [d1]; simp only []
  rw [d2]; simp only []
  rw [d3]; simp only []
  rw [hsz, Nat.add_sub_cancel_left, d4, ← hcat, litBytes_append, litBytes_append, litBytes_append]
  simp only [ByteArray.append_assoc]

theorem huf_decode4_bytes {weights : Array Nat} {log : Nat} (ok : WeightsOK weights log) (hlog : log ≤ 56) (used : Nat)
    (lits : List Nat) (h : ∀ s ∈ lits, ∃ hs : s < weights.size, 0 < weights[s]) (blob : ByteArray)
    (hc : compress4 ofFields (codesOf weights log) lits = some blob) (out : ByteArray) :
    decode4 (buildTable ⟨weights, log, used⟩) blob 0 blob.size lits.length out = .ok (out ++ litBytes lits) :=
  huf_decode4_bytes_at ok hlog used lits h blob hc blob 0 (by rw [Nat.zero_add]; exact ByteArray.extract_zero_size) out

/-! ### non-vacuity: weights 2,1,1 with tableLog 2 (codes 1, 00, 01), literals 2 0 0 1 -/

example : ofFields (encode1 (codesOf #[2, 1, 1] 2) [2, 0, 0, 1]) = ⟨#[0x5c]⟩ := by decide
example : WeightsOK #[2, 1, 1] 2 := by decide
example : decode1 (buildTable ⟨#[2, 1, 1], 2, 0⟩) (ofFields (encode1 (codesOf #[2, 1, 1] 2) [2, 0, 0, 1])) 0
    (ofFields (encode1 (codesOf #[2, 1, 1] 2) [2, 0, 0, 1])).size 4 ByteArray.empty false
    = .ok (ByteArray.empty ++ litBytes [2, 0, 0, 1]) :=
  huf_decode1_bytes (weights := #[2, 1, 1]) (log := 2) (by decide) (by decide) 0 [2, 0, 0, 1] (by decide) ByteArray.empty

end ZstdVerif.HufBytes
