/-
Round trip of the LITERALS SECTION of a compressed block: what the writer model (Model/LitEnc.lean, tied byte for byte to
ZSTD_noCompressLiterals / ZSTD_compressRleLiteralsBlock / ZSTD_compressLiterals by tools/ent_lit.py) emits, the decoder model
`Block.decodeLiterals` (ZSTD_decodeLiteralsBlock) reads back: same literals, exactly the section consumed, same mode; the section sits
at `start` inside `src` and is followed by arbitrary further bytes.
Each round trip has two halves that meet in the header fields as the decoder computes them (`basicFields`, `hufFields`): what
`Block.decodeLiterals` does once these fields are known (`decodeLiterals_basic`, `decodeLiterals_huf`), and which fields the written
header yields (`basicHeader_parse`, `compressedHeader_parse`).  The last third reads the direct (4-bit) tree description back
(`statsTail_weights`, `readStats_direct`).  Lemmas/BlockRT.lean and Lemmas/WeightsRT.lean take the section theorems
`literals_roundtrip_raw` / `_rle` / `_compressed` / `_treeless`, the general `literals_roundtrip_huf` and the size lemmas.
-/
import ZstdVerif.Lemmas.HufBytes
import ZstdVerif.Model.LitEnc
import ZstdVerif.Model.Block
namespace ZstdVerif.LitRT
open ZstdVerif.LitEnc ZstdVerif.Block ZstdVerif.HufBytes

theorem le_size (v k : Nat) : (le v k).size = k := by
  unfold le; rw [BitW.size_pushLE]; simp

theorem le_u8 (v k i : Nat) (hi : i < k) : (le v k).u8 i = v / 2 ^ (8 * i) % 256 := by
  unfold le
  have := BitW.u8_pushLE_ge ByteArray.empty v k i (by simp) (by simpa using hi)
  simpa using this

/-- a `k`-byte little-endian header in front of an embedded section, as MEM_readLE16 / 24 / 32 see it -/
theorem hdr_le {src : ByteArray} {s : Nat} (v k : Nat) (rest : ByteArray)
    (h : src.extract s (s + (le v k ++ rest).size) = le v k ++ rest) :
    (1 ≤ k → src.u8 s = v % 2 ^ 8) ∧ (2 ≤ k → src.le16 s = v % 2 ^ 16) ∧ (3 ≤ k → src.le24 s = v % 2 ^ 24) ∧
      (4 ≤ k → src.le32 s = v % 2 ^ 32) := by
  have hb : ∀ i, i < k → src.u8 (s + i) = v / 2 ^ (8 * i) % 256 := fun i hi => by
    rw [u8_embedded h i (by rw [ByteArray.size_append, le_size]; omega), ByteArray.u8_append_left _ _ _ (by rw [le_size]; exact hi),
      le_u8 _ _ _ hi]
  have h8 : 1 ≤ k → src.u8 s = v % 2 ^ 8 := fun hk => by
    have := hb 0 (by omega)
    rwa [Nat.add_zero, Nat.mul_zero, Nat.pow_zero, Nat.div_one] at this
  have h16 : 2 ≤ k → src.le16 s = v % 2 ^ 16 := fun hk => by
    unfold ByteArray.le16
    rw [h8 (by omega), hb 1 (by omega), Nat.shiftLeft_eq, show (2 : Nat) ^ 16 = 2 ^ 8 * 2 ^ 8 from rfl, Nat.mod_mul, Nat.mul_comm]
  have h24 : 3 ≤ k → src.le24 s = v % 2 ^ 24 := fun hk => by
    rw [show src.le24 s = src.le16 s + src.u8 (s + 2) <<< 16 from rfl, h16 (by omega), hb 2 (by omega), Nat.shiftLeft_eq,
      show (2 : Nat) ^ 24 = 2 ^ 16 * 2 ^ 8 from rfl, Nat.mod_mul, Nat.mul_comm]
  refine ⟨h8, h16, h24, fun hk => ?_⟩
  rw [show src.le32 s = src.le24 s + src.u8 (s + 3) <<< 24 from rfl, h24 (by omega), hb 3 (by omega), Nat.shiftLeft_eq,
    show (2 : Nat) ^ 32 = 2 ^ 24 * 2 ^ 8 from rfl, Nat.mod_mul, Nat.mul_comm]

theorem body_embedded {src : ByteArray} {s : Nat} (hdr body : ByteArray)
    (h : src.extract s (s + (hdr ++ body).size) = hdr ++ body) :
    src.extract (s + hdr.size) (s + hdr.size + body.size) = body :=
  (embedded_append h).2

theorem body_u8 {src : ByteArray} {s : Nat} (hdr body : ByteArray)
    (h : src.extract s (s + (hdr ++ body).size) = hdr ++ body) (i : Nat) (hi : i < body.size) :
    src.u8 (s + hdr.size + i) = body.u8 i := by
  rw [Nat.add_assoc, u8_embedded h (hdr.size + i) (by rw [ByteArray.size_append]; omega), ByteArray.u8_append_right]

theorem u8_singleton (x : UInt8) : ([x].toByteArray).u8 0 = x.toNat := by
  rw [ByteArray.u8_of_lt _ _ (by simp [List.size_toByteArray])]
  simp [List.getElem_toByteArray]

theorem and15 (x : Nat) : x &&& 15 = x % 16 := Nat.and_two_pow_sub_one_eq_mod x 4
theorem and1023 (x : Nat) : x &&& 1023 = x % 1024 := Nat.and_two_pow_sub_one_eq_mod x 10
theorem and16383 (x : Nat) : x &&& 16383 = x % 16384 := Nat.and_two_pow_sub_one_eq_mod x 14
theorem and262143 (x : Nat) : x &&& 262143 = x % 262144 := Nat.and_two_pow_sub_one_eq_mod x 18

/-- the header of a raw or RLE section as ZSTD_decodeLiteralsBlock reads it: (lhSize, litSize); the expressions are those of
`Block.decodeLiterals` token for token, so that `simp` meets them in the unfolded decoder -/
def basicFields (src : Bytes) (start : Nat) : Nat × Nat :=
  let b0 := src.u8 start
  let lhl := (b0 >>> 2) &&& 3
  if lhl == 0 || lhl == 2 then (1, b0 >>> 3) else if lhl == 1 then (2, src.le16 start >>> 4) else (3, src.le24 start >>> 4)

theorem decodeLiterals_basic {src : Bytes} {start srcSize : Nat} {ent : Entropy} {bsm dstCap ty lh n : Nat}
    (hty : src.u8 start &&& 3 = ty) (h01 : ty = 0 ∨ ty = 1) (hf : basicFields src start = (lh, n))
    (hmin : 2 ≤ srcSize) (hbsm : n ≤ bsm) (hcap : n ≤ dstCap) (hsz : lh + (if ty = 0 then n else 1) ≤ srcSize) :
    decodeLiterals src start srcSize ent bsm dstCap = .ok
      (if ty = 0 then { lits := src.extract (start + lh) (start + lh + n), used := lh + n, ent := ent, mode := .raw, streams := 1 }
       else { lits := ByteArray.mk (Array.replicate n (UInt8.ofNat (src.u8 (start + lh)))), used := lh + 1, ent := ent, mode := .rle,
              streams := 1 }) := by
  have c1 : ¬ srcSize < Gen.MIN_CBLOCK_SIZE := by unfold Gen.MIN_CBLOCK_SIZE; omega
  have c2 : ¬ n > bsm := by omega
  have c3 : ¬ min bsm dstCap < n := by omega
  simp only [basicFields] at hf
  unfold decodeLiterals
  rcases h01 with rfl | rfl
  · simp only [if_true] at hsz
    have c4 : ¬ n + lh > srcSize := by omega
    split at hf
    · next h1 =>
      cases hf
      simp only [bind, Except.bind, pure, Except.pure, hty, h1, c1, c2, c3, c4, ↓reduceIte, Nat.reduceBEq, Bool.or_self,
        Bool.false_eq_true]
    · next h1 =>
      split at hf
      · next h2 =>
        cases hf
        simp only [bind, Except.bind, pure, Except.pure, hty, h1, h2, c1, c2, c3, c4, ↓reduceIte, Nat.reduceBEq, Bool.or_self,
          Bool.false_eq_true, Bool.false_and]
      · next h2 =>
        cases hf
        have c5 : ¬ srcSize < 3 := by omega
        simp only [bind, Except.bind, pure, Except.pure, hty, h1, h2, c1, c2, c3, c4, c5, ↓reduceIte, Nat.reduceBEq, Bool.or_self,
          Bool.false_eq_true]
  · simp only [Nat.reduceEqDiff, if_false] at hsz
    split at hf
    · next h1 =>
      cases hf
      simp only [bind, Except.bind, pure, Except.pure, hty, h1, c1, c2, c3, ↓reduceIte, Nat.reduceBEq, Bool.or_self,
        Bool.false_eq_true, Nat.reduceEqDiff]
    · next h1 =>
      split at hf
      · next h2 =>
        cases hf
        have c5 : ¬ srcSize < 3 := by omega
        simp only [bind, Except.bind, pure, Except.pure, hty, h1, h2, c1, c2, c3, c5, ↓reduceIte, Nat.reduceBEq, Bool.or_self,
          Bool.false_eq_true, Nat.reduceEqDiff, Bool.true_and, decide_false]
      · next h2 =>
        cases hf
        have c5 : ¬ srcSize < 4 := by omega
        simp only [bind, Except.bind, pure, Except.pure, hty, h1, h2, c1, c2, c3, c5, ↓reduceIte, Nat.reduceBEq, Bool.or_self,
          Bool.false_eq_true, Nat.reduceEqDiff]

theorem basicHeader_parse {src : ByteArray} {start : Nat} (ty n : Nat) (rest : ByteArray) (hty : ty < 4) (hn : n < 2 ^ 20)
    (h : src.extract start (start + (basicHeader ty n ++ rest).size) = basicHeader ty n ++ rest) :
    src.u8 start &&& 3 = ty ∧ basicFields src start = ((basicHeader ty n).size, n) := by
  unfold basicHeader at h ⊢
  unfold basicFields
  simp only [and3, Nat.shiftRight_eq_div_pow, Nat.shiftLeft_eq] at h ⊢
  by_cases h31 : n ≤ 31
  · rw [if_pos h31] at h ⊢
    generalize hv : ty + n * 2 ^ 3 = v at h
    obtain ⟨h0, -⟩ := hdr_le v 1 rest h
    rw [le_size, h0 (by decide)]
    have hl : v % 2 ^ 8 / 2 ^ 2 % 4 = 0 ∨ v % 2 ^ 8 / 2 ^ 2 % 4 = 2 := by omega
    refine ⟨by omega, ?_⟩
    rcases hl with hl | hl <;> rw [hl, if_pos (by decide), show v % 2 ^ 8 / 2 ^ 3 = n by omega]
  · rw [if_neg h31] at h ⊢
    by_cases h4095 : n ≤ 4095
    · rw [if_pos h4095] at h ⊢
      generalize hv : ty + 1 * 2 ^ 2 + n * 2 ^ 4 = v at h
      obtain ⟨h0, h16, -⟩ := hdr_le v 2 rest h
      rw [le_size, h0 (by decide), h16 (by decide)]
      refine ⟨by omega, ?_⟩
      rw [show v % 2 ^ 8 / 2 ^ 2 % 4 = 1 by omega, if_neg (by decide), if_pos (by decide), show v % 2 ^ 16 / 2 ^ 4 = n by omega]
    · rw [if_neg h4095] at h ⊢
      generalize hv : ty + 3 * 2 ^ 2 + n * 2 ^ 4 = v at h
      obtain ⟨h0, -, h24, -⟩ := hdr_le v 3 rest h
      rw [le_size, h0 (by decide), h24 (by decide)]
      refine ⟨by omega, ?_⟩
      rw [show v % 2 ^ 8 / 2 ^ 2 % 4 = 3 by omega, if_neg (by decide), if_neg (by decide), show v % 2 ^ 24 / 2 ^ 4 = n by omega]

/-- RAW LITERALS.  The section written by ZSTD_noCompressLiterals for `lits` (any size below 2^20, the width of the size field) is
decoded by ZSTD_decodeLiteralsBlock to `lits`, consuming exactly the section.  The regenerated size respects the frame's block size
limit and the output room: the writer's callers guarantee both. -/
theorem literals_roundtrip_raw (lits : ByteArray) (src : Bytes) (start srcSize : Nat) (ent : Entropy) (bsm dstCap : Nat)
    (hsec : src.extract start (start + (rawLiterals lits).size) = rawLiterals lits)
    (h20 : lits.size < 2 ^ 20) (hbsm : lits.size ≤ bsm) (hcap : lits.size ≤ dstCap)
    (hsz : (rawLiterals lits).size ≤ srcSize) (hmin : Gen.MIN_CBLOCK_SIZE ≤ srcSize) :
    decodeLiterals src start srcSize ent bsm dstCap
      = .ok { lits := lits, used := (rawLiterals lits).size, ent := ent, mode := .raw, streams := 1 } := by
  unfold rawLiterals at hsec hsz ⊢
  obtain ⟨hty, hf⟩ := basicHeader_parse set_basic lits.size lits (by decide) h20 hsec
  rw [ByteArray.size_append] at hsz ⊢
  rw [decodeLiterals_basic (ty := 0) hty (Or.inl rfl) hf hmin hbsm hcap hsz, if_pos rfl, body_embedded _ lits hsec]

/-- `n` copies of one byte -/
def rleBytes (n : Nat) (b : UInt8) : ByteArray := ByteArray.mk (Array.replicate n b)

theorem rleBytes_size (n : Nat) (b : UInt8) : (rleBytes n b).size = n := by
  simp [rleBytes, ByteArray.size]

theorem rleBytes_first (n : Nat) (b : UInt8) : ByteArray.mk (Array.replicate n (rleBytes n b)[0]!) = rleBytes n b := by
  cases n with
  | zero => rfl
  | succ n =>
    have h : 0 < (rleBytes (n + 1) b).size := by rw [rleBytes_size]; omega
    rw [getElem!_pos _ 0 h]
    simp [rleBytes, ByteArray.getElem_eq_getElem_data]

/-- RLE LITERALS.  The section written by ZSTD_compressRleLiteralsBlock for `n < 2^20` copies of the byte `b` is decoded by
ZSTD_decodeLiteralsBlock to those `n` bytes, consuming exactly the section. -/
theorem literals_roundtrip_rle (n : Nat) (b : UInt8) (src : Bytes) (start srcSize : Nat) (ent : Entropy) (bsm dstCap : Nat)
    (hsec : src.extract start (start + (rleLiterals (rleBytes n b)).size) = rleLiterals (rleBytes n b))
    (h20 : n < 2 ^ 20) (hbsm : n ≤ bsm) (hcap : n ≤ dstCap)
    (hsz : (rleLiterals (rleBytes n b)).size ≤ srcSize) (hmin : Gen.MIN_CBLOCK_SIZE ≤ srcSize) :
    decodeLiterals src start srcSize ent bsm dstCap
      = .ok { lits := rleBytes n b, used := (rleLiterals (rleBytes n b)).size, ent := ent, mode := .rle, streams := 1 } := by
  unfold rleLiterals at hsec hsz ⊢
  rw [rleBytes_size, ← ByteArray.append_toByteArray_singleton] at hsec hsz ⊢
  obtain ⟨hty, hf⟩ := basicHeader_parse set_rle n _ (by decide) h20 hsec
  have hbyte := body_u8 _ _ hsec 0 (by simp [List.size_toByteArray])
  rw [Nat.add_zero, u8_singleton] at hbyte
  rw [ByteArray.size_append] at hsz ⊢
  rw [decodeLiterals_basic (ty := 1) hty (Or.inr rfl) hf hmin hbsm hcap hsz, if_neg Nat.one_ne_zero, hbyte, UInt8.ofNat_toNat,
    rleBytes_first]
  rfl

/-- the header of a Huffman-coded section as ZSTD_decodeLiteralsBlock reads it: (singleStream, lhSize, litSize, litCSize); the expressions
are those of `Block.decodeLiterals` token for token -/
def hufFields (src : Bytes) (start : Nat) : Bool × Nat × Nat × Nat :=
  let lhl := (src.u8 start >>> 2) &&& 3
  let lhc := src.le32 start
  if lhl == 0 || lhl == 1 then (lhl == 0, 3, (lhc >>> 4) &&& 0x3FF, (lhc >>> 14) &&& 0x3FF)
  else if lhl == 2 then (false, 4, (lhc >>> 4) &&& 0x3FFF, lhc >>> 18)
  else (false, 5, (lhc >>> 4) &&& 0x3FFFF, (lhc >>> 22) + (src.u8 (start + 4) <<< 10))

/-- `ty = 2`: a new tree description of `tused` bytes that HUF_readStats accepts; `ty = 3`: the table of an earlier block (`tused = 0`).
The streams are the `c - tused` bytes behind the description. -/
theorem decodeLiterals_huf {src : Bytes} {start srcSize : Nat} {ent : Entropy} {bsm dstCap ty lh n c tused : Nat} {single : Bool}
    {table : Huf.Table} {lits : ByteArray}
    (hty : src.u8 start &&& 3 = ty) (hf : hufFields src start = (single, lh, n, c))
    (htab : ty = 2 ∧ (∃ st, Huf.readStats src (start + lh) c = .ok st ∧ Huf.buildTable st = table ∧ st.used = tused) ∧ tused ≤ c
          ∨ ty = 3 ∧ ent.huf = some table ∧ tused = 0)
    (h5 : 5 ≤ srcSize) (hbsm : n ≤ bsm) (hcap : n ≤ dstCap) (h4 : single = false → 6 ≤ n) (hsz : c + lh ≤ srcSize)
    (hdec : (if single then Huf.decode1 table src (start + lh + tused) (c - tused) n ByteArray.empty
             else Huf.decode4 table src (start + lh + tused) (c - tused) n ByteArray.empty) = .ok lits) :
    decodeLiterals src start srcSize ent bsm dstCap =
      .ok { lits := lits, used := c + lh, ent := { ent with huf := some table },
            mode := if ty = 2 then .compressed else .treeless, streams := if single then 1 else 4 } := by
  simp only [hufFields] at hf
  have c1 : ¬ srcSize < Gen.MIN_CBLOCK_SIZE := by unfold Gen.MIN_CBLOCK_SIZE; omega
  have c2 : ¬ srcSize < 5 := by omega
  have c3 : ¬ n > bsm := by omega
  have c4 : ¬ min bsm dstCap < n := by omega
  have c5 : ¬ c + lh > srcSize := by omega
  have c6 : (!single && decide (n < Gen.MIN_LITERALS_FOR_4_STREAMS)) = false := by
    cases single
    · exact decide_eq_false (Nat.not_lt.2 (h4 rfl))
    · rfl
  unfold decodeLiterals
  rcases htab with ⟨rfl, ⟨st, hst, rfl, rfl⟩, hu⟩ | ⟨rfl, hent, rfl⟩
  · have c7 : ¬ st.used > c := by omega
    simp only [bind, Except.bind, pure, Except.pure, hty, hf, c1, c2, c3, c4, c5, c6, c7, hst, hdec, ↓reduceIte, Nat.reduceBEq,
      Bool.or_false, Bool.false_and, Bool.false_eq_true]
  · simp only [Nat.add_zero, Nat.sub_zero] at hdec
    simp only [bind, Except.bind, pure, Except.pure, hty, hf, c1, c2, c3, c4, c5, c6, hent, hdec, ↓reduceIte, Nat.reduceBEq,
      Bool.or_true, Bool.true_and, Bool.false_eq_true, Option.isNone_some, Option.getD_some, Nat.reduceEqDiff]

theorem compressedHeader_size (t : Nat) (single : Bool) (n c : Nat) : (compressedHeader t single n c).size = lhSize n := by
  unfold compressedHeader lhSize
  by_cases hA : n < 1024
  · rw [if_pos hA, le_size, if_neg (by omega), if_neg (by omega)]
  · by_cases hB : n < 16384
    · rw [if_neg hA, if_pos hB, le_size, if_pos (by omega), if_neg (by omega)]
    · rw [if_neg hA, if_neg hB, ByteArray.size_append, le_size, le_size, if_pos (by omega), if_pos (by omega)]

/-- a single stream is announced by the 3-byte format only; `c < n`: the compressed size is below the regenerated size (ZSTD_minGain) -/
theorem compressedHeader_parse {src : ByteArray} {start : Nat} (hType : Nat) (single : Bool) (n c : Nat) (rest : ByteArray)
    (hT : hType < 4) (hsingle : single = true → n < 1024) (hc : c < n) (hn : n < 2 ^ 18)
    (h : src.extract start (start + (compressedHeader hType single n c ++ rest).size) = compressedHeader hType single n c ++ rest) :
    src.u8 start &&& 3 = hType ∧ hufFields src start = (single, lhSize n, n, c) := by
  rw [← compressedHeader_size hType single n c]
  unfold compressedHeader at h ⊢
  unfold hufFields
  simp only [and3, and1023, and16383, and262143, Nat.shiftRight_eq_div_pow, Nat.shiftLeft_eq] at h ⊢
  by_cases hA : n < 1024
  · rw [if_pos hA] at h ⊢
    have hg : (if single = true then 0 else 1) < 2 := by split <;> decide
    generalize hv : hType + (if single = true then 0 else 1) * 2 ^ 2 + n * 2 ^ 4 + c * 2 ^ 14 = v at h
    obtain ⟨h0, -, h24, -⟩ := hdr_le v 3 rest h
    have b3 := ByteArray.u8_lt src (start + 3)
    rw [le_size, ByteArray.le32_eq_le24, h0 (by decide), h24 (by decide)]
    refine ⟨by omega, ?_⟩
    rw [show v % 2 ^ 8 / 2 ^ 2 % 4 = if single = true then 0 else 1 by omega,
      show (v % 2 ^ 24 + src.u8 (start + 3) * 2 ^ 24) / 2 ^ 4 % 1024 = n by omega,
      show (v % 2 ^ 24 + src.u8 (start + 3) * 2 ^ 24) / 2 ^ 14 % 1024 = c by omega]
    cases single <;> rfl
  · have hs : single = false := by
      cases single
      · rfl
      · exact absurd (hsingle rfl) hA
    subst hs
    rw [if_neg hA] at h ⊢
    by_cases hB : n < 16384
    · rw [if_pos hB] at h ⊢
      generalize hv : hType + 2 * 2 ^ 2 + n * 2 ^ 4 + c * 2 ^ 18 = v at h
      obtain ⟨h0, -, -, h32⟩ := hdr_le v 4 rest h
      rw [le_size, h0 (by decide), h32 (by decide)]
      refine ⟨by omega, ?_⟩
      rw [show v % 2 ^ 8 / 2 ^ 2 % 4 = 2 by omega, show v % 2 ^ 32 / 2 ^ 4 % 16384 = n by omega,
        show v % 2 ^ 32 / 2 ^ 18 = c by omega]
      rfl
    · rw [if_neg hB, ByteArray.append_assoc] at h
      rw [if_neg hB]
      have h4 := (hdr_le _ 1 rest (body_embedded _ _ h)).1 (by decide)
      generalize hv : hType + 3 * 2 ^ 2 + n * 2 ^ 4 + c * 2 ^ 22 = v at h
      obtain ⟨h0, -, -, h32⟩ := hdr_le v 4 _ h
      rw [le_size] at h4
      rw [ByteArray.size_append, le_size, le_size, h0 (by decide), h32 (by decide), h4]
      refine ⟨by omega, ?_⟩
      rw [show v % 2 ^ 8 / 2 ^ 2 % 4 = 3 by omega, show v % 2 ^ 32 / 2 ^ 4 % 262144 = n by omega,
        show v % 2 ^ 32 / 2 ^ 22 + c / 2 ^ 10 % 2 ^ 8 * 2 ^ 10 = c by omega]
      rfl

theorem streams_decode {weights : Array Nat} {log : Nat} (ok : HufRT.WeightsOK weights log) (hlog : log ≤ 56) (used : Nat)
    (single : Bool) (syms : List Nat) (hsyms : ∀ s ∈ syms, ∃ hs : s < weights.size, 0 < weights[s]) (streams : ByteArray)
    (hstreams : hufStreams single (HufEnc.codesOf weights log) syms = some streams) (src : Bytes) (pos : Nat)
    (hsrc : src.extract pos (pos + streams.size) = streams) :
    (if single = true then Huf.decode1 (Huf.buildTable ⟨weights, log, used⟩) src pos streams.size syms.length ByteArray.empty
      else Huf.decode4 (Huf.buildTable ⟨weights, log, used⟩) src pos streams.size syms.length ByteArray.empty)
      = .ok (litBytes syms) := by
  unfold hufStreams at hstreams
  cases single with
  | true =>
    simp only [if_true] at hstreams ⊢
    injection hstreams with hstreams
    subst hstreams
    rw [huf_decode1_bytes_at ok hlog used syms hsyms src pos hsrc, ByteArray.empty_append]
  | false =>
    simp only [Bool.false_eq_true, if_false] at hstreams ⊢
    rw [huf_decode4_bytes_at ok hlog used syms hsyms streams hstreams src pos hsrc, ByteArray.empty_append]

/-- COMPRESSED LITERALS, given a table.  `src` holds at `start` the section that ZSTD_compressLiterals builds (`compressedLiterals`:
3/4/5-byte header of type `hType`, tree description `wh`, `streams` = `hufStreams` of the literals `syms` under the codes of `weights`).
IF the decoder comes by the table of these weights - `set_compressed`: HUF_readStats reads `wh` back as `weights` / `log`, consuming
exactly `wh`; `set_repeat`: no description, the decoder holds the table already - THEN ZSTD_decodeLiteralsBlock returns exactly the
literals, consumes exactly the section and installs (keeps) the table.
Size hypotheses are the ones the C writer enforces: compressed size below the regenerated size (ZSTD_minGain), at most 128 KB of
literals (HUF_BLOCKSIZE_MAX), a single stream only below 1 KB (3-byte header). -/
theorem literals_roundtrip_huf (hType : Nat) (single : Bool) (wh streams : ByteArray) (syms : List Nat) (weights : Array Nat)
    (log used : Nat) (ok : HufRT.WeightsOK weights log) (hlog : log ≤ 56)
    (src : Bytes) (start srcSize : Nat) (ent : Entropy) (bsm dstCap : Nat)
    (hsec : src.extract start (start + (compressedLiterals single wh streams syms.length hType).size)
      = compressedLiterals single wh streams syms.length hType)
    (htab : hType = set_compressed ∧
              Huf.readStats src (start + lhSize syms.length) (wh.size + streams.size) = .ok ⟨weights, log, used⟩ ∧ used = wh.size
          ∨ hType = set_repeat ∧ ent.huf = some (Huf.buildTable ⟨weights, log, used⟩) ∧ wh = ByteArray.empty)
    (hsyms : ∀ s ∈ syms, ∃ hs : s < weights.size, 0 < weights[s])
    (hstreams : hufStreams single (HufEnc.codesOf weights log) syms = some streams)
    (hsingle : single = true → syms.length < 1024)
    (hc : wh.size + streams.size < syms.length) (hn : syms.length ≤ 2 ^ 17)
    (hbsm : syms.length ≤ bsm) (hcap : syms.length ≤ dstCap)
    (hsz : (compressedLiterals single wh streams syms.length hType).size ≤ srcSize) (h5 : 5 ≤ srcSize) :
    decodeLiterals src start srcSize ent bsm dstCap
      = .ok { lits := litBytes syms, used := (compressedLiterals single wh streams syms.length hType).size,
              ent := { ent with huf := some (Huf.buildTable ⟨weights, log, used⟩) },
              mode := if hType = set_compressed then .compressed else .treeless, streams := if single then 1 else 4 } := by
  have hT : hType < 4 := by rcases htab with ⟨rfl, -⟩ | ⟨rfl, -⟩ <;> decide
  have hsize : (compressedLiterals single wh streams syms.length hType).size = wh.size + streams.size + lhSize syms.length := by
    unfold compressedLiterals
    rw [ByteArray.size_append, ByteArray.size_append, compressedHeader_size]; omega
  rw [hsize] at hsz ⊢
  unfold compressedLiterals at hsec
  obtain ⟨hty, hf⟩ := compressedHeader_parse hType single syms.length (wh.size + streams.size) (wh ++ streams) hT hsingle hc
    (by omega) (by rw [← ByteArray.append_assoc]; exact hsec)
  have hstr := body_embedded (_ ++ wh) streams hsec
  rw [ByteArray.size_append, compressedHeader_size, ← Nat.add_assoc] at hstr
  have hdec := streams_decode ok hlog used single syms hsyms streams hstreams src _ hstr
  have hlen : wh.size + streams.size - wh.size = streams.size := Nat.add_sub_cancel_left _ _
  refine decodeLiterals_huf (tused := wh.size) hty hf ?_ h5 hbsm hcap ?_ hsz (by rw [hlen]; exact hdec)
  · rcases htab with ⟨rfl, hst, rfl⟩ | ⟨rfl, hent, rfl⟩
    · exact Or.inl ⟨rfl, ⟨_, hst, rfl, rfl⟩, by omega⟩
    · exact Or.inr ⟨rfl, hent, rfl⟩
  · intro hs
    subst hs
    have := HufRT.compress4_accepts hstreams
    omega

open ZstdVerif.HufRT ZstdVerif.HufEnc in
/-- the weight-summing loop of HUF_readStats_body; the loop body is that of `Huf.readStats` as `simp` leaves it -/
theorem weights_loop_fwd (hmax : Nat) (e : Err) (l : List Nat) (hl : ∀ w ∈ l, w ≤ hmax) (t r : Nat) :
    forIn l (t, r) (fun w (s : Nat × Nat) =>
      if w > hmax then (Except.error e : R (ForInStep (Nat × Nat)))
      else if (w == 1) = true then Except.ok (ForInStep.yield (s.fst + 1 <<< w >>> 1, s.snd + 1))
      else Except.ok (ForInStep.yield (s.fst + 1 <<< w >>> 1, s.snd)))
      = Except.ok (t + kraftSum l, r + l.count 1) := by
  induction l generalizing t r with
  | nil => simp only [List.forIn_nil, kraftSum, List.count_nil, Nat.add_zero]; rfl
  | cons w l ih =>
    have hw : ¬ w > hmax := by have := hl w List.mem_cons_self; omega
    rw [List.forIn_cons, if_neg hw]
    by_cases h1 : w = 1
    · subst h1
      simp only [BEq.rfl, if_true, bind, Except.bind]
      rw [ih (fun x hx => hl x (List.mem_cons_of_mem _ hx))]
      simp only [kraftSum, List.count_cons_self]
      congr 2 <;> omega
    · have hb : (w == 1) = false := by simpa using h1
      simp only [hb, Bool.false_eq_true, if_false, bind, Except.bind]
      rw [ih (fun x hx => hl x (List.mem_cons_of_mem _ hx))]
      have hcnt : List.count 1 (w :: l) = List.count 1 l := by
        rw [List.count_cons]; simp [h1]
      simp only [kraftSum, hcnt]
      congr 2; omega

theorem nibble_loop (g : Nat → Nat) (k i : Nat) (acc : Array Nat) :
    forIn (List.range' i k) acc (fun n (s : Array Nat) => (Except.ok (ForInStep.yield (s.push (g n))) : R _))
      = Except.ok (acc ++ ((List.range' i k).map g).toArray) := by
  induction k generalizing i acc with
  | zero => simp only [List.range'_zero, List.forIn_nil, List.map_nil, Array.append_empty]; rfl
  | succ k ih =>
    rw [List.range'_succ, List.forIn_cons]
    simp only [bind, Except.bind]
    rw [ih]
    simp

/-- nibble `n` of a packed byte list -/
def nib (bytes : List UInt8) (n : Nat) : Nat :=
  if n % 2 == 0 then ((bytes[n / 2]?.map UInt8.toNat).getD 0) >>> 4 else ((bytes[n / 2]?.map UInt8.toNat).getD 0) &&& 15

theorem nib_cons (x : UInt8) (bytes : List UInt8) (n : Nat) : nib (x :: bytes) (n + 2) = nib bytes n := by
  unfold nib
  have e1 : (n + 2) % 2 = n % 2 := by omega
  have e2 : (n + 2) / 2 = n / 2 + 1 := by omega
  rw [e1, e2, List.getElem?_cons_succ]

/-- HUF_writeCTable_wksp packs, HUF_readStats_body unpacks: weights below 16 survive -/
theorem nib_packNibbles (ws : List Nat) (hws : ∀ w ∈ ws, w < 16) (n : Nat) (hn : n < ws.length) :
    nib (packNibbles ws) n = ws[n] := by
  fun_induction packNibbles ws generalizing n with
  | case1 => simp at hn
  | case2 a =>
    have ha := hws a (by simp)
    have : n = 0 := by simpa using hn
    subst this
    simp only [nib, Nat.zero_mod, BEq.rfl, if_true, Nat.zero_div, List.getElem?_cons_zero, Option.map_some, Option.getD_some,
      List.getElem_cons_zero, BitW.ofNat_toNat, Nat.shiftLeft_eq, Nat.shiftRight_eq_div_pow]
    omega
  | case3 a b rest ih =>
    have ha := hws a (by simp)
    have hb := hws b (by simp)
    match n with
    | 0 =>
      simp only [nib, Nat.zero_mod, BEq.rfl, if_true, Nat.zero_div, List.getElem?_cons_zero, Option.map_some, Option.getD_some,
        List.getElem_cons_zero, BitW.ofNat_toNat, Nat.shiftLeft_eq, Nat.shiftRight_eq_div_pow]
      omega
    | 1 =>
      simp only [nib, Nat.reduceMod, Nat.reduceBEq, Bool.false_eq_true, if_false, Nat.reduceDiv, List.getElem?_cons_zero,
        Option.map_some, Option.getD_some, List.getElem_cons_succ, List.getElem_cons_zero, BitW.ofNat_toNat, Nat.shiftLeft_eq,
        and15]
      omega
    | n + 2 =>
      rw [nib_cons, ih (fun w hw => hws w (by simp [hw])) n (by simpa using hn)]
      simp

open ZstdVerif.HufRT ZstdVerif.HufEnc in
/-- used for the one check of HUF_readStats_body that rejects an odd number of weight-1 symbols -/
theorem kraft_parity (l : List Nat) : kraftSum l % 2 = l.count 1 % 2 := by
  induction l with
  | nil => rfl
  | cons w l ih =>
    have hw : ((1 <<< w) >>> 1) % 2 = if w = 1 then 1 else 0 := by
      match w with
      | 0 => rfl
      | 1 => rfl
      | w + 2 =>
        have := wlen_succ (w + 1)
        unfold wlen at this
        rw [this, Nat.pow_succ]; simp
    rw [kraftSum, List.count_cons]
    by_cases h1 : w = 1
    · subst h1; simp only [BEq.rfl, if_true] at hw ⊢; omega
    · have hb : (w == 1) = false := by simpa using h1
      simp only [h1, hb, if_false, Bool.false_eq_true] at hw ⊢; omega

open ZstdVerif.HufRT ZstdVerif.HufEnc in
/-- the arithmetic of HUF_readStats_body on the weights of all symbols but the last -/
theorem direct_math (ws : List Nat) (last log : Nat) (ok : WeightsOK (ws.toArray.push last) log) (hlast : 0 < last) :
    kraftSum ws ≠ 0 ∧ highbit (kraftSum ws) + 1 = log ∧ 1 <<< log - kraftSum ws = 2 ^ (last - 1) ∧
      (ws.count 1 + if last = 1 then 1 else 0) % 2 = 0 := by
  have hk := ok.kraft
  have hle : last ≤ log := ok.le_log last (by simp)
  have hpos := ok.log_pos
  rw [Array.toList_push, List.toList_toArray, kraftSum_append] at hk
  simp only [kraftSum, Nat.add_zero] at hk
  have hwl : (1 <<< last) >>> 1 = 2 ^ (last - 1) := wlen_pos hlast
  rw [hwl] at hk
  have hmono : 2 ^ (last - 1) ≤ 2 ^ (log - 1) := Nat.pow_le_pow_right (by decide) (by omega)
  have hsplit : 2 ^ log = 2 * 2 ^ (log - 1) := by
    rw [← Nat.pow_succ']; congr 1; omega
  have hpp := Nat.two_pow_pos (last - 1)
  have hne : kraftSum ws ≠ 0 := by omega
  refine ⟨hne, ?_, ?_, ?_⟩
  · have : (kraftSum ws).log2 = log - 1 := by
      rw [Nat.log2_eq_iff hne]
      constructor
      · omega
      · rw [show log - 1 + 1 = log by omega]; omega
    unfold highbit; omega
  · rw [Nat.shiftLeft_eq, Nat.one_mul]; omega
  · have hpar := kraft_parity (ws ++ [last])
    rw [kraftSum_append, List.count_append] at hpar
    simp only [kraftSum, Nat.add_zero, hwl, List.count_cons, List.count_nil, Nat.zero_add] at hpar
    have heven : (kraftSum ws + 2 ^ (last - 1)) % 2 = 0 := by rw [hk, hsplit]; omega
    by_cases h1 : last = 1
    · subst h1; simp only [BEq.rfl, if_true] at hpar ⊢; omega
    · have hb : (last == 1) = false := by simpa using h1
      simp only [h1, hb, if_false, Bool.false_eq_true] at hpar ⊢; omega

theorem packNibbles_length (ws : List Nat) : (packNibbles ws).length = (ws.length + 1) / 2 := by
  fun_induction packNibbles ws with
  | case1 => rfl
  | case2 a => simp
  | case3 a b rest ih => simp only [List.length_cons, ih]; omega

/-- the first loop of HUF_readStats_body on the packed nibbles (loop body as `simp` leaves that of `Huf.readStats`) -/
theorem direct_nibbles (ws : List Nat) (hw16 : ∀ w ∈ ws, w < 16) (src : Bytes) (pos : Nat)
    (hbytes : ∀ i, i < (packNibbles ws).length → src.u8 (pos + 1 + i) = ((packNibbles ws)[i]?.map UInt8.toNat).getD 0) :
    forIn (List.range' 0 ws.length) (#[] : Array Nat) (fun n (s : Array Nat) =>
      (Except.ok (ForInStep.yield (s.push (if (n % 2 == 0) = true then src.u8 (pos + 1 + n / 2) >>> 4
        else src.u8 (pos + 1 + n / 2) &&& 15))) : R _)) = Except.ok ws.toArray := by
  rw [nibble_loop (fun n => if (n % 2 == 0) = true then src.u8 (pos + 1 + n / 2) >>> 4 else src.u8 (pos + 1 + n / 2) &&& 15)]
  congr 1
  rw [Array.empty_append]
  congr 1
  apply List.ext_getElem
  · simp
  · intro i h1 h2
    simp only [List.getElem_map, List.getElem_range', Nat.zero_add, Nat.one_mul]
    have hi : i < ws.length := h2
    have := nib_packNibbles ws hw16 i hi
    unfold nib at this
    rw [← hbytes (i / 2) (by rw [packNibbles_length]; omega)] at this
    exact this

open ZstdVerif.HufRT ZstdVerif.HufEnc ZstdVerif.Huf in
/-- The second half of HUF_readStats_body (`statsTail`) finds the table depth and the implied last weight as the encoder had them.
Side conditions: a non-zero last weight (the last symbol is present by definition of maxSymbolValue), depth ≤ HUF_TABLELOG_MAX, at
least two symbols of weight 1 (the two deepest leaves of a Huffman tree are siblings). -/
theorem statsTail_weights (ws : List Nat) (last log : Nat) (ok : WeightsOK (ws.toArray.push last) log) (hlast : 0 < last)
    (hlog : log ≤ 12) (hr1 : 2 ≤ (ws ++ [last]).count 1) (iSize : Nat) :
    statsTail Gen.HUF_TABLELOG_MAX ws.toArray iSize = .ok ⟨ws.toArray.push last, log, iSize + 1⟩ := by
  have hw12 : ∀ w ∈ ws, w ≤ Gen.HUF_TABLELOG_MAX := fun w hw => by
    have := ok.le_log w (by simp [hw]); unfold Gen.HUF_TABLELOG_MAX; omega
  obtain ⟨m1, m2, m3, m4⟩ := direct_math ws last log ok hlast
  unfold statsTail
  simp only [bind, Except.bind, pure, Except.pure, throw, throwThe, MonadExceptOf.throw]
  rw [List.forIn_toArray, weights_loop_fwd Gen.HUF_TABLELOG_MAX _ ws hw12 0 0]
  have hz : (kraftSum ws == 0) = false := by simpa using m1
  have c5 : ¬ log > Gen.HUF_TABLELOG_MAX := by unfold Gen.HUF_TABLELOG_MAX; omega
  have hb : highbit (2 ^ (last - 1)) = last - 1 := Nat.log2_two_pow
  have hv : (1 <<< (last - 1) != 2 ^ (last - 1)) = false := by rw [Nat.shiftLeft_eq, Nat.one_mul]; simp
  have hl1 : last - 1 + 1 = last := by omega
  have hcnt : (ws ++ [last]).count 1 = ws.count 1 + if last = 1 then 1 else 0 := by
    rw [List.count_append, List.count_cons, List.count_nil]
    by_cases h1 : last = 1
    · subst h1; simp
    · have : (last == 1) = false := by simpa using h1
      simp [h1, this]
  simp only [Nat.zero_add, hz, Bool.false_eq_true, ↓reduceIte, m2, c5, m3, hb, hv, hl1]
  by_cases h1 : last = 1
  · subst h1
    simp only [if_true] at m4 hcnt
    have d1 : ¬ ws.count 1 + 1 < 2 := by omega
    have d2 : ((ws.count 1 + 1) % 2 == 1) = false := by rw [m4]; rfl
    simp only [BEq.rfl, ↓reduceIte, d1, d2, decide_false, Bool.or_self, Bool.false_eq_true]
  · have hne : (last == 1) = false := by simpa using h1
    simp only [h1, if_false, Nat.add_zero] at m4 hcnt
    have d1 : ¬ ws.count 1 < 2 := by omega
    have d2 : (ws.count 1 % 2 == 1) = false := by rw [m4]; rfl
    simp only [hne, ↓reduceIte, d1, d2, decide_false, Bool.or_self, Bool.false_eq_true]

theorem empty_push (x : UInt8) : ByteArray.empty.push x = [x].toByteArray := by
  rw [← ByteArray.append_toByteArray_singleton, ByteArray.empty_append]

theorem directWeights_size {ws : List Nat} {wh : ByteArray} (h : directWeights ws = some wh) : wh.size = (ws.length + 1) / 2 + 1 := by
  unfold directWeights at h
  split at h
  · cases h
  · injection h with h
    rw [← h, empty_push, ByteArray.size_append, List.size_toByteArray, List.size_toByteArray, packNibbles_length, Nat.add_comm]; rfl

open ZstdVerif.HufRT ZstdVerif.HufEnc ZstdVerif.Huf in
/-- DIRECT TREE DESCRIPTION.  HUF_readStats_body reads the 4-bit form written by HUF_writeCTable_wksp back, consuming exactly the
header.  One more side condition than `statsTail_weights`: at least one explicit weight. -/
theorem readStats_direct (ws : List Nat) (last log : Nat) (ok : WeightsOK (ws.toArray.push last) log) (hlast : 0 < last)
    (hlog : log ≤ 12) (hr1 : 2 ≤ (ws ++ [last]).count 1) (hws : 1 ≤ ws.length) (wh : ByteArray)
    (hwh : directWeights ws = some wh) (src : Bytes) (pos n : Nat) (hsrc : src.extract pos (pos + wh.size) = wh)
    (hn : wh.size ≤ n) : readStats src pos n = .ok ⟨ws.toArray.push last, log, wh.size⟩ := by
  have hsize := directWeights_size hwh
  unfold directWeights at hwh
  split at hwh
  · cases hwh
  next h128 =>
  injection hwh with hwh
  rw [empty_push] at hwh
  have hw16 : ∀ w ∈ ws, w < 16 := fun w hw => by
    have := ok.le_log w (by simp [hw]); omega
  rw [← hwh] at hsrc
  have hb0 : src.u8 pos = 127 + ws.length := by
    have := u8_embedded hsrc 0 (by rw [ByteArray.size_append, List.size_toByteArray, List.length_singleton]; omega)
    rw [Nat.add_zero, ByteArray.u8_append_left _ _ _ (by simp [List.size_toByteArray]), u8_singleton, BitW.ofNat_toNat] at this
    omega
  have hbytes : ∀ i, i < (packNibbles ws).length →
      src.u8 (pos + 1 + i) = ((packNibbles ws)[i]?.map UInt8.toNat).getD 0 := by
    intro i hi
    have := body_u8 _ _ hsrc i (by rw [List.size_toByteArray]; exact hi)
    rw [List.size_toByteArray, List.length_singleton, ByteArray.u8_eq_toList (packNibbles ws).toByteArray,
      List.toList_data_toByteArray] at this
    exact this
  have c1 : ¬ n = 0 := by omega
  have c2 : src.u8 pos ≥ 128 := by omega
  have hos : src.u8 pos - 127 = ws.length := by omega
  have c3 : ¬ (ws.length + 1) / 2 + 1 > n := by omega
  have c4 : ¬ ws.length ≥ 256 := by omega
  have hsz : ([:ws.length] : Std.Legacy.Range).size = ws.length := by simp [Std.Legacy.Range.size]
  rw [hsize]
  unfold readStats
  simp only [bind, Except.bind, pure, Except.pure, throw, throwThe, MonadExceptOf.throw, c1, c2, ↓reduceIte, hos, c3, c4,
    Std.Legacy.Range.forIn_eq_forIn_range', hsz]
  rw [direct_nibbles ws hw16 src pos hbytes]
  exact statsTail_weights ws last log ok hlast hlog hr1 _

open ZstdVerif.HufRT ZstdVerif.HufEnc ZstdVerif.Huf in
/-- COMPRESSED LITERALS (direct tree description).  The section ZSTD_compressLiterals emits when it keeps the Huffman output with a NEW
table described in the direct 4-bit form (`wh = directWeights ws`; `last` is the weight of symbol `maxSymbolValue`): the decoder returns
exactly `syms`, consumes exactly the section, reports `compressed` and installs the table built from the weights.
The FSE-compressed tree description (HUF_compressWeights) is `WeightsRT.literals_roundtrip_compressed_fse`. -/
theorem literals_roundtrip_compressed (ws : List Nat) (last log : Nat) (ok : WeightsOK (ws.toArray.push last) log)
    (hlast : 0 < last) (hlog : log ≤ 12) (hr1 : 2 ≤ (ws ++ [last]).count 1) (hws : 1 ≤ ws.length)
    (single : Bool) (wh streams : ByteArray) (syms : List Nat) (hwh : directWeights ws = some wh)
    (hstreams : hufStreams single (codesOf (ws.toArray.push last) log) syms = some streams)
    (hsyms : ∀ s ∈ syms, ∃ hs : s < (ws.toArray.push last).size, 0 < (ws.toArray.push last)[s])
    (src : Bytes) (start srcSize : Nat) (ent : Entropy) (bsm dstCap : Nat)
    (hsec : src.extract start (start + (compressedLiterals single wh streams syms.length).size)
      = compressedLiterals single wh streams syms.length)
    (hsingle : single = true → syms.length < 1024)
    (hc : wh.size + streams.size < syms.length) (hn : syms.length ≤ 2 ^ 17)
    (hbsm : syms.length ≤ bsm) (hcap : syms.length ≤ dstCap)
    (hsz : (compressedLiterals single wh streams syms.length).size ≤ srcSize) :
    decodeLiterals src start srcSize ent bsm dstCap
      = .ok { lits := litBytes syms, used := (compressedLiterals single wh streams syms.length).size,
              ent := { ent with huf := some (buildTable ⟨ws.toArray.push last, log, wh.size⟩) }, mode := .compressed,
              streams := if single then 1 else 4 } := by
  have hwsz := directWeights_size hwh
  have hsecsz : (compressedLiterals single wh streams syms.length).size = lhSize syms.length + wh.size + streams.size := by
    unfold compressedLiterals
    rw [ByteArray.size_append, ByteArray.size_append, compressedHeader_size]
  have hwhsrc : src.extract (start + lhSize syms.length) (start + lhSize syms.length + wh.size) = wh := by
    have := embedded_part (compressedHeader set_compressed single syms.length (wh.size + streams.size)) wh streams hsec
    rwa [compressedHeader_size] at this
  have hstats := readStats_direct ws last log ok hlast hlog hr1 hws wh hwh src (start + lhSize syms.length)
    (wh.size + streams.size) hwhsrc (by omega)
  have hlh : 3 ≤ lhSize syms.length := by unfold lhSize; omega
  exact literals_roundtrip_huf set_compressed single wh streams syms _ log wh.size (readStats_weightsOK _ _ _ _ _ hstats) (by omega)
    src start srcSize ent bsm dstCap hsec (Or.inl ⟨rfl, hstats, rfl⟩) hsyms hstreams hsingle hc hn hbsm hcap hsz (by omega)

/-- `Huf.buildTable` does not look at the number of bytes the tree description took -/
theorem buildTable_used (weights : Array Nat) (log u1 u2 : Nat) :
    Huf.buildTable ⟨weights, log, u1⟩ = Huf.buildTable ⟨weights, log, u2⟩ := rfl

/-- HUF_compress1X_usingCTable / HUF_compress4X_usingCTable never return an empty output as a success -/
theorem hufStreams_size_pos {single : Bool} {codes : Array (Nat × Nat)} {syms : List Nat} {streams : ByteArray}
    (h : hufStreams single codes syms = some streams) : 1 ≤ streams.size := by
  unfold hufStreams at h
  cases single with
  | true =>
    simp only [if_true] at h
    injection h with h
    subst h
    rw [(BitW.ofFields_spec _).1]
    omega
  | false =>
    simp only [Bool.false_eq_true, if_false] at h
    unfold HufEnc.compress4 at h
    split at h
    · cases h
    · obtain ⟨rfl, -, -, -, h4⟩ := layout4_some h
      simp only [ByteArray.size_append]
      omega

/-- TREELESS LITERALS (`hType = set_repeat`).  The section ZSTD_compressLiterals emits when HUF_compress{1,4}X_repeat re-used the table of
an earlier block: header, NO tree description, streams under the codes of that table's weights.  IF the decoder holds the table built
from these weights (`ent.huf`, i.e. `dctx->HUFptr` with `litEntropy = 1`: installed by the block that described it), THEN
ZSTD_decodeLiteralsBlock returns exactly `syms`, consumes exactly the section, reports `treeless` and keeps the table.  (Without a table
the decoder fails: dictionary_corrupted.)  `WeightsOK` is what HUF_readStats guaranteed when the table was read. -/
theorem literals_roundtrip_treeless (single : Bool) (streams : ByteArray) (syms : List Nat) (weights : Array Nat)
    (log used : Nat) (ok : HufRT.WeightsOK weights log) (hlog : log ≤ 56)
    (src : Bytes) (start srcSize : Nat) (ent : Entropy) (bsm dstCap : Nat)
    (hent : ent.huf = some (Huf.buildTable ⟨weights, log, used⟩))
    (hsec : src.extract start (start + (compressedLiterals single ByteArray.empty streams syms.length set_repeat).size)
      = compressedLiterals single ByteArray.empty streams syms.length set_repeat)
    (hsyms : ∀ s ∈ syms, ∃ hs : s < weights.size, 0 < weights[s])
    (hstreams : hufStreams single (HufEnc.codesOf weights log) syms = some streams)
    (hsingle : single = true → syms.length < 1024)
    (hc : streams.size < syms.length) (hn : syms.length ≤ 2 ^ 17)
    (hbsm : syms.length ≤ bsm) (hcap : syms.length ≤ dstCap)
    (hsz : (compressedLiterals single ByteArray.empty streams syms.length set_repeat).size ≤ srcSize) (h5 : 5 ≤ srcSize) :
    decodeLiterals src start srcSize ent bsm dstCap
      = .ok { lits := litBytes syms, used := (compressedLiterals single ByteArray.empty streams syms.length set_repeat).size,
              ent := { ent with huf := some (Huf.buildTable ⟨weights, log, used⟩) }, mode := .treeless,
              streams := if single then 1 else 4 } :=
  literals_roundtrip_huf set_repeat single ByteArray.empty streams syms weights log used ok hlog src start srcSize ent bsm dstCap hsec
    (Or.inr ⟨rfl, hent, rfl⟩) hsyms hstreams hsingle (by rw [ByteArray.size_empty, Nat.zero_add]; exact hc) hn hbsm hcap hsz h5

example : rawLiterals "abc".toUTF8 = ⟨#[0x18, 0x61, 0x62, 0x63]⟩ := by decide
example : rleLiterals (rleBytes 4 0x61) = ⟨#[0x21, 0x61]⟩ := by decide
example : directWeights [2, 1] = some ⟨#[0x81, 0x21]⟩ := by decide
example : HufRT.WeightsOK (([2, 1] : List Nat).toArray.push 1) 2 := by decide

end ZstdVerif.LitRT
