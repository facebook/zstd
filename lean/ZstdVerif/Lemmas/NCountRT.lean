/-
Round trip of the FSE table DESCRIPTION (C01): what FSE_writeNCount (fse_compress.c, model Model/NCountW.lean `writeNCount`) writes for a
normalised distribution is read back by FSE_readNCount (entropy_common.c, model Model/FSE.lean `readNCount`), whatever bytes follow the
description, and exactly the description is consumed.

Both sides meet in a list of (value, width) fields: the writer's container and the bytes it has flushed spell the fields emitted so far
(`WRep`); the reader's 32-bit container is a window (`Win`) of the number its buffer spells, where, turn by turn of the writer's loop, it
finds the fields of that turn and ends up in the writer's next state (`Sim`).
Other files take `ncount_roundtrip` from here (BlockRT for the `set_compressed` sequence tables, WeightsRT for the Huffman weights, C01).
-/
import ZstdVerif.Model.NCountW
import ZstdVerif.Model.FSE
import ZstdVerif.Lemmas.FSERT
import ZstdVerif.Lemmas.BitsRT
namespace ZstdVerif.NCountRT
open ZstdVerif ZstdVerif.FSE ZstdVerif.NCountW

/-! ### counting the `11` pairs -/

theorem bit_eq (y j : Nat) : y >>> j &&& 1 = if y.testBit j then 1 else 0 := by
  have : y.testBit j = (1 &&& (y >>> j) != 0) := rfl
  rw [this, Nat.and_comm 1, Nat.and_one_is_mod]
  have := Nat.mod_two_eq_zero_or_one (y >>> j)
  rcases this with h | h <;> simp [h]

/-- the `fun k __s => …` below is the loop body of `FSE.ctz` as its `do` block elaborates: it has to match that text exactly -/
theorem ctz_loop (y t : Nat) (hbit : y.testBit t = true) (hz : ∀ j, j < t → y.testBit j = false) :
    ∀ (n s c : Nat), s ≤ t → t < s + n →
    (forIn (m := Id) (List.range' s n) ((none : Option Nat), c) fun k __s =>
          if (y >>> k &&& 1 == 1) = true then ForInStep.done (some __s.snd, __s.snd)
          else ForInStep.yield (none, __s.snd + 1)) = (some (c + (t - s)), c + (t - s)) := by
  intro n
  induction n with
  | zero => intro s c h1 h2; omega
  | succ n ih =>
    intro s c h1 h2
    rw [List.range'_succ, List.forIn_cons, bit_eq]
    by_cases e : s = t
    · subst e
      simp only [hbit, BEq.rfl, if_true, Nat.sub_self, Nat.add_zero]
      rfl
    · simp only [hz s (by omega), Bool.false_eq_true, if_false, Nat.reduceBEq]
      show forIn (m := Id) (List.range' (s + 1) n) (none, c + 1) _ = _
      rw [ih (s + 1) (c + 1) (by omega) (by omega), show c + 1 + (t - (s + 1)) = c + (t - s) by omega]

theorem ctz_eq (y t : Nat) (ht : t < 32) (hbit : y.testBit t = true) (hz : ∀ j, j < t → y.testBit j = false) : ctz y = t := by
  unfold ctz
  simp only [Id.run, bind, pure, Std.Legacy.Range.forIn_eq_forIn_range', Std.Legacy.Range.size]
  rw [ctz_loop y t hbit hz _ 0 0 (by omega) (by omega)]
  simp

theorem low_bit (y m : Nat) (h : y.testBit m = true) : ∃ t, t ≤ m ∧ y.testBit t = true ∧ ∀ j, j < t → y.testBit j = false := by
  induction m using Nat.strongRecOn with
  | _ m ih =>
    by_cases e : ∃ j, j < m ∧ y.testBit j = true
    · obtain ⟨j, hj, hb⟩ := e
      obtain ⟨t, ht, h1, h2⟩ := ih j hj hb
      exact ⟨t, by omega, h1, h2⟩
    · refine ⟨m, Nat.le_refl _, h, fun j hj => ?_⟩
      cases hb : y.testBit j
      · rfl
      · exact absurd ⟨j, hj, hb⟩ e

/-- `ZSTD_countTrailingZeros32(~bitStream | 0x80000000) >> 1` -/
def reps (x : Nat) : Nat := ctz (mask32 (0xFFFFFFFF - x) ||| 0x80000000) >>> 1

/-- the bits of `~x | 0x80000000` on 32 bits -/
theorem testBit_stopped (x j : Nat) (hx : x < 2 ^ 32) :
    (mask32 (0xFFFFFFFF - x) ||| 0x80000000).testBit j = ((decide (j < 32) && !x.testBit j) || decide (j = 31)) := by
  have e1 : 0xFFFFFFFF - x = 2 ^ 32 - (x + 1) := by omega
  have e2 : (0xFFFFFFFF : Nat) = 2 ^ 32 - 1 := by decide
  have e3 : (0x80000000 : Nat) = 2 ^ 31 := by decide
  unfold mask32
  rw [e1, e2, e3, Nat.testBit_or, Nat.testBit_and, Nat.testBit_two_pow_sub_succ hx, Nat.testBit_two_pow_sub_one, Nat.testBit_two_pow]
  by_cases h : j < 32 <;> by_cases h2 : j = 31 <;> simp [h, h2] <;> omega

/-- `ZSTD_countTrailingZeros32(~x | 0x80000000)` is the number `t ≤ 31` of 1-bits of `x` below its lowest 0-bit -/
theorem ctz_ones (x : Nat) (hx : x < 2 ^ 32) :
    ∃ t, t ≤ 31 ∧ ctz (mask32 (0xFFFFFFFF - x) ||| 0x80000000) = t ∧ (∀ j, j < t → x.testBit j = true) ∧
      (t = 31 ∨ x.testBit t = false) := by
  obtain ⟨t, ht, b1, b2⟩ := low_bit (mask32 (0xFFFFFFFF - x) ||| 0x80000000) 31 (by rw [testBit_stopped x 31 hx]; simp)
  refine ⟨t, ht, ctz_eq _ t (by omega) b1 b2, fun j hj => ?_, ?_⟩
  · have := b2 j hj
    rw [testBit_stopped x j hx] at this
    simpa [show j < 32 by omega, show j ≠ 31 by omega] using this
  · rw [testBit_stopped x t hx] at b1
    by_cases e : t = 31
    · exact Or.inl e
    · exact Or.inr (by simpa [e, show t < 32 by omega] using b1)

theorem ones_le {x n t : Nat} (h : x % 2 ^ n = 2 ^ n - 1) (hn : n ≤ 31) (ht : t = 31 ∨ x.testBit t = false) : n ≤ t := by
  apply Nat.le_of_not_lt
  intro hlt
  rcases ht with e | e
  · omega
  · have := Nat.testBit_mod_two_pow x n t
    rw [h, Nat.testBit_two_pow_sub_one, e] at this
    simp [hlt] at this

/-- `k ≤ 14` pairs `11` and then a pair that is not `11`: `k` repeats -/
theorem reps_eq (x k f : Nat) (hx : x < 2 ^ 32) (hk : k ≤ 14) (h1 : x % 2 ^ (2 * k) = 2 ^ (2 * k) - 1) (hf : x / 2 ^ (2 * k) % 4 = f)
    (hf3 : f < 3) : reps x = k := by
  obtain ⟨t, ht, hc, o1, o0⟩ := ctz_ones x hx
  have lo := ones_le h1 (by omega) o0
  have hi : t ≤ 2 * k + 1 := Nat.le_of_not_lt fun hlt => by
    have q0 : (x / 2 ^ (2 * k)).testBit 0 = true := by rw [Nat.testBit_div_two_pow, Nat.zero_add]; exact o1 _ (by omega)
    have q1 : (x / 2 ^ (2 * k)).testBit 1 = true := by rw [Nat.testBit_div_two_pow, Nat.add_comm]; exact o1 _ (by omega)
    rw [Nat.testBit_zero, decide_eq_true_eq] at q0
    rw [Nat.testBit_succ, Nat.testBit_zero, decide_eq_true_eq] at q1
    omega
  unfold reps
  rw [hc, Nat.shiftRight_eq_div_pow]
  omega

theorem reps_ge (x : Nat) (hx : x < 2 ^ 32) (h : x % 2 ^ 24 = 2 ^ 24 - 1) : 12 ≤ reps x := by
  obtain ⟨t, ht, hc, -, o0⟩ := ctz_ones x hx
  have lo := ones_le h (by omega) o0
  unfold reps
  rw [hc, Nat.shiftRight_eq_div_pow]
  omega

/-! ### the bit container of the reader -/

theorem le32_window (b : ByteArray) (iend ip : Nat) (h : ip + 4 ≤ iend) :
    b.le32 ip = b.toNatLE 0 iend / 2 ^ (8 * ip) % 2 ^ 32 := by
  have := ByteArray.toNatLE_window b 0 iend ip 4 h
  rw [Nat.zero_add] at this
  rw [ByteArray.le32_eq_toNatLE, ← this]

/-- the bit container of FSE_readNCount_body right after a (re)load: `bs = MEM_readLE32(ip) >> bc` seen as a window of the number `N` that
the whole buffer spells (little endian) -/
structure Win (N iend ip bc bs : Nat) : Prop where
  ip4 : ip + 4 ≤ iend
  val : bs = N / 2 ^ (8 * ip + bc) % 2 ^ (32 - bc)
  bc31 : bc ≤ 31
  near : bc ≤ 7 ∨ ip + 4 = iend

theorem win_load (b : ByteArray) (iend ip bc : Nat) (h : ip + 4 ≤ iend) (hbc : bc ≤ 31) (near : bc ≤ 7 ∨ ip + 4 = iend) :
    Win (b.toNatLE 0 iend) iend ip bc (b.le32 ip >>> bc) := by
  refine ⟨h, ?_, hbc, near⟩
  rw [le32_window b iend ip h, Nat.shiftRight_eq_div_pow, Nat.pow_add, ← Nat.div_div_eq_div_mul]
  have e : 2 ^ 32 = 2 ^ bc * 2 ^ (32 - bc) := by rw [← Nat.pow_add]; congr 1; omega
  rw [e, Nat.mod_mul_right_div_self]

theorem Win.lt {N iend ip bc bs : Nat} (w : Win N iend ip bc bs) : bs < 2 ^ 32 := by
  rw [w.val]
  exact Nat.lt_of_lt_of_le (Nat.mod_lt _ (Nat.two_pow_pos _)) (Nat.pow_le_pow_right (by omega) (by omega))

/-- at the end of the buffer the container is exactly what is left of `N` -/
theorem Win.all {N iend ip bc bs : Nat} (w : Win N iend ip bc bs) (hN : N < 2 ^ (8 * iend)) (h : ip + 4 = iend) :
    bs = N / 2 ^ (8 * ip + bc) := by
  rw [w.val]
  have hb := w.bc31
  have : N / 2 ^ (8 * ip + bc) < 2 ^ (32 - bc) := by
    rw [Nat.div_lt_iff_lt_mul (Nat.two_pow_pos _), ← Nat.pow_add]
    have : 32 - bc + (8 * ip + bc) = 8 * iend := by omega
    rw [this]; exact hN
  rw [Nat.mod_eq_of_lt this]

/-- 25 bits are loaded when `bc ≤ 7`; at the end of the buffer the container holds everything that is left of `N` -/
theorem Win.mod {N iend ip bc bs : Nat} (w : Win N iend ip bc bs) (hN : N < 2 ^ (8 * iend)) (k : Nat) (hk : k ≤ 25) :
    bs % 2 ^ k = N / 2 ^ (8 * ip + bc) % 2 ^ k := by
  rcases w.near with h | h
  · rw [w.val]; exact Nat.mod_mod_of_dvd _ (Nat.pow_dvd_pow 2 (by omega))
  · rw [w.all hN h]

theorem Win.field {N iend ip bc bs : Nat} (w : Win N iend ip bc bs) (hN : N < 2 ^ (8 * iend)) {sh n : Nat} (h : sh + n ≤ 25) :
    bs / 2 ^ sh % 2 ^ n = N / 2 ^ (8 * ip + bc + sh) % 2 ^ n := by
  rw [Nat.pow_add, ← Nat.div_div_eq_div_mul]
  exact BitR.window_mod _ _ 25 sh n (w.mod hN 25 (Nat.le_refl _)) h

/-- the refill of FSE_readNCount_body after `k` more bits have been used: the bit position stays -/
theorem refill_spec {b : ByteArray} {iend ip bc bs k : Nat} (w : Win (b.toNatLE 0 iend) iend ip bc bs) (hk : k ≤ 24)
    (hP : 8 * ip + bc + k < 8 * iend) :
    ∃ ip2 bc2 : Nat, refill b iend ip ((bc + k : Nat) : Int) = (ip2, (bc2 : Int), b.le32 ip2 >>> bc2) ∧
      Win (b.toNatLE 0 iend) iend ip2 bc2 (b.le32 ip2 >>> bc2) ∧ 8 * ip2 + bc2 = 8 * ip + (bc + k) := by
  have h4 := w.ip4
  have hn : bc + k ≤ 31 := by rcases w.near with h | h <;> omega
  have hP' : 8 * ip + (bc + k) < 8 * iend := by omega
  clear w hP
  generalize bc + k = n at hn hP' ⊢
  unfold refill
  have e3 : n >>> 3 = n / 8 := Nat.shiftRight_eq_div_pow n 3
  have e7 : n &&& 7 = n % 8 := Nat.and_two_pow_sub_one_eq_mod n 3
  simp only [Int.toNat_natCast, e3, e7]
  clear e3 e7
  have hq := Nat.div_add_mod n 8
  have hr := Nat.mod_lt n (show 0 < 8 by decide)
  generalize n / 8 = q at *
  generalize n % 8 = r at *
  by_cases c : ip + 7 ≤ iend ∨ ip + q + 4 ≤ iend
  · rw [if_pos c]
    exact ⟨_, _, rfl, win_load b iend _ _ (by omega) (by omega) (Or.inl (by omega)), by omega⟩
  · rw [if_neg c]
    -- the last four bytes are loaded and the bit count makes up for it
    obtain ⟨d, hd⟩ : ∃ d, iend - 4 - ip = d := ⟨_, rfl⟩
    have e : ((n : Int) - 8 * (d : Int)).toNat &&& 31 = n - 8 * d := by
      rw [show ((n : Int) - 8 * (d : Int)).toNat = n - 8 * d by omega, Nat.and_two_pow_sub_one_eq_mod _ 5]; omega
    rw [hd, e]
    exact ⟨_, _, rfl, win_load b iend _ _ (by omega) (by omega) (Or.inr (by omega)), by omega⟩

/-! ### the loops of the reader as recursive functions -/

/-- a `for` loop whose body ignores the index, as a recursive function -/
def recLoop {σ : Type} (f : σ → ForInStep σ) : Nat → σ → σ
  | 0, st => st
  | n + 1, st => match f st with
    | .done b => b
    | .yield b => recLoop f n b

theorem recLoop_done {σ : Type} {f : σ → ForInStep σ} {st r : σ} (h : f st = .done r) (n : Nat) : recLoop f (n + 1) st = r := by
  rw [recLoop, h]

theorem recLoop_yield {σ : Type} {f : σ → ForInStep σ} {st r : σ} (h : f st = .yield r) (n : Nat) :
    recLoop f (n + 1) st = recLoop f n r := by
  rw [recLoop, h]

theorem forIn_const {σ : Type} (f : σ → ForInStep σ) (n s0 : Nat) (init : σ) :
    forIn (m := Id) (List.range' s0 n) init (fun _ st => f st) = recLoop f n init := by
  induction n generalizing s0 init with
  | zero => rfl
  | succ n ih =>
    rw [List.range'_succ, List.forIn_cons]
    unfold recLoop
    cases h : f init with
    | done b => rfl
    | yield b => exact ih (s0 + 1) b

/-- one turn of the `while (repeats >= 12)` loop of FSE_readNCount_body, as the `do` block of `skipZeros` elaborates it; the state is
`repeats`, `ip`, `bitCount`, `bitStream`, `charnum` -/
def zStep (b : Bytes) (iend : Nat) : Nat × Nat × Int × Nat × Nat → ForInStep (Nat × Nat × Int × Nat × Nat)
  | (repeats, ip, bitCount, bitStream, charnum) =>
    if repeats < 12 then .done (repeats, ip, bitCount, bitStream, charnum)
    else if ip + 7 ≤ iend then
      .yield (reps (b.le32 (ip + 3) >>> bitCount.toNat), ip + 3, bitCount, b.le32 (ip + 3) >>> bitCount.toNat, charnum + 36)
    else
      let bc : Nat := (bitCount - 8 * (((iend - 7 : Nat) : Int) - (ip : Int))).toNat &&& 31
      .yield (reps (b.le32 (iend - 4) >>> (bc : Int).toNat), iend - 4, (bc : Int), b.le32 (iend - 4) >>> (bc : Int).toNat, charnum + 36)

/-- `skipZeros` with that loop as a recursive function -/
def skipZerosR (b : Bytes) (iend maxSV1 : Nat) (s : RS) : RS :=
  let (repeats, ip, bitCount, bitStream, charnum) :=
    recLoop (zStep b iend) (maxSV1 / 36 + 2) (reps s.bitStream, s.ip, s.bitCount, s.bitStream, s.charnum)
  let bitStream := bitStream >>> (2 * repeats)
  let bitCount := bitCount + 2 * repeats + 2
  let charnum := charnum + 3 * repeats + (bitStream &&& 3)
  if charnum ≥ maxSV1 then
    { s with ip := ip, bitCount := bitCount, bitStream := bitStream, charnum := charnum, done := true }
  else
    { s with ip := (refill b iend ip bitCount).1, bitCount := (refill b iend ip bitCount).2.1,
             bitStream := (refill b iend ip bitCount).2.2, charnum := charnum }

theorem skipZeros_eq (b : Bytes) (iend m : Nat) (s : RS) : skipZeros b iend m s = skipZerosR b iend m s := by
  unfold skipZeros skipZerosR
  simp only [Id.run, bind, pure, Std.Legacy.Range.forIn_eq_forIn_range', Std.Legacy.Range.size, forIn_const, Nat.sub_zero, Nat.add_sub_cancel, Nat.div_one]
  rfl

/-- one turn of the main loop of `readNCount8`, as its `do` block elaborates it -/
def rStep (b : Bytes) (iend m : Nat) (s : RS) : ForInStep RS :=
  if s.done then .done s
  else if s.previous0 then
    if (skipZeros b iend m s).done then .done (skipZeros b iend m s)
    else .yield (readCount b iend m (skipZeros b iend m s))
  else .yield (readCount b iend m s)

theorem readNCount8_eq (b : Bytes) (hb maxSV : Nat) : readNCount8 b hb maxSV =
    (let tlog := (b.le32 0 &&& 0xF) + Gen.FSE_MIN_TABLELOG
     if tlog > Gen.FSE_TABLELOG_ABSOLUTE_MAX then .error .tableLogTooLarge else
     let s := recLoop (rStep b hb (maxSV + 1)) (maxSV + 1 + 2)
       { ip := 0, bitCount := 4, bitStream := b.le32 0 >>> 4, remaining := ((1 <<< tlog) + 1 : Nat), threshold := ((1 <<< tlog) : Nat),
         nbBits := tlog + 1, charnum := 0, previous0 := false, norm := Array.replicate (maxSV + 1) 0, done := false }
     if s.remaining != 1 then .error (.corruptionAt "FSE:126") else
     if s.charnum > maxSV + 1 then .error (.corruptionAt "FSE:127") else
     if s.bitCount > 32 then .error (.corruptionAt "FSE:128") else
     .ok { norm := s.norm.extract 0 s.charnum, tableLog := tlog, used := s.ip + ((s.bitCount.toNat + 7) >>> 3) }) := by
  unfold readNCount8
  simp only [Id.run, bind, pure, Std.Legacy.Range.forIn_eq_forIn_range', Std.Legacy.Range.size, forIn_const, Nat.sub_zero, Nat.add_sub_cancel, Nat.div_one]
  rfl

/-! ### streams of fields -/

/-- value of a stream of `(value, width)` fields laid down least significant first.  `BitW.fieldsValFrom` reduces every value modulo its
width, as BIT_addBits does; FSE_writeNCount adds unmasked values, so here the values are taken as they are and `Fit` says they fit -/
def val : List (Nat × Nat) → Nat
  | [] => 0
  | f :: fs => f.1 + 2 ^ f.2 * val fs

def Fit (fs : List (Nat × Nat)) : Prop := ∀ f ∈ fs, f.1 < 2 ^ f.2

/-- the number `N` shows the fields `fs` from bit `P` on -/
def Spells (N P : Nat) (fs : List (Nat × Nat)) : Prop := N / 2 ^ P % 2 ^ BitW.totalBits fs = val fs

theorem val_append (a b : List (Nat × Nat)) : val (a ++ b) = val a + 2 ^ BitW.totalBits a * val b := by
  induction a with
  | nil => simp [val, BitW.totalBits]
  | cons f fs ih =>
    simp only [List.cons_append, val, BitW.totalBits, ih, Nat.pow_add, Nat.mul_add, Nat.mul_assoc, Nat.add_assoc]

theorem val_lt (fs : List (Nat × Nat)) (h : Fit fs) : val fs < 2 ^ BitW.totalBits fs := by
  induction fs with
  | nil => simp [val, BitW.totalBits]
  | cons f fs ih =>
    have h1 := h f (by simp)
    have h2 := ih (fun g hg => h g (by simp [hg]))
    simp only [val, BitW.totalBits, Nat.pow_add]
    have : 2 ^ f.2 * (val fs + 1) ≤ 2 ^ f.2 * 2 ^ BitW.totalBits fs := Nat.mul_le_mul_left _ h2
    rw [Nat.mul_add, Nat.mul_one] at this
    omega

theorem fit_append {a b : List (Nat × Nat)} (ha : Fit a) (hb : Fit b) : Fit (a ++ b) := by
  intro f hf
  rcases List.mem_append.1 hf with h | h
  · exact ha f h
  · exact hb f h

theorem fit_single {f : Nat × Nat} (h : f.1 < 2 ^ f.2) : Fit [f] := fun g hg => by rw [List.mem_singleton.1 hg]; exact h

theorem Spells.split {N P : Nat} {a rest : List (Nat × Nat)} (ha : Fit a) (h : Spells N P (a ++ rest)) :
    Spells N P a ∧ Spells N (P + BitW.totalBits a) rest := by
  unfold Spells at *
  rw [BitW.totalBits_append, val_append, Nat.pow_add] at h
  have hl := val_lt a ha
  rw [Nat.pow_add 2 P, ← Nat.div_div_eq_div_mul]
  generalize N / 2 ^ P = X at h
  refine ⟨?_, ?_⟩
  · have := congrArg (· % 2 ^ BitW.totalBits a) h
    simp only [Nat.mod_mul_right_mod, Nat.add_mul_mod_self_left] at this
    rw [this, Nat.mod_eq_of_lt hl]
  · rw [← Nat.mod_mul_right_div_self, h, Nat.add_mul_div_left _ _ (Nat.two_pow_pos _), Nat.div_eq_of_lt hl, Nat.zero_add]

theorem Spells.single {N P : Nat} {f : Nat × Nat} (h : Spells N P [f]) : N / 2 ^ P % 2 ^ f.2 = f.1 := by
  simpa [Spells, BitW.totalBits, val] using h

/-- stated for `val + 1`: a block of ones then multiplies, and blocks compose without a subtraction -/
theorem val_ones (w : Nat) (X : List (Nat × Nat)) : ∀ a : Nat,
    val (List.replicate a (2 ^ w - 1, w) ++ X) + 1 = 2 ^ (w * a) * (val X + 1) ∧
    BitW.totalBits (List.replicate a (2 ^ w - 1, w) ++ X) = w * a + BitW.totalBits X := by
  intro a
  induction a with
  | zero => simp
  | succ a ih =>
    obtain ⟨i1, i2⟩ := ih
    have hp := Nat.two_pow_pos w
    rw [List.replicate_succ, List.cons_append]
    refine ⟨?_, by simp only [BitW.totalBits, i2, Nat.mul_succ]; omega⟩
    simp only [val]
    have : 2 ^ w - 1 + 2 ^ w * val (List.replicate a (2 ^ w - 1, w) ++ X) + 1
        = 2 ^ w * (val (List.replicate a (2 ^ w - 1, w) ++ X) + 1) := by rw [Nat.mul_add, Nat.mul_one]; omega
    have e : 2 ^ (w * (a + 1)) = 2 ^ w * 2 ^ (w * a) := by rw [Nat.mul_succ, Nat.pow_add, Nat.mul_comm]
    rw [this, i1, e, Nat.mul_assoc]

/-! ### the writer

#### its container spells the fields emitted so far -/

/-- the bytes flushed so far followed by the content of the bit container spell the stream `pre` -/
structure WRep (c : BC) (pre : List (Nat × Nat)) : Prop where
  v : c.out.toNatLE 0 c.out.size + 2 ^ (8 * c.out.size) * c.bitStream = val pre
  t : 8 * c.out.size + c.bitCount = BitW.totalBits pre
  lt : c.bitStream < 2 ^ c.bitCount

theorem toNatLE_push (o : ByteArray) (x : UInt8) :
    (o.push x).toNatLE 0 (o.size + 1) = o.toNatLE 0 o.size + 2 ^ (8 * o.size) * x.toNat := by
  rw [ByteArray.toNatLE_add, Nat.zero_add]
  have e1 : (o.push x).toNatLE 0 o.size = o.toNatLE 0 o.size :=
    ByteArray.toNatLE_congr _ _ 0 0 _ (fun i hi => by rw [Nat.zero_add]; exact ByteArray.u8_push_lt o x i hi)
  have e2 : (o.push x).toNatLE o.size 1 = x.toNat := by
    simp only [ByteArray.toNatLE, ByteArray.u8_push_eq]; omega
  rw [e1, e2]

/-- `bitStream += x << bitCount; bitCount += n` with an `n`-bit value and room in the 32-bit container: no wrap-around, the field is
appended -/
theorem rep_add {c : BC} {pre : List (Nat × Nat)} (h : WRep c pre) (x n : Nat) (hx : x < 2 ^ n) (hr : c.bitCount + n ≤ 32) :
    WRep ((c.addS x).incr n) (pre ++ [(x, n)]) := by
  obtain ⟨hv, ht, hl⟩ := h
  have hb : c.bitStream + x * 2 ^ c.bitCount < 2 ^ (c.bitCount + n) := by
    rw [Nat.pow_add]
    have : (x + 1) * 2 ^ c.bitCount ≤ 2 ^ n * 2 ^ c.bitCount := Nat.mul_le_mul_right _ hx
    rw [Nat.add_mul, Nat.one_mul, Nat.mul_comm (2 ^ n)] at this
    omega
  have e : add32 c.bitStream (x <<< c.bitCount) = c.bitStream + x * 2 ^ c.bitCount := by
    unfold add32
    rw [Nat.shiftLeft_eq, Nat.mod_eq_of_lt (Nat.lt_of_lt_of_le hb (Nat.pow_le_pow_right (by omega) hr))]
  refine ⟨?_, ?_, ?_⟩
  · show c.out.toNatLE 0 c.out.size + 2 ^ (8 * c.out.size) * add32 c.bitStream (x <<< c.bitCount) = _
    rw [e, val_append, ← hv, ← ht]
    simp only [val, Nat.mul_zero, Nat.add_zero, Nat.pow_add, Nat.mul_add]
    rw [Nat.mul_comm x, Nat.mul_assoc, Nat.add_assoc]
  · show 8 * c.out.size + (c.bitCount + n) = _
    rw [BitW.totalBits_append, ← ht]; simp only [BitW.totalBits]; omega
  · show add32 c.bitStream (x <<< c.bitCount) < 2 ^ (c.bitCount + n)
    rw [e]; exact hb

/-- the 16-bit flush: two bytes leave the container, the stream is the same -/
theorem flush_val (out : ByteArray) (bs : Nat) :
    ((out.push (UInt8.ofNat bs)).push (UInt8.ofNat (bs >>> 8))).toNatLE 0 (out.size + 1 + 1)
      + 2 ^ (8 * (out.size + 1 + 1)) * (bs >>> 16) = out.toNatLE 0 out.size + 2 ^ (8 * out.size) * bs := by
  have e1 := toNatLE_push (out.push (UInt8.ofNat bs)) (UInt8.ofNat (bs >>> 8))
  rw [ByteArray.size_push] at e1
  rw [e1, toNatLE_push, BitW.ofNat_toNat, BitW.ofNat_toNat, Nat.shiftRight_eq_div_pow, Nat.shiftRight_eq_div_pow]
  have p1 : 2 ^ (8 * (out.size + 1)) = 2 ^ (8 * out.size) * 256 := by rw [Nat.mul_add, Nat.pow_add]
  have p2 : 2 ^ (8 * (out.size + 1 + 1)) = 2 ^ (8 * out.size) * 65536 := by
    rw [Nat.mul_add, Nat.mul_add, Nat.pow_add, Nat.pow_add, Nat.mul_assoc]
  rw [p1, p2, Nat.add_assoc, Nat.add_assoc, Nat.mul_assoc, Nat.mul_assoc, ← Nat.mul_add, ← Nat.mul_add]
  have e : bs % 256 + (256 * (bs / 2 ^ 8 % 256) + 65536 * (bs / 2 ^ 16)) = bs := by omega
  rw [e]

theorem rep_flush {c : BC} {pre : List (Nat × Nat)} (h : WRep c pre) (h16 : 16 ≤ c.bitCount) :
    WRep { c.flush16 with bitCount := c.bitCount - 16 } pre := by
  obtain ⟨hv, ht, hl⟩ := h
  have hs : c.flush16.out.size = c.out.size + 1 + 1 := by
    show ((c.out.push _).push _).size = _
    rw [ByteArray.size_push, ByteArray.size_push]
  refine ⟨?_, ?_, ?_⟩
  · show c.flush16.out.toNatLE 0 c.flush16.out.size + 2 ^ (8 * c.flush16.out.size) * (c.bitStream >>> 16) = _
    rw [hs, ← hv]; exact flush_val c.out c.bitStream
  · show 8 * c.flush16.out.size + (c.bitCount - 16) = _
    rw [hs, ← ht]; omega
  · show c.bitStream >>> 16 < 2 ^ (c.bitCount - 16)
    rw [Nat.shiftRight_eq_div_pow, Nat.div_lt_iff_lt_mul (Nat.two_pow_pos _), ← Nat.pow_add, Nat.sub_add_cancel h16]
    exact hl

theorem rep_flushIfOver16 {c : BC} {pre : List (Nat × Nat)} (h : WRep c pre) : WRep c.flushIfOver16 pre := by
  unfold BC.flushIfOver16
  split
  · exact rep_flush h (by omega)
  · exact h

theorem flushIfOver16_bc (c : BC) (h : c.bitCount ≤ 32) : c.flushIfOver16.bitCount ≤ 16 := by
  unfold BC.flushIfOver16
  split
  · show c.bitCount - 16 ≤ 16; omega
  · omega

/-- `bitStream += 0xFFFFU << bitCount; out[0] = ..; out[1] = ..; out += 2; bitStream >>= 16`: sixteen 1-bits more, `bitCount` stays -/
theorem rep_add16 {c : BC} {pre : List (Nat × Nat)} (h : WRep c pre) (hbc : c.bitCount ≤ 16) :
    WRep (c.addS 0xFFFF).flush16 (pre ++ [(0xFFFF, 16)]) := by
  have r := rep_flush (rep_add h 0xFFFF 16 (by decide) (by omega)) (Nat.le_add_left _ _)
  rwa [show ((c.addS 0xFFFF).incr 16).bitCount - 16 = c.bitCount from Nat.add_sub_cancel ..] at r

/-! #### the distribution seen from symbol `i` on -/

/-- cells owned by the symbols from `i` on -/
def tl (norm : Array Int) (i : Nat) : Nat := startOf norm norm.size - startOf norm i

theorem startOf_le {norm : Array Int} {i j : Nat} (h : i ≤ j) : startOf norm i ≤ startOf norm j := by
  by_cases e : i = j
  · subst e; exact Nat.le_refl _
  · have := startOf_mono (norm := norm) (t := i) (s := j) (by omega); omega

theorem tl_succ {norm : Array Int} {i : Nat} (h : i < norm.size) : tl norm i = cnt norm i + tl norm (i + 1) := by
  unfold tl
  have := startOf_le (norm := norm) (i := i + 1) (j := norm.size) (by omega)
  rw [startOf_succ] at this ⊢
  omega

theorem tl_size (norm : Array Int) : tl norm norm.size = 0 := by unfold tl; omega

theorem tl_pos {norm : Array Int} {i : Nat} (h : i < norm.size) (hlast : norm[norm.size - 1]! ≠ 0) (hge : -1 ≤ norm[norm.size - 1]!) :
    1 ≤ tl norm i := by
  unfold tl
  have h1 := startOf_le (norm := norm) (i := i) (j := norm.size - 1) (by omega)
  have h2 : startOf norm (norm.size - 1 + 1) = startOf norm (norm.size - 1) + cnt norm (norm.size - 1) := startOf_succ _ _
  rw [show norm.size - 1 + 1 = norm.size by omega] at h2
  have h3 : 1 ≤ cnt norm (norm.size - 1) := by
    unfold cnt
    split
    · omega
    · next hne =>
      have : norm[norm.size - 1]! ≠ -1 := by simpa using hne
      omega
  omega

theorem tl_zero_run {norm : Array Int} {i : Nat} : ∀ (d : Nat), i + d ≤ norm.size → (∀ k, i ≤ k → k < i + d → norm[k]! = 0) →
    tl norm i = tl norm (i + d) := by
  intro d
  induction d with
  | zero => intro _ _; rfl
  | succ d ih =>
    intro h hz
    rw [ih (by omega) (fun k h1 h2 => hz k h1 (by omega)), tl_succ (by omega : i + d < norm.size)]
    have : cnt norm (i + d) = 0 := by simp [cnt, hz (i + d) (by omega) (by omega)]
    rw [this, Nat.zero_add]; rfl

theorem abs_cnt {norm : Array Int} {i : Nat} (hge : -1 ≤ norm[i]!) :
    (if norm[i]! < 0 then -norm[i]! else norm[i]!) = (cnt norm i : Int) := by
  unfold cnt
  by_cases e : norm[i]! = -1
  · simp [e]
  · have : (norm[i]! == -1) = false := by simpa using e
    simp only [this, Bool.false_eq_true, if_false]
    split <;> omega

/-- what the loop of FSE_writeNCount_generic keeps true; the facts about the distribution (`ge`, `last`, `log`) ride along.  The reader's
loop keeps the same numbers (`Sim`).  `rep` is what `zeroRun_spec` needs to bound the bit count behind a zero run when no stream is at
hand; the specs carry the same fact for every stream as `∀ pre, WRep … → WRep …`. -/
structure WOK (norm : Array Int) (L : Nat) (s : WS) : Prop where
  ge : ∀ i, i < norm.size → -1 ≤ norm[i]!
  last : norm[norm.size - 1]! ≠ 0
  log : L ≤ 12
  sym : s.symbol ≤ norm.size
  rem : s.remaining = (tl norm s.symbol : Int) + 1
  thr : s.threshold = ((2 ^ (s.nbBits - 1) : Nat) : Int)
  nb1 : 1 ≤ s.nbBits
  nbL : s.nbBits ≤ L + 1
  lo : s.threshold ≤ s.remaining
  hi : s.remaining < 2 * s.threshold
  rep : ∃ pre, WRep s.c pre
  bc : s.c.bitCount ≤ 16

section
variable {norm : Array Int} {L : Nat} {s : WS}

theorem WOK.live (ok : WOK norm L s) (hs : s.symbol < norm.size) : 1 < s.remaining := by
  have := tl_pos hs ok.last (ok.ge _ (by omega))
  rw [ok.rem]; omega

theorem WOK.done (ok : WOK norm L s) (hs : ¬ s.symbol < norm.size) : s.remaining = 1 := by
  rw [ok.rem, show s.symbol = norm.size by have := ok.sym; omega, tl_size]; rfl

theorem WOK.pow (ok : WOK norm L s) (hs : s.symbol < norm.size) :
    ∃ t, s.nbBits = t + 1 ∧ s.threshold = ((2 ^ t : Nat) : Int) ∧ 1 ≤ t ∧ t ≤ 12 := by
  have h1 := ok.nb1
  have h2 := ok.nbL
  have h3 := ok.log
  have h4 := ok.live hs
  have h5 := ok.hi
  have h6 := ok.thr
  obtain ⟨t, ht⟩ : ∃ t, s.nbBits = t + 1 := ⟨s.nbBits - 1, by omega⟩
  rw [ht, Nat.add_sub_cancel] at h6
  refine ⟨t, ht, h6, ?_, by omega⟩
  rcases Nat.eq_zero_or_pos t with h | h
  · rw [h] at h6; omega
  · exact h

theorem count_facts (ok : WOK norm L s) (hs : s.symbol < norm.size) :
    -1 ≤ norm[s.symbol]! ∧ norm[s.symbol]! < s.remaining ∧ remOf norm s = (tl norm (s.symbol + 1) : Int) + 1 := by
  have hc := ok.ge _ hs
  have ha := abs_cnt hc
  have ht := tl_succ hs
  have hr := ok.rem
  unfold remOf
  rw [ha]
  refine ⟨hc, ?_, by omega⟩
  split at ha <;> omega


/-! #### the count part of one turn -/

theorem shrink_spec (rem : Int) (hrem : 1 ≤ rem) : ∀ (fuel nb : Nat) (thr : Int), nb ≤ fuel → 1 ≤ nb → thr = ((2 ^ (nb - 1) : Nat) : Int) →
    rem < 2 * thr →
    let r := shrink rem fuel nb thr
    1 ≤ r.1 ∧ r.1 ≤ nb ∧ r.2 = ((2 ^ (r.1 - 1) : Nat) : Int) ∧ r.2 ≤ rem ∧ rem < 2 * r.2 := by
  intro fuel
  induction fuel with
  | zero => intro nb thr h1 h2; omega
  | succ fuel ih =>
    intro nb thr h1 h2 h3 h4
    unfold shrink
    by_cases c : rem < thr
    · rw [if_pos c]
      obtain ⟨k, rfl⟩ : ∃ k, nb = k + 2 := ⟨nb - 2, by
        rcases Nat.lt_or_ge nb 2 with h | h
        · have : nb = 1 := by omega
          subst this; simp at h3; omega
        · omega⟩
      have p : (2 : Nat) ^ (k + 2 - 1) = 2 * 2 ^ (k + 2 - 1 - 1) := by
        show 2 ^ (k + 1) = 2 * 2 ^ k
        rw [Nat.pow_succ]; omega
      have e : thr / 2 = ((2 ^ (k + 2 - 1 - 1) : Nat) : Int) := by
        rw [h3, p]; push_cast; omega
      obtain ⟨a1, a2, a3, a4, a5⟩ := ih (k + 2 - 1) (thr / 2) (by omega) (by omega) e (by omega)
      exact ⟨a1, by omega, a3, a4, a5⟩
    · rw [if_neg c]
      exact ⟨h2, Nat.le_refl _, h3, by omega, h4⟩

/-- the field of one count: value and width -/
def cfield (norm : Array Int) (s : WS) : Nat × Nat :=
  ((countOf norm s % 4294967296).toNat, s.nbBits - (if countOf norm s < maxOf s then 1 else 0))

/-- in particular the `(U32)` cast of the count does nothing -/
theorem cfield_spec (ok : WOK norm L s) (hs : s.symbol < norm.size) :
    (cfield norm s).1 = (countOf norm s).toNat ∧ (cfield norm s).1 < 2 ^ (cfield norm s).2 ∧ 1 ≤ (cfield norm s).2 ∧
      (cfield norm s).2 ≤ 13 := by
  obtain ⟨t, hnb, hT, t1, t12⟩ := ok.pow hs
  obtain ⟨c1, c2, -⟩ := count_facts ok hs
  have lo := ok.lo
  have hi := ok.hi
  have hp : 2 ^ t ≤ 2 ^ 12 := Nat.pow_le_pow_right (by omega) t12
  have hp2 : 2 ^ (t + 1) = 2 * 2 ^ t := by rw [Nat.pow_succ]; omega
  unfold cfield countOf maxOf
  rw [hnb, hT] at *
  generalize norm[s.symbol]! = c at *
  generalize s.remaining = R at *
  by_cases h1 : c + 1 ≥ ((2 ^ t : Nat) : Int)
  · have h2 : ¬ c + 1 + (2 * ((2 ^ t : Nat) : Int) - 1 - R) < 2 * ((2 ^ t : Nat) : Int) - 1 - R := by omega
    simp only [h1, h2, if_true, if_false, Nat.sub_zero]
    rw [Int.emod_eq_of_lt (by omega) (by omega), hp2]
    omega
  · simp only [h1, if_false]
    rw [Int.emod_eq_of_lt (by omega) (by omega)]
    split
    · rw [Nat.add_sub_cancel]; omega
    · rw [Nat.sub_zero, hp2]; omega

/-- FSE_writeNCount_generic, the count part of one turn: never `ERROR(GENERIC)` -/
theorem writeCount_spec (ok : WOK norm L s) (hs : s.symbol < norm.size) :
    ∃ s2, writeCount norm s = some s2 ∧ WOK norm L s2 ∧ s2.symbol = s.symbol + 1 ∧ s2.remaining = remOf norm s ∧
      s2.previousIs0 = (norm[s.symbol]! == 0) ∧ ∀ pre, WRep s.c pre → WRep s2.c (pre ++ [cfield norm s]) := by
  obtain ⟨c1, c2, c3⟩ := count_facts ok hs
  obtain ⟨-, f1, -, f2⟩ := cfield_spec ok hs
  have hlo := ok.lo
  have hhi := ok.hi
  have hbc := ok.bc
  have hle : remOf norm s ≤ s.remaining := by unfold remOf; split <;> omega
  obtain ⟨a1, a2, a3, a4, a5⟩ := shrink_spec (remOf norm s) (by omega) 32 s.nbBits s.threshold
    (by have := ok.nbL; have := ok.log; omega) ok.nb1 ok.thr (by omega)
  have hrep := fun pre (h : WRep s.c pre) => rep_flushIfOver16 (rep_add h _ _ f1 (by omega))
  refine ⟨_, by unfold writeCount; rw [if_neg (by omega)], ?_, rfl, rfl, ?_, hrep⟩
  · exact ⟨ok.ge, ok.last, ok.log, hs, c3, a3, a1, Nat.le_trans a2 ok.nbL, a4, a5, ok.rep.elim fun pre h => ⟨_, hrep pre h⟩,
      flushIfOver16_bc _ (by show s.c.bitCount + (cfield norm s).2 ≤ 32; omega)⟩
  · show (countOf norm s == 1) = (norm[s.symbol]! == 0)
    have h2 := ok.live hs
    have : countOf norm s = 1 ↔ norm[s.symbol]! = 0 := by
      unfold countOf maxOf; split <;> omega
    rw [Bool.eq_iff_iff, beq_iff_eq, beq_iff_eq]
    exact this


/-! #### runs of zero counts -/

/-- the fields of a run of `r` zero counts: `r/24` times sixteen 1-bits, `r%24/3` times `11`, then `r%3` on two bits -/
def zeroFields (r : Nat) : List (Nat × Nat) :=
  List.replicate (r / 24) (0xFFFF, 16) ++ (List.replicate (r % 24 / 3) (3, 2) ++ [(r % 3, 2)])

/-- in all, `r / 3` pairs `11` and then `r % 3` -/
theorem zeroFields_facts (r : Nat) :
    BitW.totalBits (zeroFields r) = 2 * (r / 3) + 2 ∧ Fit (zeroFields r) ∧
      ∀ N P, Spells N P (zeroFields r) → Spells N P (List.replicate (r / 3) (3, 2) ++ [(r % 3, 2)]) := by
  obtain ⟨a1, a2⟩ := val_ones 2 [(r % 3, 2)] (r % 24 / 3)
  obtain ⟨b1, b2⟩ := val_ones 16 (List.replicate (r % 24 / 3) (3, 2) ++ [(r % 3, 2)]) (r / 24)
  obtain ⟨c1, c2⟩ := val_ones 2 [(r % 3, 2)] (r / 3)
  have hb : BitW.totalBits (zeroFields r) = BitW.totalBits (List.replicate (r / 3) (3, 2) ++ [(r % 3, 2)]) := by rw [zeroFields, b2, a2, c2]; omega
  have hv : val (zeroFields r) = val (List.replicate (r / 3) (3, 2) ++ [(r % 3, 2)]) := by
    apply Nat.add_right_cancel (m := 1)
    rw [zeroFields, b1, a1, c1, ← Nat.mul_assoc, ← Nat.pow_add]
    congr 2; omega
  refine ⟨by rw [hb, c2]; rfl, ?_, fun N P h => by unfold Spells at *; rw [← hb, ← hv]; exact h⟩
  intro f hf
  simp only [zeroFields, List.mem_append, List.mem_replicate, List.mem_singleton] at hf
  rcases hf with ⟨_, rfl⟩ | ⟨_, rfl⟩ | rfl
  · decide
  · decide
  · show r % 3 < 2 ^ 2; omega

theorem skipZeroCounts_spec (norm : Array Int) (A : Nat) : ∀ (fuel i : Nat), A - i ≤ fuel →
    i ≤ skipZeroCounts norm A fuel i ∧ (∀ k, i ≤ k → k < skipZeroCounts norm A fuel i → k < A ∧ norm[k]! = 0) ∧
    (skipZeroCounts norm A fuel i < A → norm[skipZeroCounts norm A fuel i]! ≠ 0) ∧ (i ≤ A → skipZeroCounts norm A fuel i ≤ A) := by
  intro fuel
  induction fuel with
  | zero =>
    intro i h
    unfold skipZeroCounts
    exact ⟨Nat.le_refl _, fun k h1 h2 => by omega, fun h2 => by omega, fun h => h⟩
  | succ fuel ih =>
    intro i h
    unfold skipZeroCounts
    by_cases c : i < A ∧ norm[i]! = 0
    · rw [if_pos c]
      obtain ⟨a1, a2, a3, a4⟩ := ih (i + 1) (by omega)
      refine ⟨by omega, ?_, a3, fun _ => a4 (by omega)⟩
      intro k h1 h2
      by_cases e : k = i
      · subst e; exact c
      · exact a2 k (by omega) h2
    · rw [if_neg c]
      refine ⟨Nat.le_refl _, fun k h1 h2 => by omega, fun h2 h0 => c ⟨h2, h0⟩, fun h => h⟩

/-- the two `while (symbol >= start+g)` loops of the zero-run code (`run24`: `g = 24`, sixteen 1-bits and a flush, `bitCount` stays;
`run3`: `g = 3`, two 1-bits, `bitCount` grows by `d = 2`): `q` turns when `start + g*q ≤ symbol < start + g*q + g`, each appends the
field `fld` -/
theorem runs_spec {run : Nat → BC → Nat → BC × Nat} {step : BC → BC} {g d symbol : Nat} {fld : Nat × Nat}
    (hrun : ∀ fuel c st, run (fuel + 1) c st = if symbol ≥ st + g then run fuel (step c) (st + g) else (c, st))
    (hstep : ∀ c pre, WRep c pre → c.bitCount + fld.2 ≤ 32 → WRep (step c) (pre ++ [fld]) ∧ (step c).bitCount = c.bitCount + d) :
    ∀ (q fuel : Nat) (c : BC) (start : Nat) (pre : List (Nat × Nat)), WRep c pre → q < fuel → start + g * q ≤ symbol →
      symbol < start + g * q + g → c.bitCount + d * q + fld.2 ≤ 32 + d →
      WRep (run fuel c start).1 (pre ++ List.replicate q fld) ∧ (run fuel c start).1.bitCount = c.bitCount + d * q ∧
        (run fuel c start).2 = start + g * q := by
  intro q
  induction q with
  | zero =>
    intro fuel c start pre rep hf h1 h2 _
    obtain ⟨f, rfl⟩ : ∃ f, fuel = f + 1 := ⟨fuel - 1, by omega⟩
    rw [hrun, if_neg (by omega)]
    exact ⟨by simpa using rep, rfl, rfl⟩
  | succ q ih =>
    intro fuel c start pre rep hf h1 h2 hb
    obtain ⟨f, rfl⟩ : ∃ f, fuel = f + 1 := ⟨fuel - 1, by omega⟩
    rw [Nat.mul_succ] at h1 h2 hb ⊢
    rw [Nat.mul_succ]
    obtain ⟨r1, r2⟩ := hstep c pre rep (by omega)
    obtain ⟨a1, a2, a3⟩ := ih f (step c) (start + g) _ r1 (by omega) (by omega) (by omega) (by omega)
    rw [hrun, if_pos (by omega)]
    exact ⟨by simpa [List.replicate_succ, List.append_assoc] using a1, by omega, by omega⟩

/-- a run of `j - start` zero counts in the writer's units: groups of 24, then groups of 3, then single symbols -/
theorem run_split {start j : Nat} (h : start ≤ j) :
    (j - start) / 24 < j / 24 + 1 ∧ (j - start) % 24 / 3 < 8 ∧ (j - start) % 3 < 3 ∧
      start + 24 * ((j - start) / 24) + 3 * ((j - start) % 24 / 3) + (j - start) % 3 = j := by
  omega

/-- the container behind a run of zero counts from `start` to `j`: `r1` is what the groups of 24 leave, `r2` what the groups of 3 leave -/
theorem zeroRun_container {c : BC} {pre : List (Nat × Nat)} (rep : WRep c pre) (hbc : c.bitCount ≤ 16) {start j : Nat} (h : start ≤ j)
    {r1 r2 : BC × Nat} (h1 : run24 j (j / 24 + 1) c start = r1) (h2 : run3 j 8 r1.1 r1.2 = r2) :
    WRep ((r2.1.addS (j - r2.2)).incr 2).flushIfOver16 (pre ++ zeroFields (j - start)) ∧
      ((r2.1.addS (j - r2.2)).incr 2).flushIfOver16.bitCount ≤ 16 := by
  obtain ⟨s1, s2, s3, s4⟩ := run_split h
  rw [zeroFields]
  generalize (j - start) / 24 = A at *
  generalize (j - start) % 24 / 3 = B at *
  generalize (j - start) % 3 = C at *
  obtain ⟨a1, a2, a3⟩ := runs_spec (run := run24 j) (g := 24) (d := 0) (fld := (0xFFFF, 16)) (fun _ _ _ => rfl)
    (fun c pre r hb => ⟨rep_add16 r (by omega), rfl⟩) A (j / 24 + 1) c start pre rep s1 (by omega) (by omega) (by omega)
  rw [h1] at a1 a2 a3
  obtain ⟨b1, b2, b3⟩ := runs_spec (run := run3 j) (g := 3) (d := 2) (fld := (3, 2)) (fun _ _ _ => rfl)
    (fun c pre r hb => ⟨rep_add r 3 2 (by decide) hb, rfl⟩) B 8 r1.1 r1.2 _ a1 s2 (by omega) (by omega) (by omega)
  rw [h2] at b1 b2 b3
  have c1 := rep_add b1 (j - r2.2) 2 (by omega) (by omega)
  rw [show j - r2.2 = C by omega] at c1 ⊢
  exact ⟨by simpa [List.append_assoc] using rep_flushIfOver16 c1, flushIfOver16_bc _ (by show r2.1.bitCount + 2 ≤ 32; omega)⟩

/-- FSE_writeNCount_generic, the zero-run part of one turn: never the `break`; only `symbol` and the container move -/
theorem zeroRun_spec (ok : WOK norm L s) (hs : s.symbol < norm.size) :
    ∃ j C, zeroRun norm norm.size s = some { s with c := C, symbol := j } ∧ WOK norm L { s with c := C, symbol := j } ∧
      s.symbol ≤ j ∧ j < norm.size ∧ (∀ k, s.symbol ≤ k → k < j → norm[k]! = 0) ∧
      ∀ pre, WRep s.c pre → WRep C (pre ++ zeroFields (j - s.symbol)) := by
  obtain ⟨k1, k2, k3, k4⟩ := skipZeroCounts_spec norm norm.size norm.size s.symbol (by omega)
  generalize hj : skipZeroCounts norm norm.size norm.size s.symbol = j at *
  have hjA : j < norm.size := by
    have := k4 (by omega)
    rcases Nat.lt_or_ge j norm.size with h | h
    · exact h
    · exact absurd (k2 (norm.size - 1) (by omega) (by omega)).2 ok.last
  have hne : (j == norm.size) = false := by simp only [beq_eq_false_iff_ne, ne_eq]; omega
  refine ⟨j, _, by unfold zeroRun; simp only [hj, hne, Bool.false_eq_true, if_false], ?_, k1, hjA,
    fun k h1 h2 => (k2 k h1 h2).2, fun pre rep => (zeroRun_container rep ok.bc k1 rfl rfl).1⟩
  obtain ⟨pre, rep⟩ := ok.rep
  refine ⟨ok.ge, ok.last, ok.log, by show j ≤ norm.size; omega, ?_, ok.thr, ok.nb1, ok.nbL, ok.lo, ok.hi,
    ⟨_, (zeroRun_container rep ok.bc k1 rfl rfl).1⟩, (zeroRun_container rep ok.bc k1 rfl rfl).2⟩
  show s.remaining = (tl norm j : Int) + 1
  obtain ⟨d, rfl⟩ : ∃ d, j = s.symbol + d := ⟨j - s.symbol, by omega⟩
  rw [ok.rem, tl_zero_run d (by omega) (fun k h1 h2 => (k2 k h1 h2).2)]


/-! #### the main loop and the whole description -/

/-- the fields one turn of the main loop of FSE_writeNCount_generic emits -/
def turnFields (norm : Array Int) (A : Nat) (s : WS) : List (Nat × Nat) :=
  if s.previousIs0 then
    match zeroRun norm A s with
    | none => []
    | some s1 => zeroFields (s1.symbol - s.symbol) ++ [cfield norm s1]
  else [cfield norm s]

def loopFields (norm : Array Int) (A : Nat) : Nat → WS → List (Nat × Nat)
  | 0, _ => []
  | fuel + 1, s =>
    if s.symbol < A ∧ s.remaining > 1 then
      match turn norm A s with
      | .next s1 => turnFields norm A s ++ loopFields norm A fuel s1
      | _ => []
    else []

/-- all the fields of the description: the 4-bit `tableLog - 5`, then what the main loop emits -/
def allFields (norm : Array Int) (L : Nat) : List (Nat × Nat) :=
  (L - 5, 4) :: loopFields norm norm.size norm.size (initState L)

/-- the zero-run part of a turn of the writer's loop, from state `s` to state `s1` with the fields `zf` -/
inductive ZRun (norm : Array Int) (s : WS) : WS → List (Nat × Nat) → Prop
  | skip : s.previousIs0 = false → ZRun norm s s []
  | run (j : Nat) (C : BC) : s.previousIs0 = true → s.symbol ≤ j → (∀ k, s.symbol ≤ k → k < j → norm[k]! = 0) →
      ZRun norm s { s with c := C, symbol := j } (zeroFields (j - s.symbol))

theorem ZRun.facts {s1 : WS} {zf : List (Nat × Nat)} (h : ZRun norm s s1 zf) : Fit zf ∧ s.symbol ≤ s1.symbol := by
  cases h with
  | skip => exact ⟨fun f hf => (nomatch hf), Nat.le_refl _⟩
  | run j C _ hj => exact ⟨(zeroFields_facts _).2.1, hj⟩

/-- one turn of the writer's main loop: a zero run to a state `s1`, then the count part from `s1`; never an error nor the `break` -/
theorem turn_spec (ok : WOK norm L s) (hs : s.symbol < norm.size) :
    ∃ s1 zf, ZRun norm s s1 zf ∧ WOK norm L s1 ∧ s1.symbol < norm.size ∧ (∀ pre, WRep s.c pre → WRep s1.c (pre ++ zf)) ∧
      turnFields norm norm.size s = zf ++ [cfield norm s1] ∧
      ∀ s2, writeCount norm s1 = some s2 → turn norm norm.size s = .next s2 := by
  by_cases hp : s.previousIs0 = true
  · obtain ⟨j, C, z1, z2, z3, z4, z5, z6⟩ := zeroRun_spec ok hs
    exact ⟨_, _, .run j C hp z3 z5, z2, z4, z6, by unfold turnFields; rw [if_pos hp]; simp only [z1],
      fun s2 h => by unfold turn; rw [if_pos hp]; simp only [z1, h]⟩
  · have hp2 : s.previousIs0 = false := by simpa using hp
    exact ⟨s, [], .skip hp2, ok, hs, fun pre h => by simpa using h, by unfold turnFields; simp only [hp2, Bool.false_eq_true, if_false, List.nil_append],
      fun s2 h => by unfold turn; simp only [hp2, Bool.false_eq_true, if_false, h]⟩

/-- ... seen from outside -/
theorem turn_next (ok : WOK norm L s) (hs : s.symbol < norm.size) :
    ∃ s2, turn norm norm.size s = .next s2 ∧ WOK norm L s2 ∧ s.symbol < s2.symbol ∧ Fit (turnFields norm norm.size s) ∧
      1 ≤ BitW.totalBits (turnFields norm norm.size s) ∧ ∀ pre, WRep s.c pre → WRep s2.c (pre ++ turnFields norm norm.size s) := by
  obtain ⟨s1, zf, zr, ok1, hs1, hrep1, htf, ht⟩ := turn_spec ok hs
  obtain ⟨s2, hw, ok2, hsym, -, -, hrep2⟩ := writeCount_spec ok1 hs1
  obtain ⟨-, f1, f2, -⟩ := cfield_spec ok1 hs1
  obtain ⟨z1, z2⟩ := zr.facts
  rw [htf]
  exact ⟨s2, ht s2 hw, ok2, by omega, fit_append z1 (fit_single f1), by rw [BitW.totalBits_append]; simp only [BitW.totalBits]; omega,
    fun pre h => by rw [← List.append_assoc]; exact hrep2 _ (hrep1 pre h)⟩

theorem loopFields_succ (ok : WOK norm L s) (hs : s.symbol < norm.size) {s2 : WS} (ht : turn norm norm.size s = .next s2) (fuel : Nat) :
    loopFields norm norm.size (fuel + 1) s = turnFields norm norm.size s ++ loopFields norm norm.size fuel s2 := by
  rw [loopFields, if_pos ⟨hs, ok.live hs⟩, ht]

theorem loopFields_done (hs : ¬ s.symbol < norm.size) (fuel : Nat) : loopFields norm norm.size fuel s = [] := by
  cases fuel with
  | zero => rfl
  | succ k => rw [loopFields, if_neg (fun h => hs h.1)]

theorem mainLoop_done (hs : ¬ s.symbol < norm.size) (fuel : Nat) : mainLoop norm norm.size fuel s = some s := by
  cases fuel with
  | zero => rfl
  | succ k => rw [mainLoop, if_neg (fun h => hs h.1)]

theorem mainLoop_spec : ∀ (fuel : Nat) (s : WS) (pre : List (Nat × Nat)), WOK norm L s → WRep s.c pre → norm.size - s.symbol ≤ fuel →
    ∃ sF, mainLoop norm norm.size fuel s = some sF ∧ WRep sF.c (pre ++ loopFields norm norm.size fuel s) ∧ sF.remaining = 1 ∧
      sF.c.bitCount ≤ 16 ∧ Fit (loopFields norm norm.size fuel s) := by
  intro fuel
  induction fuel with
  | zero =>
    intro s pre ok rep hf
    have hs : ¬ s.symbol < norm.size := by omega
    exact ⟨s, rfl, by simpa [loopFields] using rep, ok.done hs, ok.bc, fun _ h => (nomatch h)⟩
  | succ fuel ih =>
    intro s pre ok rep hf
    by_cases hs : s.symbol < norm.size
    · obtain ⟨s2, ht, ok2, hlt, fit, -, hrep⟩ := turn_next ok hs
      obtain ⟨sF, f1, f2, f3, f4, f5⟩ := ih s2 _ ok2 (hrep pre rep) (by omega)
      rw [loopFields_succ ok hs ht, ← List.append_assoc]
      exact ⟨sF, by rw [mainLoop, if_pos ⟨hs, ok.live hs⟩, ht]; exact f1, f2, f3, f4, fit_append fit f5⟩
    · rw [loopFields_done hs]
      exact ⟨s, mainLoop_done hs _, by simpa using rep, ok.done hs, ok.bc, fun _ h => (nomatch h)⟩

end

/-! #### the bytes of the description -/

theorem toNatLE_prefix (b : ByteArray) (a c : Nat) : b.toNatLE 0 (a + c) % 2 ^ (8 * a) = b.toNatLE 0 a := by
  rw [ByteArray.toNatLE_add, Nat.add_mul_mod_self_left, Nat.mod_eq_of_lt (ByteArray.toNatLE_lt b 0 a)]

/-- the last flush of FSE_writeNCount_generic: `out[0] = bitStream; out[1] = bitStream>>8; out += (bitCount+7)/8` -/
theorem final_bytes (c : BC) (all : List (Nat × Nat)) (h : WRep c all) (hfit : Fit all) (hbc : c.bitCount ≤ 16) :
    (c.flush16.out.extract 0 (c.out.size + (c.bitCount + 7) / 8)).size = (BitW.totalBits all + 7) / 8 ∧
    (c.flush16.out.extract 0 (c.out.size + (c.bitCount + 7) / 8)).toNatLE 0 ((BitW.totalBits all + 7) / 8) = val all := by
  obtain ⟨hv, ht, hl⟩ := h
  have hXs : c.flush16.out.size = c.out.size + 1 + 1 := by
    show ((c.out.push _).push _).size = _
    rw [ByteArray.size_push, ByteArray.size_push]
  rw [show c.out.size + (c.bitCount + 7) / 8 = (BitW.totalBits all + 7) / 8 by omega]
  refine ⟨by rw [ByteArray.size_extract, hXs]; omega, ?_⟩
  -- all of the two bytes of the last flush spell the stream: nothing is left in the container
  have fv : c.flush16.out.toNatLE 0 (c.out.size + 1 + 1) + 2 ^ (8 * (c.out.size + 1 + 1)) * (c.bitStream >>> 16) = _ :=
    flush_val c.out c.bitStream
  rw [Nat.shiftRight_eq_div_pow, Nat.div_eq_of_lt (Nat.lt_of_lt_of_le hl (Nat.pow_le_pow_right (by omega) hbc)), Nat.mul_zero,
    Nat.add_zero, hv] at fv
  -- and the bytes kept hold all its bits
  obtain ⟨d, hd⟩ : ∃ d, c.out.size + 1 + 1 = (BitW.totalBits all + 7) / 8 + d := ⟨c.out.size + 2 - (BitW.totalBits all + 7) / 8, by omega⟩
  rw [ByteArray.toNatLE_congr _ c.flush16.out 0 0 _ (fun i hi => by
      rw [ByteArray.u8_extract _ _ _ _ (by omega), Nat.zero_add]),
    ← toNatLE_prefix _ _ d, ← hd, fv]
  exact Nat.mod_eq_of_lt (Nat.lt_of_lt_of_le (val_lt all hfit) (Nat.pow_le_pow_right (by omega) (by omega)))

theorem init_spec {norm : Array Int} {L : Nat} (hN : NormOK norm L) (hL5 : 5 ≤ L) (hL12 : L ≤ 12) (hlast : norm[norm.size - 1]! ≠ 0) :
    WOK norm L (initState L) ∧ WRep (initState L).c [(L - 5, 4)] := by
  obtain ⟨hL1, hge, hsum⟩ := hN
  have h0 : WRep (BC.mk ByteArray.empty 0 0) [] := ⟨by simp [ByteArray.toNatLE, val], by simp [BitW.totalBits], by simp⟩
  have e : (L + 2 ^ 32 - Gen.FSE_MIN_TABLELOG) % 2 ^ 32 = L - 5 := by unfold Gen.FSE_MIN_TABLELOG; omega
  have h1 : WRep (initState L).c [(L - 5, 4)] := by
    show WRep (((BC.mk ByteArray.empty 0 0).addS ((L + 2 ^ 32 - Gen.FSE_MIN_TABLELOG) % 2 ^ 32)).incr 4) _
    rw [e]; exact rep_add h0 (L - 5) 4 (by omega) (by show 0 + 4 ≤ 32; omega)
  have hp : 2 ≤ 2 ^ L := by
    have := Nat.pow_le_pow_right (show 0 < 2 by omega) hL1
    omega
  refine ⟨⟨hge, hlast, hL12, Nat.zero_le _, ?_, ?_, by show 1 ≤ L + 1; omega, by show L + 1 ≤ L + 1; omega, ?_, ?_, ⟨_, h1⟩,
    by show 0 + 4 ≤ 16; omega⟩, h1⟩
  · show (((1 <<< L : Nat) : Int)) + 1 = (tl norm 0 : Int) + 1
    unfold tl
    rw [hsum, Nat.shiftLeft_eq, Nat.one_mul]
    simp [startOf]
  · show ((1 <<< L : Nat) : Int) = ((2 ^ (L + 1 - 1) : Nat) : Int)
    rw [Nat.shiftLeft_eq, Nat.one_mul, Nat.add_sub_cancel]
  · show ((1 <<< L : Nat) : Int) ≤ ((1 <<< L : Nat) : Int) + 1
    omega
  · show ((1 <<< L : Nat) : Int) + 1 < 2 * ((1 <<< L : Nat) : Int)
    rw [Nat.shiftLeft_eq, Nat.one_mul]; omega

theorem writeNCount_spec {norm : Array Int} {L : Nat} (hN : NormOK norm L) (hL5 : 5 ≤ L) (hL12 : L ≤ 12)
    (hlast : norm[norm.size - 1]! ≠ 0) :
    (writeNCount norm L).size = (BitW.totalBits (allFields norm L) + 7) / 8 ∧
    (writeNCount norm L).toNatLE 0 ((BitW.totalBits (allFields norm L) + 7) / 8) = val (allFields norm L) ∧ Fit (allFields norm L) := by
  obtain ⟨i1, i2⟩ := init_spec hN hL5 hL12 hlast
  obtain ⟨sF, f1, f2, f3, f4, f5⟩ := mainLoop_spec norm.size (initState L) _ i1 i2 (by omega)
  have hfit : Fit (allFields norm L) := fit_append (a := [(L - 5, 4)]) (fit_single (by show L - 5 < 2 ^ 4; omega)) f5
  obtain ⟨b1, b2⟩ := final_bytes sF.c (allFields norm L) f2 hfit f4
  have e : writeNCount norm L = sF.c.flush16.out.extract 0 (sF.c.out.size + (sF.c.bitCount + 7) / 8) := by
    unfold writeNCount writeNCount? writeNCountGeneric
    simp only [f1, f3, bne_self_eq_false, Bool.false_eq_true, if_false, Option.getD_some]
  rw [e]
  exact ⟨b1, b2, hfit⟩

/-! ### the reader against the writer -/

/-- FSE_readNCount_body decodes the field of a count `c` as FSE_writeNCount_generic lays it down: with `threshold = 2^t ≤ remaining`
`< 2*threshold` and `max = 2*threshold - 1 - remaining`, the value `v` is `c + 1`, moved up by `max` when it is `≥ threshold`; it takes
`t` bits when `v < max` and `t + 1` bits otherwise -/
theorem countField_spec {rs : RS} {t bc w : Nat} {c v : Int} (hthr : rs.threshold = ((2 ^ t : Nat) : Int)) (hnb : rs.nbBits = t + 1)
    (lo : rs.threshold ≤ rs.remaining) (hi : rs.remaining < 2 * rs.threshold) (hbc : rs.bitCount = (bc : Int))
    (hc1 : -1 ≤ c) (hc2 : c < rs.remaining)
    (hv : v = if c + 1 ≥ rs.threshold then c + 1 + (2 * rs.threshold - 1 - rs.remaining) else c + 1)
    (hw : w = t + 1 - if v < 2 * rs.threshold - 1 - rs.remaining then 1 else 0)
    (hbits : rs.bitStream % 2 ^ w = v.toNat) :
    countField rs = (c, ((bc + w : Nat) : Int)) := by
  unfold countField
  have hp : 2 * 2 ^ t = 2 ^ (t + 1) := by rw [Nat.pow_succ]; omega
  simp only [Id.run, pure, hthr, hnb, hbc, Int.toNat_natCast, Nat.add_sub_cancel, hp, Nat.and_two_pow_sub_one_eq_mod] at *
  clear hthr hnb hbc hp
  have hX : rs.bitStream % 2 ^ t = v.toNat % 2 ^ t := by
    rw [← hbits, Nat.mod_mod_of_dvd _ (Nat.pow_dvd_pow 2 (by rw [hw]; split <;> omega))]
  generalize rs.remaining = R at *
  have hT := Nat.two_pow_pos t
  -- `v` is a natural number: no `toNat` is left for the arithmetic below
  obtain ⟨V, rfl⟩ := Int.eq_ofNat_of_zero_le (show 0 ≤ v by rw [hv]; split <;> omega)
  rw [Int.toNat_natCast] at hbits hX
  by_cases h : (V : Int) < 2 * ((2 ^ t : Nat) : Int) - 1 - R
  · rw [if_pos h, Nat.add_sub_cancel] at hw
    subst hw
    rw [if_neg (by omega)] at hv
    rw [hbits, if_pos (by omega)]
    congr 1 <;> omega
  · rw [if_neg h, Nat.sub_zero] at hw
    subst hw
    rw [hX, hbits]
    by_cases h2 : c + 1 ≥ ((2 ^ t : Nat) : Int)
    · rw [if_pos h2] at hv
      rw [Nat.mod_eq_sub_mod (by omega), Nat.mod_eq_of_lt (by omega), if_neg (by omega), if_pos (by omega)]
      congr 1 <;> omega
    · rw [if_neg h2] at hv
      rw [Nat.mod_eq_of_lt (by omega), if_neg (by omega), if_neg (by omega)]
      congr 1 <;> omega

/-- the reader (`rs`), on a buffer of `iend ≥ 8` bytes with room for `m` counts, stands where the writer (`ws`) stood when it had emitted
`P` bits -/
structure Sim (b : Bytes) (iend : Nat) (norm : Array Int) (m : Nat) (ws : WS) (P : Nat) (rs : RS) : Prop where
  h8 : 8 ≤ iend
  cap : norm.size ≤ m
  charnum : rs.charnum = ws.symbol
  rem : rs.remaining = ws.remaining
  thr : rs.threshold = ws.threshold
  nb : rs.nbBits = ws.nbBits
  p0 : rs.previous0 = ws.previousIs0
  live : rs.done = false
  win : ∃ bc : Nat, rs.bitCount = (bc : Int) ∧ Win (b.toNatLE 0 iend) iend rs.ip bc rs.bitStream ∧ 8 * rs.ip + bc = P
  nsz : rs.norm.size = m
  npre : ∀ i, i < ws.symbol → rs.norm[i]! = norm[i]!
  nzero : ∀ i, ws.symbol ≤ i → i < m → rs.norm[i]! = 0

/-- what the reader's loop leaves behind: all counts booked, `T` bits used -/
structure Final (norm : Array Int) (m T : Nat) (rs : RS) : Prop where
  rem : rs.remaining = 1
  charnum : rs.charnum = norm.size
  pos : ∃ bc : Nat, rs.bitCount = (bc : Int) ∧ 8 * rs.ip + bc = T ∧ bc ≤ 32
  nsz : rs.norm.size = m
  npre : ∀ i, i < norm.size → rs.norm[i]! = norm[i]!

theorem Final.result {norm : Array Int} {m T : Nat} {rs : RS} (h : Final norm m T rs) (hm : norm.size ≤ m) :
    rs.norm.extract 0 rs.charnum = norm ∧ rs.ip + ((rs.bitCount.toNat + 7) >>> 3) = (T + 7) / 8 ∧ ¬ rs.bitCount > 32 := by
  obtain ⟨-, q2, ⟨bc, q3, q4, q5⟩, q6, q7⟩ := h
  refine ⟨Array.ext (by rw [Array.size_extract, q6, q2]; omega) fun i h1 h2 => ?_,
    by rw [q3, Int.toNat_natCast, Nat.shiftRight_eq_div_pow]; omega, by rw [q3]; omega⟩
  have := q7 i h2
  rw [getElem!_pos rs.norm i (by omega), getElem!_pos norm i h2] at this
  rw [Array.getElem_extract]; simpa using this

theorem log2_of_thr {nb : Nat} {thr rem : Int} (hthr : thr = ((2 ^ (nb - 1) : Nat) : Int)) (lo : thr ≤ rem) (hi : rem < 2 * thr) :
    Nat.log2 rem.toNat = nb - 1 := by
  have hpos : 0 < 2 ^ (nb - 1) := Nat.two_pow_pos _
  rw [Nat.log2_eq_iff (by omega), Nat.pow_succ]
  omega

section
variable {b : Bytes} {iend m L P : Nat} {norm : Array Int} {ws : WS} {rs : RS}

/-- FSE_readNCount_body, the count part of a turn, against `writeCount`; behind the last symbol the loop is left at once, without a
refill -/
theorem readCount_sim {ws2 : WS} (sim : Sim b iend norm m ws P rs) (ok : WOK norm L ws) (hs : ws.symbol < norm.size)
    (hw : writeCount norm ws = some ws2) (sp : Spells (b.toNatLE 0 iend) P [cfield norm ws])
    (hend : P + (cfield norm ws).2 ≤ 8 * iend) :
    (ws2.symbol < norm.size → P + (cfield norm ws).2 < 8 * iend →
      Sim b iend norm m ws2 (P + (cfield norm ws).2) (readCount b iend m rs)) ∧
    (¬ ws2.symbol < norm.size →
      (readCount b iend m rs).done = true ∧ Final norm m (P + (cfield norm ws).2) (readCount b iend m rs)) := by
  obtain ⟨ws2', hw', ok2, hsym2, hrem2, hp2, -⟩ := writeCount_spec ok hs
  obtain rfl : ws2 = ws2' := Option.some.inj (hw.symm.trans hw')
  obtain ⟨t, hnb, hT, -, -⟩ := ok.pow hs
  obtain ⟨c1, c2, -⟩ := count_facts ok hs
  obtain ⟨f1, -, -, w13⟩ := cfield_spec ok hs
  obtain ⟨bc, hbc, win, hP⟩ := sim.win
  have hcf : countField rs = (norm[ws.symbol]!, ((bc + (cfield norm ws).2 : Nat) : Int)) :=
    countField_spec (v := countOf norm ws) (by rw [sim.thr, hT]) (by rw [sim.nb, hnb]) (by rw [sim.thr, sim.rem]; exact ok.lo)
      (by rw [sim.thr, sim.rem]; exact ok.hi) hbc c1 (by rw [sim.rem]; exact c2) (by rw [sim.thr, sim.rem]; rfl)
      (by rw [sim.thr, sim.rem, ← hnb]; rfl)
      (by rw [win.mod (ByteArray.toNatLE_lt b 0 iend) _ (by omega), hP, ← f1]; exact sp.single)
  have hch := sim.charnum
  have hnsz := sim.nsz
  have hcap := sim.cap
  have hcn : rs.charnum < rs.norm.size := by rw [hnsz, hch]; exact Nat.lt_of_lt_of_le hs hcap
  have hrem3 : (if norm[ws.symbol]! ≥ 0 then ws.remaining - norm[ws.symbol]! else ws.remaining + norm[ws.symbol]!) = ws2.remaining := by
    rw [hrem2]; unfold remOf; split <;> split <;> omega
  unfold readCount
  simp only [Id.run, pure, hcf, sim.rem, sim.thr, hrem3, hcn, if_true]
  have hle : ws2.remaining ≤ ws.remaining := by rw [← hrem3]; split <;> omega
  clear hrem3 hcf sp hw' c1 c2 f1 hT hnb hrem2
  have n1 : (rs.norm.set! rs.charnum norm[ws.symbol]!).size = m := by simpa using hnsz
  have n2 : ∀ i, i < ws2.symbol → (rs.norm.set! rs.charnum norm[ws.symbol]!)[i]! = norm[i]! := by
    intro i hi
    by_cases e : rs.charnum = i
    · subst e; rw [getBang_set_eq _ _ _ hcn, hch]
    · rw [getBang_set_ne _ _ _ _ e]; exact sim.npre i (by omega)
  constructor
  · intro hs2 hlt
    have hr2 := ok2.live hs2
    have lo2 := ok2.lo
    have hi2 := ok2.hi
    obtain ⟨ip2, bc2, hre, hwin2, hpe⟩ := refill_spec win (k := (cfield norm ws).2) (by omega) (by omega)
    have hnd : ¬ rs.charnum + 1 ≥ m := by rw [hch, ← hsym2]; exact Nat.not_le_of_lt (Nat.lt_of_lt_of_le hs2 hcap)
    have hn1 : ¬ ws2.remaining ≤ 1 := by omega
    have hlog := log2_of_thr ok2.thr lo2 hi2
    have n3 : ∀ i, ws2.symbol ≤ i → i < m → (rs.norm.set! rs.charnum norm[ws.symbol]!)[i]! = 0 := by
      intro i hi him
      rw [getBang_set_ne _ _ _ _ (by omega)]
      exact sim.nzero i (by omega) him
    have hpos : ∃ bc : Nat, ((bc2 : Int) = (bc : Int)) ∧ Win (b.toNatLE 0 iend) iend ip2 bc (b.le32 ip2 >>> bc2) ∧
        8 * ip2 + bc = P + (cfield norm ws).2 := ⟨bc2, rfl, hwin2, by rw [hpe, ← hP, Nat.add_assoc]⟩
    by_cases h1 : ws2.remaining < ws.threshold
    · have hnb2 : highbit ws2.remaining.toNat + 1 = ws2.nbBits := by unfold highbit; rw [hlog]; have := ok2.nb1; omega
      have hthr2 : ((1 <<< (ws2.nbBits - 1) : Nat) : Int) = ws2.threshold := by rw [ok2.thr, Nat.shiftLeft_eq, Nat.one_mul]
      simp only [h1, hn1, hnd, hre, if_true, if_false, Bool.not_false, Bool.true_and, decide_false, Bool.false_eq_true, hnb2,
        hthr2]
      exact ⟨sim.h8, hcap, by show rs.charnum + 1 = _; rw [hch, hsym2], rfl, rfl, rfl, hp2.symm, sim.live, hpos, n1, n2, n3⟩
    · simp only [h1, hnd, hre, if_false, Bool.not_false, Bool.true_and, decide_false, Bool.false_eq_true]
      have enb : ws.nbBits = ws2.nbBits := by
        have := log2_of_thr ok.thr (by omega : ws.threshold ≤ ws2.remaining) (by have := ok.hi; omega)
        have := ok.nb1; have := ok2.nb1; omega
      exact ⟨sim.h8, hcap, by show rs.charnum + 1 = _; rw [hch, hsym2], rfl, by show ws.threshold = _; rw [ok.thr, ok2.thr, enb],
        by show rs.nbBits = _; rw [sim.nb, enb], hp2.symm, sim.live, hpos, n1, n2, n3⟩
  · intro hs2
    have h1 := ok2.done hs2
    have h2 : (1 : Int) < ws.threshold := by have := ok.live hs; have := ok.hi; omega
    simp only [h1, h2, Int.le_refl, if_true, Bool.not_true, Bool.false_and, Bool.false_eq_true, if_false, true_and]
    exact ⟨rfl, by show rs.charnum + 1 = _; have := ok2.sym; omega,
      ⟨_, rfl, by show 8 * rs.ip + (bc + _) = _; rw [← Nat.add_assoc, hP], by have := win.near; have := win.ip4; omega⟩, n1,
      fun i hi => n2 i (by omega)⟩


/-! #### runs of zero counts -/

theorem zStep_spec {ip bc bs cn : Nat} (h8 : 8 ≤ iend) (w : Win (b.toNatLE 0 iend) iend ip bc bs) (h12 : 12 ≤ reps bs)
    (hend : 8 * ip + bc + 24 < 8 * iend) :
    ∃ ip2 bc2 : Nat, zStep b iend (reps bs, ip, (bc : Int), bs, cn) =
        .yield (reps (b.le32 ip2 >>> bc2), ip2, (bc2 : Int), b.le32 ip2 >>> bc2, cn + 36) ∧
      Win (b.toNatLE 0 iend) iend ip2 bc2 (b.le32 ip2 >>> bc2) ∧ 8 * ip2 + bc2 = 8 * ip + bc + 24 := by
  have hn12 : ¬ reps bs < 12 := by omega
  have hip := w.ip4
  have hnear := w.near
  clear w
  by_cases c7 : ip + 7 ≤ iend
  · exact ⟨ip + 3, bc, by unfold zStep; simp only [hn12, if_false, Int.toNat_natCast, c7, if_true],
      win_load b iend _ _ (by omega) (by omega) (Or.inl (by omega)), by omega⟩
  · -- the last four bytes are loaded: with `iend = ip + k`, `k` is 4, 5 or 6 and the bit count grows by `8 * (7 - k)`
    obtain ⟨k, rfl⟩ : ∃ k, iend = ip + k := ⟨iend - ip, by omega⟩
    have hk : 4 ≤ k ∧ k ≤ 6 ∧ bc + 24 < 8 * k := by omega
    clear hip hnear hend h12
    have e : (((bc : Int) - 8 * (((ip + k - 7 : Nat) : Int) - (ip : Int))).toNat &&& 31) = bc + 56 - 8 * k := by
      rw [show ((bc : Int) - 8 * (((ip + k - 7 : Nat) : Int) - (ip : Int))).toNat = bc + 56 - 8 * k by omega,
        Nat.and_two_pow_sub_one_eq_mod _ 5]
      omega
    exact ⟨ip + k - 4, bc + 56 - 8 * k, by unfold zStep; simp only [hn12, if_false, c7, e, Int.toNat_natCast],
      win_load b (ip + k) _ _ (by omega) (by omega) (Or.inr (by omega)), by omega⟩

/-- the `while (repeats >= 12)` loop of FSE_readNCount_body where the buffer shows `12 * q + t` pairs `11` (`t < 12`) and then a pair `f`
that is not `11`: it eats the `q` groups of 12 pairs (24 bits, 36 symbols each) and stops with `repeats = t` -/
theorem zloop {f : Nat} (h8 : 8 ≤ iend) (hf : f < 3) : ∀ (q fuel t ip bc bs cn : Nat), t < 12 → q < fuel →
    Win (b.toNatLE 0 iend) iend ip bc bs →
    Spells (b.toNatLE 0 iend) (8 * ip + bc) (List.replicate (12 * q + t) (3, 2) ++ [(f, 2)]) →
    8 * ip + bc + 24 * q + 2 * t + 2 ≤ 8 * iend →
    ∃ ip2 bc2 bs2 : Nat,
      recLoop (zStep b iend) fuel (reps bs, ip, (bc : Int), bs, cn) = (t, ip2, (bc2 : Int), bs2, cn + 36 * q) ∧
      Win (b.toNatLE 0 iend) iend ip2 bc2 bs2 ∧ 8 * ip2 + bc2 = 8 * ip + bc + 24 * q ∧ bs2 / 2 ^ (2 * t) % 4 = f := by
  have hNlt := ByteArray.toNatLE_lt b 0 iend
  have fit : ∀ a, Fit (List.replicate a (3, 2)) := fun a g hg => by rw [(List.mem_replicate.1 hg).2]; decide
  intro q
  induction q with
  | zero =>
    intro fuel t ip bc bs cn ht hfu w sp hend
    obtain ⟨fuel, rfl⟩ : ∃ k, fuel = k + 1 := ⟨fuel - 1, by omega⟩
    rw [Nat.mul_zero, Nat.zero_add] at sp
    obtain ⟨sp1, sp2⟩ := sp.split (fit t)
    obtain ⟨o2, o1⟩ := val_ones 2 [] t
    rw [List.append_nil] at o1 o2
    unfold Spells at sp1
    rw [o1, Nat.eq_sub_of_add_eq (o2.trans (Nat.mul_one _))] at sp1
    rw [o1] at sp2
    have hlow : bs / 2 ^ (2 * t) % 4 = f := (w.field hNlt (n := 2) (by omega)).trans sp2.single
    have hreps : reps bs = t := reps_eq bs t f w.lt (by omega) (by rw [w.mod hNlt _ (by omega)]; exact sp1) hlow hf
    rw [recLoop_done (r := (t, ip, (bc : Int), bs, cn)) (by unfold zStep; simp only [hreps, ht, if_true])]
    exact ⟨ip, bc, bs, rfl, w, rfl, hlow⟩
  | succ q ih =>
    intro fuel t ip bc bs cn ht hfu w sp hend
    obtain ⟨fuel, rfl⟩ : ∃ k, fuel = k + 1 := ⟨fuel - 1, by omega⟩
    rw [show 12 * (q + 1) + t = 12 + (12 * q + t) by omega, ← List.replicate_append_replicate, List.append_assoc] at sp
    obtain ⟨sp1, sp2⟩ := sp.split (fit 12)
    have h24 : bs % 2 ^ 24 = 2 ^ 24 - 1 := by rw [w.mod hNlt 24 (by omega)]; exact sp1
    obtain ⟨ip2, bc2, hst, w2, hp2⟩ := zStep_spec (cn := cn) h8 w (reps_ge bs w.lt h24) (by omega)
    rw [show BitW.totalBits (List.replicate 12 (3, 2)) = 24 from rfl, ← hp2] at sp2
    obtain ⟨ip3, bc3, bs3, r1, r2, r3, r4⟩ := ih fuel t ip2 bc2 _ (cn + 36) ht (by omega) w2 sp2 (by omega)
    rw [recLoop_yield hst, r1, Nat.mul_succ, ← Nat.add_assoc, Nat.add_right_comm cn]
    exact ⟨ip3, bc3, bs3, rfl, r2, by omega, r4⟩

/-- a run of `j - sym` zero counts in the reader's units: `R / 12` groups of 12 pairs, `R % 12` pairs, `f` single symbols -/
theorem run_arith {sym j m R f : Nat} (hj : sym ≤ j) (hjm : j < m) (hR : (j - sym) / 3 = R) (hf : (j - sym) % 3 = f) :
    f < 3 ∧ R / 12 < m / 36 + 2 ∧ R % 12 < 12 ∧ 12 * (R / 12) + R % 12 = R ∧ sym + 36 * (R / 12) + 3 * (R % 12) + f = j := by
  omega

/-- FSE_readNCount_body, the zero-run part of a turn, against the zero-run part of the writer's turn -/
theorem skipZeros_sim (sim : Sim b iend norm m ws P rs) {j : Nat} (hj : ws.symbol ≤ j) (hjn : j < norm.size)
    (hzero : ∀ k, ws.symbol ≤ k → k < j → norm[k]! = 0) (C : BC)
    (sp : Spells (b.toNatLE 0 iend) P (zeroFields (j - ws.symbol))) (hmore : P + BitW.totalBits (zeroFields (j - ws.symbol)) < 8 * iend) :
    Sim b iend norm m { ws with c := C, symbol := j } (P + BitW.totalBits (zeroFields (j - ws.symbol))) (skipZeros b iend m rs) := by
  obtain ⟨bc, hbc, win, hP⟩ := sim.win
  obtain ⟨z1, -, z2⟩ := zeroFields_facts (j - ws.symbol)
  replace sp := z2 _ _ sp
  rw [z1] at hmore ⊢
  rw [← hP] at sp
  obtain ⟨a1, a2, a3, a4, a5⟩ := run_arith hj (Nat.lt_of_lt_of_le hjn sim.cap) rfl rfl
  generalize (j - ws.symbol) / 3 = R at *
  generalize (j - ws.symbol) % 3 = f at *
  -- `R` is `12 * q + t`: `q` turns of the `while (repeats >= 12)` loop, then `t` pairs
  generalize R / 12 = q at *
  generalize R % 12 = t at *
  subst a4
  obtain ⟨ip2, bc2, bs2, l1, l2, l3, l4⟩ := zloop sim.h8 a1 q (m / 36 + 2) t rs.ip bc rs.bitStream rs.charnum a3 a2 win sp (by omega)
  clear sp z2
  obtain ⟨ip3, bc3, hre, hwin3, hpe⟩ := refill_spec l2 (k := 2 * t + 2) (by omega) (by omega)
  have hlow : bs2 >>> (2 * t) &&& 3 = f := by
    rw [Nat.shiftRight_eq_div_pow, show (3 : Nat) = 2 ^ 2 - 1 from rfl, Nat.and_two_pow_sub_one_eq_mod]; exact l4
  have ecast : (bc2 : Int) + 2 * ((t : Nat) : Int) + 2 = ((bc2 + (2 * t + 2) : Nat) : Int) := by omega
  rw [skipZeros_eq]
  unfold skipZerosR
  simp only [hbc, l1, hlow, ecast, hre]
  rw [sim.charnum, a5, if_neg (Nat.not_le_of_lt (Nat.lt_of_lt_of_le hjn sim.cap))]
  have hpos : 8 * ip3 + bc3 = P + (2 * (12 * q + t) + 2) := by omega
  clear l1 l4 hlow ecast hre hpe l3 hmore a5 a3 a2 a1 hP z1
  refine ⟨sim.h8, sim.cap, rfl, sim.rem, sim.thr, sim.nb, sim.p0, sim.live, ⟨bc3, rfl, hwin3, hpos⟩, sim.nsz,
    fun i (hi : i < j) => ?_, fun i (hi : j ≤ i) him => sim.nzero i (Nat.le_trans hj hi) him⟩
  show rs.norm[i]! = norm[i]!
  by_cases h : i < ws.symbol
  · exact sim.npre i h
  · have h' := Nat.le_of_not_lt h
    rw [sim.nzero i h' (Nat.lt_trans hi (Nat.lt_of_lt_of_le hjn sim.cap)), hzero i h' hi]


/-! #### the main loop -/

theorem turn_sim {ws2 : WS} (sim : Sim b iend norm m ws P rs) (ok : WOK norm L ws) (hs : ws.symbol < norm.size)
    (ht : turn norm norm.size ws = .next ws2) (sp : Spells (b.toNatLE 0 iend) P (turnFields norm norm.size ws))
    (hend : P + BitW.totalBits (turnFields norm norm.size ws) ≤ 8 * iend) :
    ∃ rs2, rStep b iend m rs = .yield rs2 ∧
      (ws2.symbol < norm.size → P + BitW.totalBits (turnFields norm norm.size ws) < 8 * iend →
        Sim b iend norm m ws2 (P + BitW.totalBits (turnFields norm norm.size ws)) rs2) ∧
      (¬ ws2.symbol < norm.size → rs2.done = true ∧ Final norm m (P + BitW.totalBits (turnFields norm norm.size ws)) rs2) := by
  obtain ⟨s1, zf, zr, ok1, hs1, -, htf, hnext⟩ := turn_spec ok hs
  obtain ⟨s2, hw, -⟩ := writeCount_spec ok1 hs1
  obtain rfl : ws2 = s2 := Turn.next.inj (ht.symm.trans (hnext s2 hw))
  obtain ⟨-, -, w1, -⟩ := cfield_spec ok1 hs1
  rw [htf] at sp hend ⊢
  obtain ⟨sp1, sp2⟩ := sp.split zr.facts.1
  rw [BitW.totalBits_append, show BitW.totalBits [cfield norm s1] = (cfield norm s1).2 from Nat.add_zero _, ← Nat.add_assoc] at hend ⊢
  obtain ⟨rs1, sim1, hstep⟩ : ∃ rs1, Sim b iend norm m s1 (P + BitW.totalBits zf) rs1 ∧ rStep b iend m rs = .yield (readCount b iend m rs1) := by
    cases zr with
    | skip hp => exact ⟨rs, sim, by unfold rStep; simp only [sim.live, sim.p0, hp, Bool.false_eq_true, if_false]⟩
    | run j C hp hj hz =>
      have hsk := skipZeros_sim sim hj hs1 hz C sp1 (by omega)
      exact ⟨_, hsk, by unfold rStep; simp only [sim.live, sim.p0, hp, hsk.live, Bool.false_eq_true, if_false, if_true]⟩
  exact ⟨_, hstep, readCount_sim sim1 ok1 hs1 hw sp2 hend⟩

theorem sim_run : ∀ (fuel : Nat) (ws : WS) (rs : RS) (P : Nat), WOK norm L ws → Sim b iend norm m ws P rs → ws.symbol < norm.size →
    norm.size - ws.symbol ≤ fuel → Spells (b.toNatLE 0 iend) P (loopFields norm norm.size fuel ws) →
    P + BitW.totalBits (loopFields norm norm.size fuel ws) ≤ 8 * iend →
    ∃ rsF, (∀ n, fuel < n → recLoop (rStep b iend m) n rs = rsF) ∧ Final norm m (P + BitW.totalBits (loopFields norm norm.size fuel ws)) rsF := by
  intro fuel
  induction fuel with
  | zero => intro ws rs P _ _ hs hf; omega
  | succ fuel ih =>
    intro ws rs P ok sim hs hf sp hend
    obtain ⟨ws2, ht, ok2, hlt, fit, -, -⟩ := turn_next ok hs
    rw [loopFields_succ ok hs ht] at sp hend ⊢
    obtain ⟨sp1, sp2⟩ := sp.split fit
    rw [BitW.totalBits_append, ← Nat.add_assoc] at hend ⊢
    obtain ⟨rs2, hstep, hnext, hlast⟩ := turn_sim sim ok hs ht sp1 (by omega)
    have hrun : ∀ n, fuel + 1 < n → recLoop (rStep b iend m) n rs = recLoop (rStep b iend m) (n - 1) rs2 := fun n hn => by
      obtain ⟨n', rfl⟩ : ∃ n', n = n' + 1 := ⟨n - 1, by omega⟩
      exact recLoop_yield hstep n'
    by_cases hs2 : ws2.symbol < norm.size
    · obtain ⟨k, rfl⟩ : ∃ k, fuel = k + 1 := ⟨fuel - 1, by omega⟩
      obtain ⟨ws3, ht3, -, -, -, pos3, -⟩ := turn_next ok2 hs2
      have hpos : 1 ≤ BitW.totalBits (loopFields norm norm.size (k + 1) ws2) := by rw [loopFields_succ ok2 hs2 ht3, BitW.totalBits_append]; omega
      obtain ⟨rsF, r1, r2⟩ := ih ws2 rs2 _ ok2 (hnext hs2 (by omega)) hs2 (by omega) sp2 hend
      exact ⟨rsF, fun n hn => by rw [hrun n hn]; exact r1 _ (by omega), r2⟩
    · obtain ⟨d1, d2⟩ := hlast hs2
      rw [loopFields_done hs2]
      refine ⟨rs2, fun n hn => ?_, d2⟩
      rw [hrun n hn]
      obtain ⟨n', hn'⟩ : ∃ n', n - 1 = n' + 1 := ⟨n - 2, by omega⟩
      rw [hn', recLoop_done (by unfold rStep; rw [if_pos d1])]

end

/-! ### the whole description -/

/-- a buffer that starts with the bytes `D` spells, in its low bits, what `D` spells -/
theorem low_bits_of_prefix (buf D : ByteArray) (hb T : Nat) (V : Nat) (hD : D.size ≤ hb) (hT : T ≤ 8 * D.size)
    (hpre : ∀ i, i < D.size → buf.u8 i = D.u8 i) (hV : D.toNatLE 0 D.size = V) (hlt : V < 2 ^ T) :
    buf.toNatLE 0 hb % 2 ^ T = V := by
  obtain ⟨d, rfl⟩ : ∃ d, hb = D.size + d := ⟨hb - D.size, by omega⟩
  have h1 := toNatLE_prefix buf D.size d
  have h2 : buf.toNatLE 0 D.size = D.toNatLE 0 D.size :=
    ByteArray.toNatLE_congr _ _ 0 0 _ (fun i hi => by rw [Nat.zero_add]; exact hpre i hi)
  rw [h2, hV] at h1
  rw [← Nat.mod_mod_of_dvd _ (Nat.pow_dvd_pow 2 hT), h1, Nat.mod_eq_of_lt hlt]

/-- the description is never empty -/
theorem writeNCount_size_pos (norm : Array Int) (L : Nat) (hN : NormOK norm L) (hL5 : 5 ≤ L) (hL12 : L ≤ 12)
    (hlast : norm[norm.size - 1]! ≠ 0) : 0 < (writeNCount norm L).size := by
  obtain ⟨w1, -, -⟩ := writeNCount_spec hN hL5 hL12 hlast
  rw [w1]; unfold allFields; simp only [BitW.totalBits]; omega

/-- FSE_readNCount_body on a buffer of `hb ≥ 8` bytes that starts with a description -/
theorem ncount8_roundtrip {norm : Array Int} {L : Nat} (hN : NormOK norm L) (hL5 : 5 ≤ L) (hL12 : L ≤ 12)
    (hlast : norm[norm.size - 1]! ≠ 0) (maxSV : Nat) (hsz : norm.size ≤ maxSV + 1)
    (b : Bytes) (hb : Nat) (h8 : 8 ≤ hb) (hfit : (writeNCount norm L).size ≤ hb)
    (hpre : ∀ i, i < (writeNCount norm L).size → b.u8 i = (writeNCount norm L).u8 i) :
    readNCount8 b hb maxSV = .ok { norm := norm, tableLog := L, used := (writeNCount norm L).size } := by
  obtain ⟨w1, w2, w3⟩ := writeNCount_spec hN hL5 hL12 hlast
  rw [← w1] at w2
  have hbits := low_bits_of_prefix b (writeNCount norm L) hb (BitW.totalBits (allFields norm L)) _ hfit (by rw [w1]; omega) hpre w2 (val_lt _ w3)
  rw [w1] at hfit ⊢
  obtain ⟨i1, -⟩ := init_spec hN hL5 hL12 hlast
  have hsz0 : 0 < norm.size := by
    rcases Nat.eq_zero_or_pos norm.size with h | h
    · have := hN.2.2; rw [h] at this; simp [startOf] at this
      have := Nat.two_pow_pos L; omega
    · exact h
  obtain ⟨g1, g2⟩ := Spells.split (a := [(L - 5, 4)]) (fit_single (by show L - 5 < 2 ^ 4; omega))
    (show Spells (b.toNatLE 0 hb) 0 (allFields norm L) by unfold Spells; rw [Nat.pow_zero, Nat.div_one]; exact hbits)
  have hT : BitW.totalBits (allFields norm L) = 0 + 4 + BitW.totalBits (loopFields norm norm.size norm.size (initState L)) := by rw [Nat.zero_add]; rfl
  have hle : b.le32 0 = b.toNatLE 0 hb % 2 ^ 32 := by
    have := le32_window b hb 0 (by omega)
    rw [Nat.mul_zero, Nat.pow_zero, Nat.div_one] at this; exact this
  have htl : (b.le32 0 &&& 0xF) + Gen.FSE_MIN_TABLELOG = L := by
    have := g1.single
    rw [Nat.pow_zero, Nat.div_one] at this
    rw [hle, show (0xF : Nat) = 2 ^ 4 - 1 from rfl, Nat.and_two_pow_sub_one_eq_mod,
      Nat.mod_mod_of_dvd _ (Nat.pow_dvd_pow 2 (by omega : 4 ≤ 32)), this]
    unfold Gen.FSE_MIN_TABLELOG; omega
  rw [readNCount8_eq]
  simp only [htl]
  rw [if_neg (by unfold Gen.FSE_TABLELOG_ABSOLUTE_MAX; omega)]
  have sim0 : Sim b hb norm (maxSV + 1) (initState L) (0 + 4)
      { ip := 0, bitCount := 4, bitStream := b.le32 0 >>> 4, remaining := ((1 <<< L) + 1 : Nat), threshold := ((1 <<< L) : Nat),
        nbBits := L + 1, charnum := 0, previous0 := false, norm := Array.replicate (maxSV + 1) 0, done := false } := by
    refine ⟨h8, hsz, rfl, ?_, rfl, rfl, rfl, rfl, ⟨4, rfl, win_load b hb 0 4 (by omega) (by omega) (Or.inl (by omega)), rfl⟩, by simp,
      fun i hi => absurd hi (Nat.not_lt_zero i), fun i _ hi => by simp [hi]⟩
    show (((1 <<< L) + 1 : Nat) : Int) = ((1 <<< L : Nat) : Int) + 1
    push_cast; rfl
  obtain ⟨rsF, r1, r2⟩ := sim_run norm.size (initState L) _ _ i1 sim0 hsz0 (by show norm.size - 0 ≤ _; omega) g2 (by omega)
  rw [r1 (maxSV + 1 + 2) (by omega)]
  obtain ⟨e1, e2, c3⟩ := r2.result hsz
  have c1 : (rsF.remaining != 1) = false := by rw [r2.rem]; rfl
  have c2 : ¬ rsF.charnum > maxSV + 1 := by rw [r2.charnum]; omega
  simp only [c1, Bool.false_eq_true, if_false, c2, c3]
  rw [e1, e2, hT]

/-- **ncount_roundtrip** (FSE_writeNCount, fse_compress.c <-> FSE_readNCount, entropy_common.c).  For every normalised distribution
`norm` (counts `≥ -1`, cells adding up to `2^L`) with `5 ≤ L ≤ 12` (FSE_MIN_TABLELOG .. FSE_MAX_TABLELOG) whose LAST count is not zero
(the writer is called with `maxSymbolValue` = the largest symbol that occurs: ZSTD_buildCTable passes the `max` of the histogram) and at
most `maxSV + 1` symbols: wherever the description `writeNCount norm L` sits in `src` (at `start`), WHATEVER bytes follow it, and for
every number `n` of available bytes that covers the description (both the `< 8` bytes padding path and the 4-bytes-ahead reads of
FSE_readNCount_body), the reader returns exactly `norm` (nothing trimmed, nothing padded), the table log `L`, and has consumed
exactly the bytes of the description. -/
theorem ncount_roundtrip (norm : Array Int) (L : Nat) (hN : NormOK norm L) (hL5 : 5 ≤ L) (hL12 : L ≤ 12)
    (hlast : norm[norm.size - 1]! ≠ 0) (maxSV : Nat) (hsz : norm.size ≤ maxSV + 1)
    (src : Bytes) (start n : Nat) (hn : (writeNCount norm L).size ≤ n)
    (hsrc : src.extract start (start + (writeNCount norm L).size) = writeNCount norm L) :
    FSE.readNCount src start n maxSV = .ok { norm := norm, tableLog := L, used := (writeNCount norm L).size } := by
  have hDs := congrArg ByteArray.size hsrc
  rw [ByteArray.size_extract] at hDs
  have hpos := writeNCount_size_pos norm L hN hL5 hL12 hlast
  have hu : ∀ i, i < (writeNCount norm L).size → src.u8 (start + i) = (writeNCount norm L).u8 i := fun i hi => by
    rw [← hsrc, ByteArray.u8_extract _ _ _ _ (by omega)]
  unfold FSE.readNCount
  by_cases h8 : n < 8
  · rw [if_pos h8]
    have := ncount8_roundtrip hN hL5 hL12 hlast maxSV hsz (src.extract start (start + n) ++ ByteArray.mk (Array.replicate (8 - n) 0)) 8
      (Nat.le_refl 8) (by omega) (fun i hi => by
        rw [ByteArray.u8_append_left _ _ _ (by rw [ByteArray.size_extract]; omega), ByteArray.u8_extract _ _ _ _ (by omega)]
        exact hu i hi)
    simp only [this]
    rw [if_neg (by omega)]
  · rw [if_neg h8]
    exact ncount8_roundtrip hN hL5 hL12 hlast maxSV hsz _ n (by omega) hn (fun i hi => by
      rw [ByteArray.u8_extract _ _ _ _ (by omega)]
      exact hu i hi)

/-! non-vacuity: a distribution with `-1` counts and zero runs of 3, 24 and 26 symbols at table log 6 -/
example : NormOK (#[20, 0, 0, 0, 10, -1] ++ Array.replicate 24 0 ++ #[30] ++ Array.replicate 26 0 ++ #[3]) 6 := by decide

end ZstdVerif.NCountRT
