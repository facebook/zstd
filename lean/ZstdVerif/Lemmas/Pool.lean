/-
The transitions of the pool model rule by rule (`WStep`, `CStep`, `Step`: what `stepWorker`, `stepClient` and `step` compute,
read as inference rules), and the safety invariant `Inv` with its preservation by every rule (`Step.inv`).
Lemmas/PoolLive, Lemmas/PoolTry and Props/C12 reason about transitions only through `step_cases` and these rules, and use
`addInternal_cases` and `resize_eq` for the two operations the rules leave folded.
-/
import ZstdVerif.Model.Pool
namespace ZstdVerif.Pool

def isRun : WPc → Bool
  | .run _ _ => true
  | .runWaitPush _ _ _ => true
  | _ => false

def jobOf : WPc → Option Job
  | .run j _ => some j
  | .runWaitPush j _ _ => some j
  | _ => none

/-- the safety invariant of the pool -/
structure Inv (s : St) : Prop where
  -- nothing accepted is lost or reordered: first what the workers took, then what is still queued
  fifo : s.accepted = s.started ++ s.q
  -- `numThreadsBusy` counts the workers that hold a job
  busy : s.busy = s.ws.countP isRun
  -- every started instance of a job has finished or is held by a worker
  acct : ∀ j, s.started.count j = s.finished.count j + (s.ws.filterMap jobOf).count j

/-- a signal is lost when the chosen worker does not sleep on the pop condition, otherwise it wakes that worker -/
theorem signalPop_cases (s : St) (k : Nat) :
    (s.ws[k]? ≠ some (.waitPop false) ∧ signalPop s k = s) ∨
    (s.ws[k]? = some (.waitPop false) ∧ signalPop s k = { s with ws := s.ws.set k (.waitPop true) }) := by
  unfold signalPop
  split
  · exact .inr ⟨‹_›, rfl⟩
  · exact .inl ⟨fun h => ‹∀ _, _› h, rfl⟩

/-- `POOL_add_internal` drops the job of a pool that is shutting down; otherwise it enqueues the job and signals -/
theorem addInternal_cases (s : St) (j : Job) (k : Nat) :
    (s.shutdown = true ∧ (addInternal s j k).1 = s) ∨
    (s.shutdown = false ∧ ∃ ws, (addInternal s j k).1 = { s with q := s.q ++ [j], accepted := s.accepted ++ [j], ws := ws } ∧
      (s.ws[k]? ≠ some (.waitPop false) ∧ ws = s.ws ∨ s.ws[k]? = some (.waitPop false) ∧ ws = s.ws.set k (.waitPop true))) := by
  unfold addInternal
  split
  · exact .inl ⟨‹_›, rfl⟩
  · refine .inr ⟨by simpa using ‹¬ s.shutdown = true›, ?_⟩
    rcases signalPop_cases { s with q := s.q ++ [j], accepted := s.accepted ++ [j] } k with ⟨hk, e⟩ | ⟨hk, e⟩
    · exact ⟨s.ws, e, .inl ⟨hk, rfl⟩⟩
    · exact ⟨_, e, .inr ⟨hk, rfl⟩⟩

/-- `POOL_resize` in closed form: new workers (none when `n` is not above the capacity) start idle, `n = 0` keeps the limit,
and both conditions are broadcast -/
theorem resize_eq (s : St) (n : Nat) :
    resize s n = { s with limit := if n = 0 then s.limit else n,
                          ws := ((s.ws ++ List.replicate (n - s.ws.length) WPc.idle).map wakeAllPopW).map wakeAllPushW,
                          cs := s.cs.map wakeAllPushC } := by
  unfold resize
  split
  · have : n - s.ws.length = 0 := by omega
    split <;> simp [bcastPush, bcastPop, *]
  · have : n ≠ 0 := by omega
    simp [bcastPush, bcastPop, *]

/-- One critical section of worker `i`, which is in state `w`: a rule per branch of `stepWorker`, guards as propositions. -/
inductive WStep (body : Job → List JOp) (s : St) (i sig : Nat) : WPc → St → Prop
  | exit {w} : (w = .idle ∨ w = .waitPop true) → (s.q = [] ∨ s.limit ≤ s.busy) → s.shutdown = true →
      WStep body s i sig w { s with ws := s.ws.set i .exited }
  | sleep {w} : (w = .idle ∨ w = .waitPop true) → (s.q = [] ∨ s.limit ≤ s.busy) → s.shutdown = false →
      WStep body s i sig w { s with ws := s.ws.set i (.waitPop false) }
  | pop {w j rest} : (w = .idle ∨ w = .waitPop true) → s.q = j :: rest → s.busy < s.limit →
      WStep body s i sig w (bcastPush { s with q := rest, busy := s.busy + 1, started := s.started ++ [j],
                                               ws := s.ws.set i (.run j (body j)) })
  | finish {j} :
      WStep body s i sig (.run j []) (bcastPush { s with busy := s.busy - 1, finished := s.finished ++ [j], ws := s.ws.set i .idle })
  | addWait {w j a rest} : (w = .run j (.add a :: rest) ∨ w = .runWaitPush j (.add a :: rest) true) →
      isFull s = true → s.shutdown = false →
      WStep body s i sig w { s with ws := s.ws.set i (.runWaitPush j (.add a :: rest) false) }
  | add {w j rest} (a : Job) : (w = .run j (.add a :: rest) ∨ w = .runWaitPush j (.add a :: rest) true) →
      ¬ (isFull s = true ∧ s.shutdown = false) →
      WStep body s i sig w { (addInternal s a sig).1 with ws := (addInternal s a sig).1.ws.set i (.run j rest) }
  | tryRefuse {j a rest} : (isFull s = true ∨ s.shutdown = true) →
      WStep body s i sig (.run j (.tryAdd a :: rest)) { s with ws := s.ws.set i (.run j rest), tryRefused := s.tryRefused ++ [a] }
  | tryAdd {j rest} (a : Job) : isFull s = false → s.shutdown = false →
      WStep body s i sig (.run j (.tryAdd a :: rest))
        { (addInternal s a sig).1 with ws := (addInternal s a sig).1.ws.set i (.run j rest),
                                       tryOk := (addInternal s a sig).1.tryOk ++ [a] }

/-- what `stepWorker` does for a worker at the top of its loop (`idle`, or woken from the pop wait), as the model writes it twice -/
def topBody (body : Job → List JOp) (s : St) (i : Nat) : Option (St × List Act) :=
  if s.q.isEmpty || decide (s.busy ≥ s.limit) then
    if s.shutdown then some ({ s with ws := s.ws.set i .exited }, [])
    else some ({ s with ws := s.ws.set i (.waitPop false) }, [Act.waitPop])
  else match s.q with
    | [] => none
    | j :: rest => some (bcastPush { s with q := rest, busy := s.busy + 1, started := s.started ++ [j],
                                             ws := s.ws.set i (.run j (body j)) }, [Act.bcastPush])

theorem stepWorker_cases {body : Job → List JOp} {s s' : St} {a : List Act} {i sig : Nat}
    (hs : stepWorker body s i sig = some (s', a)) : ∃ w, s.ws[i]? = some w ∧ WStep body s i sig w s' := by
  -- the second body that `stepWorker` shares between two worker states, as the model writes it
  have top : ∀ w, (w = .idle ∨ w = .waitPop true) → topBody body s i = some (s', a) →
      WStep body s i sig w s' := by
    intro w hw h
    unfold topBody at h
    split at h
    · rename_i hc
      have hc : s.q = [] ∨ s.limit ≤ s.busy := by simpa using hc
      split at h <;> cases h
      · exact .exit hw hc ‹_›
      · exact .sleep hw hc (by simpa using ‹¬ s.shutdown = true›)
    · rename_i hc
      split at h <;> cases h
      exact .pop hw ‹_› (by simp at hc; omega)
  have post : ∀ w j x rest, (w = .run j (.add x :: rest) ∨ w = .runWaitPush j (.add x :: rest) true) →
      (if isFull s && !s.shutdown then
        some ({ s with ws := s.ws.set i (.runWaitPush j (.add x :: rest) false) }, [Act.waitPush])
      else some ({ (addInternal s x sig).1 with ws := (addInternal s x sig).1.ws.set i (.run j rest) },
                 (addInternal s x sig).2)) = some (s', a) →
      WStep body s i sig w s' := by
    intro w j x rest hw h
    split at h <;> rename_i hc <;> cases h
    · have hc : isFull s = true ∧ s.shutdown = false := by simpa using hc
      exact .addWait hw hc.1 hc.2
    · exact .add _ hw (by simpa using hc)
  unfold stepWorker at hs
  split at hs
  any_goals contradiction
  · exact ⟨_, ‹_›, top _ (.inl rfl) hs⟩
  · exact ⟨_, ‹_›, top _ (.inr rfl) hs⟩
  · cases hs; exact ⟨_, ‹_›, .finish⟩
  · exact ⟨_, ‹_›, post _ _ _ _ (.inl rfl) hs⟩
  · exact ⟨_, ‹_›, post _ _ _ _ (.inr rfl) hs⟩
  · refine ⟨_, ‹_›, ?_⟩
    split at hs <;> rename_i hc <;> cases hs
    · exact .tryRefuse (by simpa using hc)
    · have hc : isFull s = false ∧ s.shutdown = false := by simpa using hc
      exact .tryAdd _ hc.1 hc.2

/-- One critical section of client `i`, whose record is the `Client` index: a rule per branch of `stepClient`. -/
inductive CStep (s : St) (i sig : Nat) : Client → St → Prop
  | finish : CStep s i sig ⟨.ready, []⟩ (setClient s i ⟨.done, []⟩)
  | addWait {pc j rest} : (pc = .ready ∨ pc = .waitPush true) → isFull s = true → s.shutdown = false →
      CStep s i sig ⟨pc, .add j :: rest⟩ (setClient s i ⟨.waitPush false, .add j :: rest⟩)
  | add {pc rest} (j : Job) : (pc = .ready ∨ pc = .waitPush true) → ¬ (isFull s = true ∧ s.shutdown = false) →
      CStep s i sig ⟨pc, .add j :: rest⟩ (setClient (addInternal s j sig).1 i ⟨.ready, rest⟩)
  | tryRefuse {j rest} : (isFull s = true ∨ s.shutdown = true) →
      CStep s i sig ⟨.ready, .tryAdd j :: rest⟩ (setClient { s with tryRefused := s.tryRefused ++ [j] } i ⟨.ready, rest⟩)
  | tryAdd {rest} (j : Job) : isFull s = false → s.shutdown = false →
      CStep s i sig ⟨.ready, .tryAdd j :: rest⟩
        (setClient { (addInternal s j sig).1 with tryOk := (addInternal s j sig).1.tryOk ++ [j] } i ⟨.ready, rest⟩)
  | joinWait {pc rest} : (pc = .ready ∨ pc = .waitPush true) → (s.q ≠ [] ∨ 0 < s.busy) →
      CStep s i sig ⟨pc, .joinJobs :: rest⟩ (setClient s i ⟨.waitPush false, .joinJobs :: rest⟩)
  | join {pc rest} : (pc = .ready ∨ pc = .waitPush true) → s.q = [] → s.busy = 0 →
      CStep s i sig ⟨pc, .joinJobs :: rest⟩ (setClient s i ⟨.ready, rest⟩)
  | resize {rest} (n : Nat) : CStep s i sig ⟨.ready, .resize n :: rest⟩ (setClient (resize s n) i ⟨.ready, rest⟩)
  | free {rest} :
      CStep s i sig ⟨.ready, .free :: rest⟩ (setClient { s with shutdown := true } i ⟨.freeBcastPush, .free :: rest⟩)
  | freeBcastPush {prog} : CStep s i sig ⟨.freeBcastPush, prog⟩ (setClient (bcastPush s) i ⟨.freeBcastPop, prog⟩)
  | freeBcastPop {prog} : CStep s i sig ⟨.freeBcastPop, prog⟩ (setClient (bcastPop s) i ⟨.joining, prog⟩)
  | joined {prog} : s.ws.all (· == .exited) = true → CStep s i sig ⟨.joining, prog⟩ (setClient s i ⟨.done, []⟩)

theorem stepClient_cases {s s' : St} {a : List Act} {i sig : Nat}
    (hs : stepClient s i sig = some (s', a)) : ∃ c, s.cs[i]? = some c ∧ CStep s i sig c s' := by
  -- the bodies that `stepClient` shares between a client entering the operation and one woken inside it
  have post : ∀ pc j rest, (pc = .ready ∨ pc = .waitPush true) →
      (if isFull s && !s.shutdown then some (setClient s i ⟨.waitPush false, .add j :: rest⟩, [Act.waitPush])
       else some (setClient (addInternal s j sig).1 i ⟨.ready, rest⟩, (addInternal s j sig).2)) = some (s', a) →
      CStep s i sig ⟨pc, .add j :: rest⟩ s' := by
    intro pc j rest hpc h
    split at h <;> rename_i hc <;> cases h
    · have hc : isFull s = true ∧ s.shutdown = false := by simpa using hc
      exact .addWait hpc hc.1 hc.2
    · exact .add _ hpc (by simpa using hc)
  have join : ∀ pc rest, (pc = .ready ∨ pc = .waitPush true) →
      (if !s.q.isEmpty || decide (s.busy > 0) then some (setClient s i ⟨.waitPush false, .joinJobs :: rest⟩, [Act.waitPush])
       else some (setClient s i ⟨.ready, rest⟩, [])) = some (s', a) →
      CStep s i sig ⟨pc, .joinJobs :: rest⟩ s' := by
    intro pc rest hpc h
    split at h <;> rename_i hc <;> cases h
    · exact .joinWait hpc (by simpa using hc)
    · have hc : s.q = [] ∧ s.busy = 0 := by simpa using hc
      exact .join hpc hc.1 hc.2
  unfold stepClient at hs
  split at hs
  · contradiction
  · rename_i c hc
    refine ⟨c, hc, ?_⟩
    obtain ⟨pc, prog⟩ := c
    dsimp only at hs
    split at hs
    any_goals contradiction
    · cases hs; exact .finish
    · exact post _ _ _ (.inl rfl) hs
    · exact post _ _ _ (.inr rfl) hs
    · split at hs <;> rename_i hc <;> cases hs
      · exact .tryRefuse (by simpa using hc)
      · have hc : isFull s = false ∧ s.shutdown = false := by simpa using hc
        exact .tryAdd _ hc.1 hc.2
    · exact join _ _ (.inl rfl) hs
    · exact join _ _ (.inr rfl) hs
    · cases hs; exact .resize _
    · cases hs; exact .free
    · cases hs; exact .freeBcastPush
    · cases hs; exact .freeBcastPop
    · split at hs <;> cases hs
      exact .joined ‹_›

/-- One transition of the pool: what `step` computes for some label. -/
inductive Step (body : Job → List JOp) (s : St) : St → Prop
  | worker {i sig w s'} : signalChoiceOk s sig = true → s.ws[i]? = some w → WStep body s i sig w s' → Step body s s'
  | client {i sig c s'} : signalChoiceOk s sig = true → s.cs[i]? = some c → CStep s i sig c s' → Step body s s'
  | spuriousPop {i} : s.ws[i]? = some (.waitPop false) → Step body s { s with ws := s.ws.set i (.waitPop true) }
  | spuriousPush {i j r} :
      s.ws[i]? = some (.runWaitPush j r false) → Step body s { s with ws := s.ws.set i (.runWaitPush j r true) }
  | spuriousC {i p} : s.cs[i]? = some ⟨.waitPush false, p⟩ → Step body s (setClient s i ⟨.waitPush true, p⟩)

theorem step_cases {body : Job → List JOp} {s s' : St} {l : Label} {a : List Act}
    (hs : step body s l = some (s', a)) : Step body s s' := by
  cases l with
  | worker i sig =>
    simp only [step] at hs
    split at hs
    · obtain ⟨w, hw, st⟩ := stepWorker_cases hs; exact .worker ‹_› hw st
    · contradiction
  | client i sig =>
    simp only [step] at hs
    split at hs
    · obtain ⟨c, hc, st⟩ := stepClient_cases hs; exact .client ‹_› hc st
    · contradiction
  | spuriousW i =>
    simp only [step, Option.map_eq_some_iff] at hs
    obtain ⟨_, h, e⟩ := hs
    cases e
    unfold spuriousW at h
    split at h <;> cases h
    · exact .spuriousPop ‹_›
    · exact .spuriousPush ‹_›
  | spuriousC i =>
    simp only [step, Option.map_eq_some_iff] at hs
    obtain ⟨_, h, e⟩ := hs
    cases e
    unfold spuriousC at h
    split at h <;> cases h
    exact .spuriousC ‹_›

theorem isRun_eq (w : WPc) : isRun w = (jobOf w).isSome := by cases w <;> rfl

/-- `Inv` reads the workers only through the jobs they run. -/
theorem Inv.congr {s t : St} (h : Inv s) (hw : t.ws.map jobOf = s.ws.map jobOf) (hq : t.q = s.q := by rfl)
    (hb : t.busy = s.busy := by rfl) (ha : t.accepted = s.accepted := by rfl) (hs : t.started = s.started := by rfl)
    (hf : t.finished = s.finished := by rfl) : Inv t := by
  have run : ∀ ws : List WPc, ws.countP isRun = (ws.map jobOf).countP Option.isSome := fun ws => by
    rw [List.countP_map]; exact congrArg (List.countP · ws) (funext isRun_eq)
  have jobs : ∀ ws : List WPc, ws.filterMap jobOf = (ws.map jobOf).filterMap id := fun ws => by
    rw [List.filterMap_map]; rfl
  exact ⟨by rw [ha, hs, hq]; exact h.fifo, by rw [hb, run, hw, ← run]; exact h.busy,
    fun j => by rw [hs, hf, jobs, hw, ← jobs]; exact h.acct j⟩

theorem map_jobOf_set {ws : List WPc} {i : Nat} {w x : WPc} (hw : ws[i]? = some w) (hx : jobOf x = jobOf w) :
    (ws.set i x).map jobOf = ws.map jobOf := by
  obtain ⟨hi, rfl⟩ := List.getElem?_eq_some_iff.mp hw
  rw [List.map_set, hx, ← List.getElem_map jobOf (h := by simpa using hi), List.set_getElem_self]

theorem map_jobOf_of {f : WPc → WPc} (hf : ∀ w, jobOf (f w) = jobOf w) (ws : List WPc) :
    (ws.map f).map jobOf = ws.map jobOf := by
  rw [List.map_map]; exact List.map_congr_left fun w _ => hf w

theorem jobOf_wakeAllPushW (w : WPc) : jobOf (wakeAllPushW w) = jobOf w := by cases w <;> rfl

theorem jobOf_wakeAllPopW (w : WPc) : jobOf (wakeAllPopW w) = jobOf w := by cases w <;> rfl

theorem countP_set_add {α} (p : α → Bool) {l : List α} {i : Nat} (h : i < l.length) (x : α) :
    (l.set i x).countP p + (if p l[i] then 1 else 0) = l.countP p + (if p x then 1 else 0) := by
  have := List.boole_getElem_le_countP (p := p) h
  rw [List.countP_set h]; omega

/-- replacing worker `i` changes both counts `Inv` speaks of by what the old and the new state contribute -/
theorem ws_set_balance {ws : List WPc} {i : Nat} {w : WPc} (hw : ws[i]? = some w) (x : WPc) :
    ((ws.set i x).countP isRun + (if (jobOf w).isSome then 1 else 0) = ws.countP isRun + (if (jobOf x).isSome then 1 else 0)) ∧
    ∀ k, ((ws.set i x).filterMap jobOf).count k + (if jobOf w = some k then 1 else 0)
      = (ws.filterMap jobOf).count k + (if jobOf x = some k then 1 else 0) := by
  obtain ⟨hi, rfl⟩ := List.getElem?_eq_some_iff.mp hw
  refine ⟨by simpa only [isRun_eq] using countP_set_add isRun hi x, fun k => ?_⟩
  simpa only [List.count_filterMap, beq_iff_eq] using countP_set_add (fun w => jobOf w == some k) hi x

theorem inv_pop {s : St} (h : Inv s) {i : Nat} {w : WPc} {j : Job} {rest : List Job} (r : List JOp)
    (hw : s.ws[i]? = some w) (hj : jobOf w = none) (hq : s.q = j :: rest) :
    Inv { s with q := rest, busy := s.busy + 1, started := s.started ++ [j], ws := s.ws.set i (.run j r) } := by
  obtain ⟨hb, ha⟩ := ws_set_balance hw (.run j r)
  rw [hj] at hb ha
  refine ⟨by simp [h.fifo, hq], ?_, fun k => ?_⟩
  · have := h.busy
    simp [jobOf] at hb ⊢
    omega
  · have := h.acct k
    have := ha k
    simp [jobOf, List.count_singleton] at this ⊢
    omega

theorem inv_finish {s : St} (h : Inv s) {i : Nat} {j : Job} (hw : s.ws[i]? = some (.run j [])) :
    Inv { s with busy := s.busy - 1, finished := s.finished ++ [j], ws := s.ws.set i .idle } := by
  obtain ⟨hb, ha⟩ := ws_set_balance hw .idle
  refine ⟨h.fifo, ?_, fun k => ?_⟩
  · have := h.busy
    simp [jobOf] at hb ⊢
    omega
  · have := h.acct k
    have := ha k
    simp [jobOf, List.count_singleton] at this ⊢
    omega

theorem inv_bcastPush {s : St} (h : Inv s) : Inv (bcastPush s) :=
  h.congr (map_jobOf_of jobOf_wakeAllPushW _)

theorem inv_bcastPop {s : St} (h : Inv s) : Inv (bcastPop s) :=
  h.congr (map_jobOf_of jobOf_wakeAllPopW _)

theorem addInternal_jobs (s : St) (j : Job) (k : Nat) : (addInternal s j k).1.ws.map jobOf = s.ws.map jobOf := by
  rcases addInternal_cases s j k with ⟨_, e⟩ | ⟨_, ws, e, ⟨_, rfl⟩ | ⟨hk, rfl⟩⟩ <;> rw [e]
  exact map_jobOf_set hk rfl

theorem inv_addInternal {s : St} (h : Inv s) (j : Job) (k : Nat) : Inv (addInternal s j k).1 := by
  have h' : Inv { s with q := s.q ++ [j], accepted := s.accepted ++ [j] } := ⟨by simp [h.fifo], h.busy, h.acct⟩
  rcases addInternal_cases s j k with ⟨_, e⟩ | ⟨_, ws, e, ⟨_, rfl⟩ | ⟨hk, rfl⟩⟩ <;> rw [e]
  · exact h
  · exact h'
  · exact h'.congr (map_jobOf_set hk rfl)

theorem idle_jobs (n : Nat) : (List.replicate n WPc.idle).filterMap jobOf = [] :=
  List.filterMap_replicate_of_none rfl

theorem inv_resize {s : St} (h : Inv s) (n : Nat) : Inv (resize s n) := by
  have h' : Inv { s with ws := s.ws ++ List.replicate (n - s.ws.length) .idle } :=
    ⟨h.fifo, by simp [List.countP_replicate, isRun, h.busy], fun j => by simp [idle_jobs, h.acct j]⟩
  rw [resize_eq]
  exact h'.congr (by rw [map_jobOf_of jobOf_wakeAllPushW, map_jobOf_of jobOf_wakeAllPopW])

theorem inv_init (t qs : Nat) (progs : List (List COp)) : Inv (init t qs progs) :=
  ⟨rfl, by simp [init, List.countP_replicate, isRun], fun j => by simp [init, idle_jobs]⟩

theorem WStep.inv {body : Job → List JOp} {s s' : St} {i sig : Nat} {w : WPc} (st : WStep body s i sig w s')
    (hw : s.ws[i]? = some w) (h : Inv s) : Inv s' := by
  have idle : ∀ {w}, w = .idle ∨ w = .waitPop true → jobOf w = none := by rintro _ (rfl | rfl) <;> rfl
  have post : ∀ {w j a rest}, w = .run j (.add a :: rest) ∨ w = .runWaitPush j (.add a :: rest) true → jobOf w = some j := by
    rintro _ _ _ _ (rfl | rfl) <;> rfl
  -- after `addInternal` worker `i` still runs the job it ran before
  have added : ∀ {x a}, jobOf x = jobOf w →
      ((addInternal s a sig).1.ws.set i x).map jobOf = (addInternal s a sig).1.ws.map jobOf := fun hx => by
    rw [List.map_set, addInternal_jobs, ← List.map_set, map_jobOf_set hw hx]
  cases st with
  | exit hi | sleep hi => exact h.congr (map_jobOf_set hw (idle hi).symm)
  | pop hi hq => exact inv_bcastPush (inv_pop h _ hw (idle hi) hq)
  | finish => exact inv_bcastPush (inv_finish h hw)
  | addWait hr => exact h.congr (map_jobOf_set hw (post hr).symm)
  | add _ hr => exact (inv_addInternal h _ _).congr (added (post hr).symm)
  | tryRefuse => exact h.congr (map_jobOf_set hw rfl)
  | tryAdd => exact (inv_addInternal h _ _).congr (added rfl)

theorem inv_ghost_try {s : St} (h : Inv s) (a b : List Job) : Inv { s with tryRefused := a, tryOk := b } :=
  ⟨h.fifo, h.busy, h.acct⟩

theorem inv_shutdown {s : St} (h : Inv s) (b : Bool) : Inv { s with shutdown := b } :=
  ⟨h.fifo, h.busy, h.acct⟩

theorem inv_setClient {s : St} (h : Inv s) (i : Nat) (c : Client) : Inv (setClient s i c) :=
  ⟨h.fifo, h.busy, h.acct⟩

theorem CStep.inv {s s' : St} {i sig : Nat} {c : Client} (st : CStep s i sig c s') (h : Inv s) : Inv s' := by
  cases st with
  | finish | addWait | joinWait | join | joined => exact inv_setClient h _ _
  | add => exact inv_setClient (inv_addInternal h _ _) _ _
  | tryRefuse => exact inv_setClient (inv_ghost_try h _ _) _ _
  | tryAdd => exact inv_setClient (inv_ghost_try (inv_addInternal h _ _) _ _) _ _
  | resize => exact inv_setClient (inv_resize h _) _ _
  | free => exact inv_setClient (inv_shutdown h _) _ _
  | freeBcastPush => exact inv_setClient (inv_bcastPush h) _ _
  | freeBcastPop => exact inv_setClient (inv_bcastPop h) _ _

theorem Step.inv {body : Job → List JOp} {s s' : St} (st : Step body s s') (h : Inv s) : Inv s' := by
  cases st with
  | worker _ hw st => exact st.inv hw h
  | client _ _ st => exact st.inv h
  | spuriousPop hw | spuriousPush hw => exact h.congr (map_jobOf_set hw rfl)
  | spuriousC => exact inv_setClient h _ _

end ZstdVerif.Pool
