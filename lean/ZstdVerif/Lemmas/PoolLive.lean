/-
Liveness side of the pool model: the "no lost wake-up" invariant `Live`.  Every thread that sleeps on one of the two condition
variables does so while its wait condition holds, or while the broadcast that will wake it is still owed by a client inside POOL_free;
and whenever a queued job could be started some worker is not asleep.  Props/C12 takes from here that `Live` holds initially
(`live_init`) and is preserved by every transition (`Step.live`), that pending work keeps a worker awake (`exists_active`), and
that such a worker has an enabled step (`exists_sig`, `stepWorker_enabled`, `worker_enabled`).
-/
import ZstdVerif.Lemmas.Pool
namespace ZstdVerif.Pool

def activeW : WPc → Bool
  | .waitPop false => false
  | .exited => false
  | _ => true
def sleepPop : WPc → Bool
  | .waitPop false => true
  | _ => false
def sleepPushW : WPc → Bool
  | .runWaitPush _ _ false => true
  | _ => false
def isExited : WPc → Bool
  | .exited => true
  | _ => false
def headAddJ : List JOp → Bool
  | .add _ :: _ => true
  | _ => false
/-- a worker blocked (or just woken) inside POOL_add always has that add at the head of its remaining body -/
def rwpOk : WPc → Bool
  | .runWaitPush _ r _ => headAddJ r
  | _ => true
def headAdd : List COp → Bool
  | .add _ :: _ => true
  | _ => false
def headJoin : List COp → Bool
  | .joinJobs :: _ => true
  | _ => false
def sleepAddC (c : Client) : Bool :=
  match c.pc with
  | .waitPush false => headAdd c.prog
  | _ => false
def sleepJoinC (c : Client) : Bool :=
  match c.pc with
  | .waitPush false => headJoin c.prog
  | _ => false
-- Inside POOL_free, after `shutdown = 1`: `pendPushC` while the broadcast on the push condition is still to come, `pendFreeC`
-- while either broadcast is; a client in `freeBcastPop` has done the first and owes only the one on the pop condition.
def pendPushC (c : Client) : Bool :=
  match c.pc with
  | .freeBcastPush => true
  | _ => false
def pendFreeC (c : Client) : Bool :=
  match c.pc with
  | .freeBcastPush => true
  | .freeBcastPop => true
  | _ => false

/-- the part of `Live` that does not speak of sleepers on the push condition: it survives a change of queue length or busy count
that is followed by a broadcast on that condition -/
structure Core (s : St) : Prop where
  lim : 0 < s.limit
  wsne : s.ws ≠ []
  rwp : ∀ w ∈ s.ws, rwpOk w = true
  exitShut : ∀ w ∈ s.ws, isExited w = true → s.shutdown = true
  /-- a startable job is never stranded: some worker is awake (or running, and will look at the queue when its job returns) -/
  pop : s.q ≠ [] → s.busy < s.limit → ∃ w ∈ s.ws, activeW w = true
  /-- after shutdown a worker still asleep on the pop condition is owed a broadcast by POOL_free -/
  popShut : s.shutdown = true → ∀ w ∈ s.ws, sleepPop w = true → ∃ c ∈ s.cs, pendFreeC c = true

/-- a sleeper on the push condition is justified: its wait condition still holds, or POOL_free owes it the broadcast -/
def PushOk (s : St) : Prop :=
  (isFull s = true ∧ s.shutdown = false) ∨ ∃ c ∈ s.cs, pendPushC c = true

theorem pushOk_iff {s : St} :
    PushOk s ↔ (isFull s = true ∧ s.shutdown = false) ∨ ∃ c ∈ s.cs, c.pc = .freeBcastPush := by
  refine or_congr_right (exists_congr fun c => and_congr_right fun _ => ?_)
  rcases c with ⟨pc, _⟩
  cases pc <;> simp [pendPushC]

/-- every sleeper on the push condition (a job body or a client inside POOL_add, a client inside POOL_joinJobs) is justified -/
structure Push (s : St) : Prop where
  pushW : ∀ w ∈ s.ws, sleepPushW w = true → PushOk s
  pushAdd : ∀ c ∈ s.cs, sleepAddC c = true → PushOk s
  pushJoin : ∀ c ∈ s.cs, sleepJoinC c = true → s.q ≠ [] ∨ 0 < s.busy

/-- no wake-up is lost -/
structure Live (s : St) : Prop where
  core : Core s
  push : Push s

theorem forall_mem_set {α} {P : α → Prop} {l : List α} {i : Nat} {x : α} (h : ∀ a ∈ l, P a) (hx : P x) :
    ∀ a ∈ l.set i x, P a :=
  fun a ha => (List.mem_or_eq_of_mem_set ha).elim (h a) (· ▸ hx)

theorem exists_mem_set {α} {P : α → Prop} {l : List α} {i : Nat} {x y : α} (hy : l[i]? = some y) (hny : ¬ P y)
    (h : ∃ a ∈ l, P a) : ∃ a ∈ l.set i x, P a := by
  obtain ⟨a, ha, hp⟩ := h
  obtain ⟨k, hk⟩ := List.mem_iff_getElem?.mp ha
  have hik : i ≠ k := by rintro rfl; rw [hy] at hk; cases hk; exact hny hp
  exact ⟨a, List.mem_iff_getElem?.mpr ⟨k, by rw [List.getElem?_set_ne hik]; exact hk⟩, hp⟩

theorem getElem?_map_some {α β} {f : α → β} {l : List α} {i : Nat} {a : α} (h : l[i]? = some a) :
    (l.map f)[i]? = some (f a) := by
  rw [List.getElem?_map, h]; rfl

theorem all_of_not_any {α} (p q : α → Bool) (l : List α) (hpq : ∀ a, p a = false → q a = true) (h : l.any p = false) :
    l.all q = true := by
  exact List.all_eq_true.mpr fun a ha => hpq a (Bool.eq_false_iff.mpr (List.any_eq_false.mp h a ha))

@[simp] theorem activeW_push (w : WPc) : activeW (wakeAllPushW w) = activeW w := by cases w <;> rfl
@[simp] theorem sleepPop_push (w : WPc) : sleepPop (wakeAllPushW w) = sleepPop w := by cases w <;> rfl
@[simp] theorem isExited_push (w : WPc) : isExited (wakeAllPushW w) = isExited w := by cases w <;> rfl
@[simp] theorem rwpOk_push (w : WPc) : rwpOk (wakeAllPushW w) = rwpOk w := by cases w <;> rfl
@[simp] theorem sleepPushW_push (w : WPc) : sleepPushW (wakeAllPushW w) = false := by cases w <;> rfl
@[simp] theorem sleepPushW_pop (w : WPc) : sleepPushW (wakeAllPopW w) = sleepPushW w := by cases w <;> rfl
@[simp] theorem isExited_pop (w : WPc) : isExited (wakeAllPopW w) = isExited w := by cases w <;> rfl
@[simp] theorem rwpOk_pop (w : WPc) : rwpOk (wakeAllPopW w) = rwpOk w := by cases w <;> rfl
@[simp] theorem sleepPop_pop (w : WPc) : sleepPop (wakeAllPopW w) = false := by cases w <;> rfl
theorem activeW_pop_of_not_exited (w : WPc) (h : isExited w = false) : activeW (wakeAllPopW w) = true := by
  cases w with
  | exited => cases h
  | _ => rfl

@[simp] theorem sleepAddC_push (c : Client) : sleepAddC (wakeAllPushC c) = false := by
  rcases c with ⟨pc, prog⟩
  cases pc <;> rfl
@[simp] theorem sleepJoinC_push (c : Client) : sleepJoinC (wakeAllPushC c) = false := by
  rcases c with ⟨pc, prog⟩
  cases pc <;> rfl
@[simp] theorem pendPushC_push (c : Client) : pendPushC (wakeAllPushC c) = pendPushC c := by
  rcases c with ⟨pc, prog⟩
  cases pc <;> rfl
@[simp] theorem pendFreeC_push (c : Client) : pendFreeC (wakeAllPushC c) = pendFreeC c := by
  rcases c with ⟨pc, prog⟩
  cases pc <;> rfl

@[simp] theorem isFull_bcastPush (s : St) : isFull (bcastPush s) = isFull s := rfl
@[simp] theorem isFull_bcastPop (s : St) : isFull (bcastPop s) = isFull s := rfl
@[simp] theorem isFull_setClient (s : St) (i : Nat) (c : Client) : isFull (setClient s i c) = isFull s := rfl

theorem not_exited_of_active {x : WPc} (h : activeW x = true) : isExited x = false := by
  cases x <;> first | rfl | cases h

/-- `Core` after worker `i` became `x`, in any `s'` that agrees with `s` on limit, flag and clients: `x` is awake, or sleeps or
exits for the reason `POOL_thread` has -/
theorem core_setW {s s' : St} {i : Nat} (h : Core s) (hi : i < s.ws.length) (x : WPc) (hr : rwpOk x = true)
    (he : isExited x = false ∨ s.shutdown = true) (hp : sleepPop x = false ∨ s.shutdown = false)
    (ha : activeW x = true ∨ s'.q = [] ∨ s'.limit ≤ s'.busy)
    (hws : s'.ws = s.ws.set i x := by rfl) (hl : s'.limit = s.limit := by rfl)
    (hsd : s'.shutdown = s.shutdown := by rfl) (hcs : s'.cs = s.cs := by rfl) : Core s' := by
  constructor
  · rw [hl]; exact h.lim
  · rw [hws]; simpa using h.wsne
  · rw [hws]; exact forall_mem_set h.rwp hr
  · rw [hws, hsd]; exact forall_mem_set h.exitShut fun e => he.resolve_left (by simp [e])
  · intro hq hb
    rcases ha with ha | ha | ha
    · exact ⟨x, hws ▸ List.mem_set hi x, ha⟩
    · exact absurd ha hq
    · omega
  · rw [hws, hsd, hcs]
    exact fun hs => forall_mem_set (h.popShut hs) fun e => by simp [e, hs] at hp

theorem core_map {t t' : St} (h : Core t) (f : WPc → WPc) (g : Client → Client)
    (hr : ∀ w, rwpOk w = true → rwpOk (f w) = true) (he : ∀ w, isExited (f w) = true → isExited w = true)
    (ha : ∀ w, activeW w = true → activeW (f w) = true) (hs : ∀ w, sleepPop (f w) = true → sleepPop w = true)
    (hg : ∀ c, pendFreeC c = true → pendFreeC (g c) = true)
    (hws : t'.ws = t.ws.map f := by rfl) (hcs : t'.cs = t.cs.map g := by rfl) (hl : t'.limit = t.limit := by rfl)
    (hsd : t'.shutdown = t.shutdown := by rfl) (hq : t'.q = t.q := by rfl) (hb : t'.busy = t.busy := by rfl) : Core t' := by
  constructor
  · rw [hl]; exact h.lim
  · rw [hws]; simpa using h.wsne
  · rw [hws]; exact List.forall_mem_map.mpr fun w hw => hr w (h.rwp w hw)
  · rw [hws, hsd]; exact List.forall_mem_map.mpr fun w hw e => h.exitShut w hw (he w e)
  · rw [hws, hq, hb, hl]
    intro a b
    obtain ⟨w, hw, e⟩ := h.pop a b
    exact ⟨f w, List.mem_map_of_mem hw, ha w e⟩
  · rw [hws, hsd, hcs]
    refine fun a => List.forall_mem_map.mpr fun w hw e => ?_
    obtain ⟨c, hc, e⟩ := h.popShut a w hw (hs w e)
    exact ⟨g c, List.mem_map_of_mem hc, hg c e⟩

theorem core_bcastPop {t : St} (h : Core t) : Core (bcastPop t) :=
  core_map h wakeAllPopW id (by simp) (by simp) (fun w e => activeW_pop_of_not_exited w (not_exited_of_active e)) (by simp)
    (fun _ => id) rfl (List.map_id _).symm

/-- right after a broadcast on the push condition nobody sleeps there -/
theorem live_bcastPush {t : St} (h : Core t) : Live (bcastPush t) where
  core := core_map h wakeAllPushW wakeAllPushC (by simp) (by simp) (by simp) (by simp) (by simp)
  push := by
    refine ⟨List.forall_mem_map.mpr ?_, List.forall_mem_map.mpr ?_, List.forall_mem_map.mpr ?_⟩ <;> simp

/-- `Core` after client `i` became `c'`: a broadcast owed by `c` is still owed by `c'` -/
theorem core_setC {s s' : St} {i : Nat} {c : Client} (h : Core s) (hc : s.cs[i]? = some c) (c' : Client)
    (hpf : pendFreeC c = false ∨ pendFreeC c' = true)
    (hcs : s'.cs = s.cs.set i c' := by rfl) (hws : s'.ws = s.ws := by rfl) (hl : s'.limit = s.limit := by rfl)
    (hsd : s'.shutdown = s.shutdown := by rfl) (hq : s'.q = s.q := by rfl) (hb : s'.busy = s.busy := by rfl) : Core s' := by
  constructor
  · rw [hl]; exact h.lim
  · rw [hws]; exact h.wsne
  · rw [hws]; exact h.rwp
  · rw [hws, hsd]; exact h.exitShut
  · rw [hws, hq, hb, hl]; exact h.pop
  · rw [hws, hsd, hcs]
    intro hs w hw e
    rcases hpf with hpf | hpf
    · exact exists_mem_set hc (by simp [hpf]) (h.popShut hs w hw e)
    · exact ⟨c', List.mem_set (List.getElem?_eq_some_iff.mp hc).1 c', hpf⟩

theorem PushOk.setC {s s' : St} {i : Nat} {c c' : Client} (hc : s.cs[i]? = some c) (hpp : pendPushC c = false)
    (hcs : s'.cs = s.cs.set i c' := by rfl) (hf : isFull s' = isFull s := by rfl)
    (hsd : s'.shutdown = s.shutdown := by rfl) (p : PushOk s) : PushOk s' := by
  unfold PushOk
  rw [hf, hsd, hcs]
  exact p.imp_right (exists_mem_set hc (by simp [hpp]))

theorem push_setW {s s' : St} {i : Nat} (h : Push s) (x : WPc) (hx : sleepPushW x = false ∨ PushOk s')
    (hok : PushOk s → PushOk s') (hj : s.q ≠ [] ∨ 0 < s.busy → s'.q ≠ [] ∨ 0 < s'.busy)
    (hws : s'.ws = s.ws.set i x := by rfl) (hcs : s'.cs = s.cs := by rfl) : Push s' := by
  refine ⟨?_, ?_, ?_⟩ <;> first | rw [hws] | rw [hcs]
  · exact forall_mem_set (fun w hw e => hok (h.pushW w hw e)) fun e => hx.resolve_left (by simp [e])
  · exact fun c hc e => hok (h.pushAdd c hc e)
  · exact fun c hc e => hj (h.pushJoin c hc e)

theorem push_setC {s s' : St} {i : Nat} (h : Push s) (c' : Client) (ha : sleepAddC c' = false ∨ PushOk s')
    (hjc : sleepJoinC c' = false ∨ s'.q ≠ [] ∨ 0 < s'.busy)
    (hok : PushOk s → PushOk s') (hj : s.q ≠ [] ∨ 0 < s.busy → s'.q ≠ [] ∨ 0 < s'.busy)
    (hcs : s'.cs = s.cs.set i c' := by rfl) (hws : s'.ws = s.ws := by rfl) : Push s' := by
  refine ⟨?_, ?_, ?_⟩ <;> first | rw [hws] | rw [hcs]
  · exact fun w hw e => hok (h.pushW w hw e)
  · exact forall_mem_set (fun c hc e => hok (h.pushAdd c hc e)) fun e => ha.resolve_left (by simp [e])
  · exact forall_mem_set (fun c hc e => hj (h.pushJoin c hc e)) fun e => hjc.resolve_left (by simp [e])

theorem live_setW {s s' : St} {i : Nat} (h : Live s) (hi : i < s.ws.length) (x : WPc) (hr : rwpOk x = true)
    (he : isExited x = false ∨ s.shutdown = true) (hp : sleepPop x = false ∨ s.shutdown = false)
    (ha : activeW x = true ∨ s.q = [] ∨ s.limit ≤ s.busy) (hx : sleepPushW x = false ∨ isFull s = true ∧ s.shutdown = false)
    (hs' : s' = { s with ws := s.ws.set i x, accepted := s'.accepted, started := s'.started, finished := s'.finished,
                         tryRefused := s'.tryRefused, tryOk := s'.tryOk } := by rfl) : Live s' := by
  rw [hs']
  exact ⟨core_setW h.core hi x hr he hp ha, push_setW h.push x (hx.imp_right .inl) id id⟩

/-- the client owes no broadcast before the step -/
theorem live_setC {s s' : St} {i : Nat} {c : Client} (h : Live s) (hc : s.cs[i]? = some c) (c' : Client)
    (hpf : pendFreeC c = false) (ha : sleepAddC c' = false ∨ isFull s = true ∧ s.shutdown = false)
    (hj : sleepJoinC c' = false ∨ s.q ≠ [] ∨ 0 < s.busy)
    (hs' : s' = { s with cs := s.cs.set i c', accepted := s'.accepted, started := s'.started, finished := s'.finished,
                         tryRefused := s'.tryRefused, tryOk := s'.tryOk } := by rfl) : Live s' := by
  have hpp : pendPushC c = false := by rcases c with ⟨pc, _⟩; cases pc <;> first | rfl | cases hpf
  rw [hs']
  exact ⟨core_setC h.core hc c' (.inl hpf),
    push_setC h.push c' (ha.imp_right fun g => .setC hc hpp (p := .inl g)) hj (.setC hc hpp) id⟩

theorem live_addInternal {s : St} (h : Live s) {k : Nat} (hok : signalChoiceOk s k = true)
    (hn : ¬ (isFull s = true ∧ s.shutdown = false)) (j : Job) : Live (addInternal s j k).1 := by
  rcases addInternal_cases s j k with ⟨_, e⟩ | ⟨hsd, ws, e, hws⟩ <;> rw [e]
  · exact h
  -- the sleepers on the push condition are owed the broadcast, which stays owed; the queue is non-empty afterwards
  have pend : PushOk s → PushOk { s with q := s.q ++ [j], accepted := s.accepted ++ [j], ws := ws } :=
    fun p => .inr (p.resolve_left hn)
  have join : s.q ≠ [] ∨ 0 < s.busy → s.q ++ [j] ≠ [] ∨ 0 < s.busy := fun _ => .inl (by simp)
  rcases hws with ⟨hk, rfl⟩ | ⟨hk, rfl⟩
  · -- nobody sleeps on the pop condition (the signal choice was legal) and nobody has exited: everybody is awake
    refine ⟨⟨h.core.lim, h.core.wsne, h.core.rwp, h.core.exitShut, fun _ _ => ?_, h.core.popShut⟩, 
      ⟨fun w hw e => pend (h.push.pushW w hw e), fun c hc e => pend (h.push.pushAdd c hc e),
        fun c hc e => join (h.push.pushJoin c hc e)⟩⟩
    obtain ⟨w, hw⟩ := List.exists_mem_of_ne_nil _ h.core.wsne
    have hall : ∀ w ∈ s.ws, (w != WPc.waitPop false) = true := by
      simpa [signalChoiceOk, hk] using hok
    have h1 := hall w hw
    have h2 : isExited w = true → False := fun e => by rw [h.core.exitShut w hw e] at hsd; cases hsd
    refine ⟨w, hw, ?_⟩
    cases w with
    | waitPop b => cases b <;> first | rfl | simp at h1
    | exited => exact absurd rfl h2
    | _ => rfl
  · exact ⟨core_setW h.core (List.getElem?_eq_some_iff.mp hk).1 _ rfl (.inl rfl) (.inl rfl) (.inl rfl),
      push_setW h.push _ (.inl rfl) pend join⟩

theorem WStep.live {body : Job → List JOp} {s s' : St} {i sig : Nat} {w : WPc} (st : WStep body s i sig w s')
    (hw : s.ws[i]? = some w) (hok : signalChoiceOk s sig = true) (h : Live s) : Live s' := by
  have hi : i < s.ws.length := (List.getElem?_eq_some_iff.mp hw).1
  have hi' : ∀ a, i < (addInternal s a sig).1.ws.length := fun a => by
    have := congrArg List.length (addInternal_jobs s a sig)
    simp only [List.length_map] at this
    omega
  cases st with
  | exit _ hg hsd => exact live_setW h hi _ rfl (.inr hsd) (.inl rfl) (.inr hg) (.inl rfl)
  | sleep _ hg hsd => exact live_setW h hi _ rfl (.inl rfl) (.inr hsd) (.inr hg) (.inl rfl)
  | pop | finish => exact live_bcastPush (core_setW h.core hi _ rfl (.inl rfl) (.inl rfl) (.inl rfl))
  | addWait _ hf hsd => exact live_setW h hi _ rfl (.inl rfl) (.inl rfl) (.inl rfl) (.inr ⟨hf, hsd⟩)
  | add a _ hn => exact live_setW (live_addInternal h hok hn a) (hi' a) _ rfl (.inl rfl) (.inl rfl) (.inl rfl) (.inl rfl)
  | tryRefuse => exact live_setW h hi _ rfl (.inl rfl) (.inl rfl) (.inl rfl) (.inl rfl)
  | tryAdd a hf hsd =>
    exact live_setW (live_addInternal h hok (by simp [hf]) a) (hi' a) _ rfl (.inl rfl) (.inl rfl) (.inl rfl) (.inl rfl)

theorem active_of_isRun {w : WPc} (h : isRun w = true) : activeW w = true := by
  cases w <;> first | rfl | cases h

/-- while work is pending some worker is awake: a running one, or the one the invariant keeps for the queue -/
theorem exists_active {s : St} (h : Live s) (hinv : Inv s) (hwork : s.q ≠ [] ∨ 0 < s.busy) : ∃ w ∈ s.ws, activeW w = true := by
  by_cases hb : 0 < s.busy
  · obtain ⟨w, hw, hr⟩ := List.countP_pos_iff.mp (hinv.busy ▸ hb)
    exact ⟨w, hw, active_of_isRun hr⟩
  · exact h.core.pop (hwork.resolve_right hb) (by have := h.core.lim; omega)

theorem live_resize {s : St} (h : Live s) (hinv : Inv s) (n : Nat) : Live (resize s n) := by
  have core : Core { s with limit := if n = 0 then s.limit else n, ws := s.ws ++ List.replicate (n - s.ws.length) .idle } := by
    refine ⟨?_, ?_, ?_, ?_, ?_, ?_⟩
    · have := h.core.lim; dsimp only; split <;> omega
    · simpa using fun e => absurd e h.core.wsne
    · exact List.forall_mem_append.mpr ⟨h.core.rwp, fun w hw => by rw [(List.mem_replicate.mp hw).2]; rfl⟩
    · exact List.forall_mem_append.mpr ⟨h.core.exitShut, fun w hw e => by rw [(List.mem_replicate.mp hw).2] at e; cases e⟩
    · -- the new limit may exceed the old one: the worker that is awake comes from the work that is pending
      intro hq _
      obtain ⟨w, hw, e⟩ := exists_active h hinv (.inl hq)
      exact ⟨w, List.mem_append_left _ hw, e⟩
    · exact fun hs => List.forall_mem_append.mpr
        ⟨h.core.popShut hs, fun w hw e => by rw [(List.mem_replicate.mp hw).2] at e; cases e⟩
  rw [resize_eq]
  exact live_bcastPush (core_bcastPop core)

theorem CStep.live {s s' : St} {i sig : Nat} {c : Client} (st : CStep s i sig c s') (hc : s.cs[i]? = some c)
    (hok : signalChoiceOk s sig = true) (h : Live s) (hinv : Inv s) : Live s' := by
  have hi : i < s.cs.length := (List.getElem?_eq_some_iff.mp hc).1
  -- a client about to post or join owes no broadcast
  have npf : ∀ {pc prog}, pc = .ready ∨ pc = .waitPush true → pendFreeC ⟨pc, prog⟩ = false := by rintro _ _ (rfl | rfl) <;> rfl
  have hcs : ∀ j, (addInternal s j sig).1.cs = s.cs := fun j => by
    rcases addInternal_cases s j sig with ⟨_, e⟩ | ⟨_, ws, e, _⟩ <;> rw [e]
  cases st with
  | finish | tryRefuse | joined => exact live_setC h hc _ rfl (.inl rfl) (.inl rfl)
  | addWait hpc hf hsd => exact live_setC h hc _ (npf hpc) (.inr ⟨hf, hsd⟩) (.inl rfl)
  | add j hpc hn => exact live_setC (live_addInternal h hok hn j) (hcs j ▸ hc) _ (npf hpc) (.inl rfl) (.inl rfl)
  | tryAdd j hf hsd => exact live_setC (live_addInternal h hok (by simp [hf]) j) (hcs j ▸ hc) _ rfl (.inl rfl) (.inl rfl)
  | joinWait hpc hg => exact live_setC h hc _ (npf hpc) (.inl rfl) (.inr hg)
  | join hpc => exact live_setC h hc _ (npf hpc) (.inl rfl) (.inl rfl)
  | resize n =>
    have t := live_resize h hinv n
    rw [resize_eq] at t ⊢
    exact live_setC t (getElem?_map_some (f := wakeAllPushC) hc) _ rfl (.inl rfl) (.inl rfl)
  | @free rest =>
    -- shutdown is set: every sleeper is owed a broadcast, by this client
    have owed : ∃ c ∈ s.cs.set i ⟨.freeBcastPush, .free :: rest⟩, pendPushC c = true := ⟨_, List.mem_set hi _, rfl⟩
    exact ⟨⟨h.core.lim, h.core.wsne, h.core.rwp, fun _ _ _ => rfl, h.core.pop, fun _ _ _ _ => ⟨_, List.mem_set hi _, rfl⟩⟩,
      push_setC h.push _ (.inr (.inr owed)) (.inl rfl) (fun _ => .inr owed) id⟩
  | freeBcastPush =>
    -- the broadcast just made: nobody sleeps on the push condition
    have t := live_bcastPush h.core
    have hc' := getElem?_map_some (f := wakeAllPushC) hc
    refine ⟨core_setC t.core hc' _ (.inr rfl), List.forall_mem_map.mpr (by simp), ?_, ?_⟩ <;>
      exact forall_mem_set (List.forall_mem_map.mpr (by simp)) (by simp [sleepAddC, sleepJoinC])
  | freeBcastPop =>
    -- the broadcast just made: nobody sleeps on the pop condition
    have t := core_bcastPop h.core
    refine ⟨⟨t.lim, t.wsne, t.rwp, t.exitShut, t.pop, fun _ => List.forall_mem_map.mpr (by simp)⟩, ?_⟩
    exact push_setC (s := bcastPop s)
      ⟨List.forall_mem_map.mpr fun w hw e => h.push.pushW w hw (by rwa [sleepPushW_pop] at e), h.push.pushAdd, h.push.pushJoin⟩
      _ (.inl rfl) (.inl rfl) (.setC hc rfl) id

theorem Step.live {body : Job → List JOp} {s s' : St} (st : Step body s s') (h : Live s) (hinv : Inv s) : Live s' := by
  cases st with
  | worker hok hw st => exact st.live hw hok h
  | client hok hc st => exact st.live hc hok h hinv
  | spuriousPop hw => exact live_setW h (List.getElem?_eq_some_iff.mp hw).1 _ rfl (.inl rfl) (.inl rfl) (.inl rfl) (.inl rfl)
  | spuriousPush hw =>
    have hr := h.core.rwp _ (List.mem_of_getElem? hw)
    exact live_setW h (List.getElem?_eq_some_iff.mp hw).1 (.runWaitPush _ _ true) hr (.inl rfl) (.inl rfl) (.inl rfl) (.inl rfl)
  | spuriousC hc => exact live_setC h hc _ rfl (.inl rfl) (.inl rfl)

theorem live_init (t qs : Nat) (progs : List (List COp)) (ht : 0 < t) : Live (init t qs progs) := by
  have ready : ∀ {P : Client → Prop}, (∀ p, P ⟨.ready, p⟩) → ∀ c ∈ (init t qs progs).cs, P c := fun hP c hc => by
    obtain ⟨p, _, rfl⟩ := List.mem_map.mp hc; exact hP p
  exact ⟨⟨ht, by simp [init]; omega, List.forall_mem_replicate.mpr (.inr rfl), List.forall_mem_replicate.mpr (.inr nofun),
      fun _ _ => ⟨.idle, List.mem_replicate.mpr ⟨by omega, rfl⟩, rfl⟩, nofun⟩,
    ⟨List.forall_mem_replicate.mpr (.inr nofun), ready fun _ => nofun, ready fun _ => nofun⟩⟩

theorem exists_sig (s : St) : ∃ k, signalChoiceOk s k = true := by
  unfold signalChoiceOk
  by_cases h : ∃ k : Nat, s.ws[k]? = some (WPc.waitPop false)
  · obtain ⟨k, hk⟩ := h
    exact ⟨k, by simp [hk]⟩
  · refine ⟨0, Bool.or_eq_true_iff.mpr (.inr (List.all_eq_true.mpr fun w hw => ?_))⟩
    obtain ⟨k, hk⟩ := List.mem_iff_getElem?.mp hw
    simpa using fun e : w = WPc.waitPop false => h ⟨k, e ▸ hk⟩

/-- a worker that is neither asleep nor exited has an enabled critical section -/
theorem stepWorker_enabled (body : Job → List JOp) (s : St) (i sig : Nat) (w : WPc) (hw : s.ws[i]? = some w)
    (ha : activeW w = true) (hp : sleepPushW w = false) (hr : rwpOk w = true) : (stepWorker body s i sig).isSome = true := by
  have top : (topBody body s i).isSome = true := by
    unfold topBody
    split
    · split <;> rfl
    · rename_i hc
      cases hq : s.q with
      | nil => simp [hq] at hc
      | cons j rest => rfl
  unfold stepWorker
  rw [hw]
  rcases w with _ | b | ⟨j, _ | ⟨op, rest⟩⟩ | ⟨j, r, b⟩ | _
  · exact top
  · cases b
    · cases ha
    · exact top
  · rfl
  · cases op <;> dsimp only <;> split <;> rfl
  · cases b
    · cases hp
    · rcases r with _ | ⟨op, rest⟩
      · cases hr
      · cases op
        · dsimp only; split <;> rfl
        · cases hr
  · cases ha

/-- a worker that is awake and not blocked in its own POOL_add has an enabled critical section -/
theorem worker_enabled (body : Job → List JOp) {s : St} (hl : Live s) {w : WPc} (hw : w ∈ s.ws) (ha : activeW w = true)
    (hp : sleepPushW w = false) : ∃ i sig, (step body s (.worker i sig)).isSome = true := by
  obtain ⟨i, hi⟩ := List.mem_iff_getElem?.mp hw
  obtain ⟨sig, hsig⟩ := exists_sig s
  refine ⟨i, sig, ?_⟩
  simp only [step, hsig, if_true]
  exact stepWorker_enabled body s i sig w hi ha hp (hl.core.rwp w hw)

theorem signalPop_any_keep {p : WPc → Bool} (hp : p (.waitPop false) = false) (s : St) (k : Nat) (h : s.ws.any p = true) :
    (signalPop s k).ws.any p = true := by
  rcases signalPop_cases s k with ⟨_, e⟩ | ⟨hk, e⟩ <;> rw [e]
  · exact h
  · simp only [List.any_eq_true] at h ⊢
    exact exists_mem_set hk (by simp [hp]) h

end ZstdVerif.Pool
