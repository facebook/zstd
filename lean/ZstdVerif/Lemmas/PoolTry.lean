/-
`POOL_tryAdd` tells the truth: every transition of the LTS (Model/Pool.lean) either leaves the list of posts answered 1 (`tryOk`)
alone, while the list of jobs really enqueued (`accepted`) at most grows at the tail, or appends the same job to both.
-/
import ZstdVerif.Lemmas.Pool
namespace ZstdVerif.Pool

def TryStep (s s' : St) : Prop :=
  (s'.tryOk = s.tryOk ∧ (s'.accepted = s.accepted ∨ ∃ x, s'.accepted = s.accepted ++ [x])) ∨
  (∃ x, s'.tryOk = s.tryOk ++ [x] ∧ s'.accepted = s.accepted ++ [x])

theorem tryStep_addInternal (s : St) (j : Job) (k : Nat) : TryStep s (addInternal s j k).1 := by
  rcases addInternal_cases s j k with ⟨_, e⟩ | ⟨_, ws, e, _⟩ <;> rw [e]
  · exact .inl ⟨rfl, .inl rfl⟩
  · exact .inl ⟨rfl, .inr ⟨j, rfl⟩⟩

/-- a post answered 1: the pool was not shutting down, so the job went into the queue -/
theorem tryStep_tryAdd {s : St} (j : Job) (k : Nat) (hsd : s.shutdown = false) {s' : St}
    (ht : s'.tryOk = (addInternal s j k).1.tryOk ++ [j]) (ha : s'.accepted = (addInternal s j k).1.accepted) :
    TryStep s s' := by
  rcases addInternal_cases s j k with ⟨h, _⟩ | ⟨_, ws, e, _⟩
  · rw [hsd] at h; cases h
  · rw [e] at ht ha; exact .inr ⟨j, ht, ha⟩

theorem Step.tryStep {body : Job → List JOp} {s s' : St} (st : Step body s s') : TryStep s s' := by
  cases st with
  | worker _ _ st =>
    cases st with
    | exit | sleep | pop | finish | addWait | tryRefuse => exact .inl ⟨rfl, .inl rfl⟩
    | add => exact tryStep_addInternal s _ _
    | tryAdd _ _ hsd => exact tryStep_tryAdd _ _ hsd rfl rfl
  | client _ _ st =>
    cases st with
    | finish | addWait | tryRefuse | joinWait | join | free | freeBcastPush | freeBcastPop | joined => exact .inl ⟨rfl, .inl rfl⟩
    | add => exact tryStep_addInternal s _ _
    | tryAdd _ _ hsd => exact tryStep_tryAdd _ _ hsd rfl rfl
    | resize => rw [resize_eq]; exact .inl ⟨rfl, .inl rfl⟩
  | spuriousPop | spuriousPush | spuriousC => exact .inl ⟨rfl, .inl rfl⟩

theorem tryStep_count {s s' : St} (h : TryStep s s') (j : Job) (hc : s.tryOk.count j ≤ s.accepted.count j) :
    s'.tryOk.count j ≤ s'.accepted.count j := by
  rcases h with ⟨h1, h2 | ⟨x, h2⟩⟩ | ⟨x, h1, h2⟩
  · rw [h1, h2]; exact hc
  · rw [h1, h2, List.count_append]; omega
  · rw [h1, h2, List.count_append, List.count_append]; omega

end ZstdVerif.Pool
