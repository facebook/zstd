/-
Round trip of the seek table: the loader model (Model/Seekable.load, tied to ZSTD_seekable_loadSeekTable) applied to any bytes
followed by what the writer model (serialize, tied to ZSTD_seekable_writeSeekTable) emits returns the entries that went in.
-/
import ZstdVerif.Model.Seekable
import ZstdVerif.Lemmas.Bytes
namespace ZstdVerif.Seekable

def toBytes (l : List Nat) : List UInt8 := l.map UInt8.ofNat

theorem toBytes_append (a b : List Nat) : toBytes (a ++ b) = toBytes a ++ toBytes b := List.map_append

theorem le32bytes_length (v : Nat) : (toBytes (le32bytes v)).length = 4 := by
  simp [toBytes, le32bytes]

theorem le32_le32bytes (v : Nat) (hv : v < 4294967296) (post : List UInt8) :
    (ByteArray.mk (toBytes (le32bytes v) ++ post).toArray).le32 0 = v := by
  unfold ByteArray.le32
  simp only [ByteArray.u8_mk, toBytes, le32bytes, List.map_cons, List.cons_append, Nat.zero_add, List.getElem?_cons_zero,
    List.getElem?_cons_succ, Option.map_some, Option.getD_some, UInt8.toNat_ofNat', Nat.reducePow, Nat.mod_mod, Nat.shiftLeft_eq]
  omega

theorem le32_at {b : Bytes} {X post : List UInt8} {v k : Nat}
    (hb : ByteArray.mk (X ++ (toBytes (le32bytes v) ++ post)).toArray = b) (hv : v < 4294967296) (hk : k = X.length) :
    b.le32 k = v := by
  rw [← hb, hk, ← Nat.add_zero X.length, ByteArray.le32_mk_append, le32_le32bytes v hv]

theorem u8_at {b : Bytes} {X post : List UInt8} {x : UInt8} {k : Nat}
    (hb : ByteArray.mk (X ++ (x :: post)).toArray = b) (hk : k = X.length) : b.u8 k = x.toNat := by
  rw [← hb, hk, ← Nat.add_zero X.length, ByteArray.u8_mk_append, ByteArray.u8_mk]; rfl

def enc (ck : Bool) (e : Entry) : List Nat := le32bytes e.cSize ++ le32bytes e.dSize ++ (if ck then le32bytes e.checksum else [])
def per (ck : Bool) : Nat := if ck then 12 else 8
def readAt (b : Bytes) (p : Nat) (ck : Bool) : Entry :=
  { cSize := b.le32 p, dSize := b.le32 (p + 4), checksum := if ck then b.le32 (p + 8) else 0 }
/-- what a table without checksums can carry of an entry -/
def norm (ck : Bool) (e : Entry) : Entry := if ck then e else { e with checksum := 0 }
def Fits (e : Entry) : Prop := e.cSize < 4294967296 ∧ e.dSize < 4294967296 ∧ e.checksum < 4294967296

theorem enc_length (ck : Bool) (e : Entry) : (toBytes (enc ck e)).length = per ck := by
  cases ck <;> simp [toBytes, enc, per, le32bytes]

theorem readAt_append (X l : List UInt8) (c i : Nat) (ck : Bool) (hc : X.length = c) :
    readAt (ByteArray.mk (X ++ l).toArray) (c + i) ck = readAt (ByteArray.mk l.toArray) i ck := by
  simp only [readAt, ← hc, Nat.add_assoc X.length, ByteArray.le32_mk_append]

theorem readAt_enc (e : Entry) (ck : Bool) (hf : Fits e) (post : List UInt8) :
    readAt (ByteArray.mk (toBytes (enc ck e) ++ post).toArray) 0 ck = norm ck e := by
  obtain ⟨h1, h2, h3⟩ := hf
  simp only [readAt, Nat.zero_add, enc, toBytes_append, List.append_assoc]
  rw [le32_le32bytes _ h1, le32_at rfl h2 (le32bytes_length _).symm]
  cases ck with
  | false => rfl
  | true =>
    rw [← List.append_assoc, if_pos rfl, if_pos rfl,
      le32_at rfl h3 (by rw [List.length_append, le32bytes_length, le32bytes_length])]
    rfl

theorem entries_read (es : List Entry) (ck : Bool) (hf : ∀ e ∈ es, Fits e) (post : List UInt8) :
    (List.range es.length).map (fun i => readAt (ByteArray.mk (toBytes (es.flatMap (enc ck)) ++ post).toArray) (i * per ck) ck)
      = es.map (norm ck) := by
  induction es with
  | nil => rfl
  | cons e t ih =>
    rw [List.length_cons, List.range_succ_eq_map, List.map_cons, List.map_map, List.map_cons, List.flatMap_cons, toBytes_append,
      List.append_assoc, Nat.zero_mul, readAt_enc e ck (hf e List.mem_cons_self), ← ih fun e' he' => hf e' (List.mem_cons_of_mem _ he')]
    refine congrArg _ (List.map_congr_left fun i _ => ?_)
    rw [Function.comp_apply, Nat.succ_mul, Nat.add_comm, readAt_append _ _ _ _ _ (enc_length ck e)]

theorem flat_length (es : List Entry) (ck : Bool) : (toBytes (es.flatMap (enc ck))).length = es.length * per ck := by
  induction es with
  | nil => exact (Nat.zero_mul _).symm
  | cons e t ih =>
    rw [List.flatMap_cons, toBytes_append, List.length_append, enc_length, ih, List.length_cons, Nat.succ_mul, Nat.add_comm]

theorem serialize_eq (es : List Entry) (ck : Bool) :
    serialize es ck = le32bytes SKIPPABLE_MAGIC_E ++ le32bytes (es.length * per ck + 9) ++ es.flatMap (enc ck) ++ le32bytes es.length ++
      [if ck then 128 else 0] ++ le32bytes SEEKABLE_MAGIC := by
  cases ck <;> rfl

theorem serialize_length (es : List Entry) (ck : Bool) : (toBytes (serialize es ck)).length = 8 + es.length * per ck + 9 := by
  rw [serialize_eq]
  simp only [toBytes_append, List.length_append, le32bytes_length, flat_length]
  rfl

/-- `norm`: without the checksum flag the checksums are not stored.  `hn` is the writer's own limit: the table size fits 32 bits. -/
theorem seektable_roundtrip (pre : List UInt8) (es : List Entry) (ck : Bool) (hf : ∀ e ∈ es, Fits e)
    (hn : es.length * 12 + 17 < 4294967296) :
    load (ByteArray.mk (pre ++ toBytes (serialize es ck)).toArray) = .ok (es.map (norm ck), ck) := by
  have hmul : es.length * per ck ≤ es.length * 12 := Nat.mul_le_mul_left _ (by cases ck <;> decide)
  -- no 32-bit product or sum wraps, so the loader finds the frame where it starts
  have hfsz : (es.length * per ck % 4294967296 + 17) % 4294967296 = es.length * per ck + 17 := by
    rw [Nat.mod_eq_of_lt (by omega), Nat.mod_eq_of_lt (by omega)]
  have hst : pre.length + 8 + es.length * per ck + 9 - (es.length * per ck + 17) = pre.length := by omega
  have hfs' : (es.length * per ck + 9 + 8) % 4294967296 = es.length * per ck + 17 := Nat.mod_eq_of_lt (by omega)
  generalize hb : ByteArray.mk (pre ++ toBytes (serialize es ck)).toArray = b
  have hsize : b.size = pre.length + 8 + es.length * per ck + 9 := by
    rw [← hb, ByteArray.size_mk, List.length_append, serialize_length]; omega
  rw [serialize_eq] at hb
  simp only [toBytes_append, List.append_assoc, show ∀ x, toBytes [x] = [UInt8.ofNat x] from fun _ => rfl] at hb
  -- the fields of the table, front to back
  have hskip : b.le32 pre.length = SKIPPABLE_MAGIC_E := le32_at hb (by decide) rfl
  rw [← List.append_assoc] at hb
  have hfs : b.le32 (pre.length + 4) = es.length * per ck + 9 :=
    le32_at hb (by omega) (by rw [List.length_append, le32bytes_length])
  rw [← List.append_assoc] at hb
  have hent : loadEntries b pre.length (per ck) es.length ck = es.map (norm ck) := by
    rw [← entries_read es ck hf, ← hb]
    refine List.map_congr_left fun i _ => ?_
    exact readAt_append _ _ _ _ _ (by simp only [List.length_append, le32bytes_length])
  rw [← List.append_assoc] at hb
  have hnum : b.le32 (pre.length + 8 + es.length * per ck + 9 - 9) = es.length :=
    le32_at hb (by omega) (by simp only [List.length_append, le32bytes_length, flat_length]; omega)
  rw [← List.append_assoc] at hb
  have hsfd : b.u8 (pre.length + 8 + es.length * per ck + 9 - 5) = if ck then 128 else 0 := by
    rw [u8_at hb (by simp only [List.length_append, le32bytes_length, flat_length]; omega)]
    cases ck <;> rfl
  rw [← List.append_assoc, ← List.append_nil (toBytes (le32bytes SEEKABLE_MAGIC))] at hb
  have hm : b.le32 (pre.length + 8 + es.length * per ck + 9 - 4) = SEEKABLE_MAGIC :=
    le32_at hb (by decide) (by simp only [List.length_append, le32bytes_length, flat_length, List.length_singleton]; omega)
  clear hb
  have hckb : ((if ck = true then 128 else 0) >>> 7 == 1) = ck := by cases ck <;> rfl
  have hres : ((if ck = true then 128 else 0) >>> 2 &&& 31 != 0) = false := by cases ck <;> rfl
  unfold load
  simp only [hsize, hm, hsfd, hnum, hckb, hres]
  have hw : (if ck = true then 12 else 8) = per ck := rfl
  simp only [hw, hfsz, hst, hskip, hfs, hfs', hent, Nat.mul_comm (per ck), bne_self_eq_false, Bool.false_eq_true, if_false]
  -- left: the archive is not shorter than a footer (`n < 9`), the table does not start before the archive (`frameSize > n`)
  rw [if_neg (by omega), if_neg (by omega)]

end ZstdVerif.Seekable
