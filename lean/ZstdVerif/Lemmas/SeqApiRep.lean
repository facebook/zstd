/-
For Props/C17.lean.  The repeat-offset history ZSTD_copySequencesToSeqStoreExplicitBlockDelim leaves for the next block
(Model/SeqApi.lean: `storeOn`, `endRepOff`) against the decoder's resolution along the stored Offset_Values (Lemmas/SeqRT.lean:
`resolveAll`); and ZSTD_mergeBlockDelimiters (`mergeGo`).  C17 takes `resolveAll_raw`, `resolveAll_storeOn`, `endRepOff_eq_pushAll`
and the three `mergeGo_*`.
-/
import ZstdVerif.Model.SeqApi
import ZstdVerif.Lemmas.SeqRT
namespace ZstdVerif.SeqApiRep
open ZstdVerif ZstdVerif.SeqApi

/-- what the decoder reads back for a block transcribed as `offBases`: per sequence the literal length, the match length, the
Offset_Value and `ll0` -/
def trisOf : List Seq → List Nat → List SeqRT.Tri
  | s :: ss, ob :: obs => { ll := s.ll, ml := s.ml, ofValue := ob, ll0 := if s.ll == 0 then 1 else 0 } :: trisOf ss obs
  | _, _ => []

/-- the decoder's history after a run of raw (non-repeat) offsets: each one is pushed in front -/
def pushAll (rep : Rep.R) (seqs : List Seq) : Rep.R := seqs.foldl (fun r s => ⟨s.offset, r.r0, r.r1⟩) rep

theorem endRepOff_cons (rep : Rep.R) (a : Seq) (t : List Seq) :
    endRepOff rep (a :: t) = endRepOff ⟨a.offset, rep.r0, rep.r1⟩ t := by
  unfold endRepOff
  rw [List.reverse_cons]
  generalize t.reverse = tr
  match tr with
  | [] => rfl
  | [_] => rfl
  | [_, _] => rfl
  | _ :: _ :: _ :: _ => rfl

theorem endRepOff_eq_pushAll (rep : Rep.R) (seqs : List Seq) : endRepOff rep seqs = pushAll rep seqs := by
  induction seqs generalizing rep with
  | nil => rfl
  | cons a t ih => rw [endRepOff_cons, ih]; rfl

theorem resolveAll_raw (rep : Rep.R) (seqs : List Seq) (hq : ∀ s ∈ seqs, 1 ≤ s.offset) :
    (SeqRT.resolveAll rep (trisOf seqs (seqs.map (fun s => s.offset + 3)))).1.map (fun q => (q.ll, q.ml, q.offset))
        = seqs.map (fun s => (s.ll, s.ml, s.offset)) ∧
      (SeqRT.resolveAll rep (trisOf seqs (seqs.map (fun s => s.offset + 3)))).2 = pushAll rep seqs := by
  induction seqs generalizing rep with
  | nil => exact ⟨rfl, rfl⟩
  | cons a t ih =>
    have ha : 1 ≤ a.offset := hq a (by simp)
    have hgt : a.offset + 3 > 3 := by omega
    obtain ⟨i1, i2⟩ := ih ⟨a.offset, rep.r0, rep.r1⟩ (fun x hx => hq x (by simp [hx]))
    have hres : Rep.resolve rep (a.offset + 3) (if a.ll == 0 then 1 else 0) = (a.offset, ⟨a.offset, rep.r0, rep.r1⟩) := by
      simp [Rep.resolve, hgt]
    simp only [List.map_cons, trisOf, SeqRT.resolveAll, hres, pushAll, List.foldl_cons]
    exact ⟨by rw [i1], i2⟩

/-- `SeqRT.resolveAll_storeAll` for the sequence record of the sequence-level API (`SeqApi.Seq` / `storeOn` in place of `RawSeq` /
`storeAll`); both rest on `SeqRT.rep_lockstep` -/
theorem resolveAll_storeOn (rep : Rep.R) (seqs : List Seq) (h0 : 1 ≤ rep.r0) (h1 : 1 ≤ rep.r1) (h2 : 1 ≤ rep.r2)
    (hq : ∀ s ∈ seqs, 1 ≤ s.offset) :
    (SeqRT.resolveAll rep (trisOf seqs (storeOn rep seqs).1)).1.map (fun q => (q.ll, q.ml, q.offset))
        = seqs.map (fun s => (s.ll, s.ml, s.offset)) ∧
      (SeqRT.resolveAll rep (trisOf seqs (storeOn rep seqs).1)).2 = (storeOn rep seqs).2 := by
  induction seqs generalizing rep with
  | nil => exact ⟨rfl, rfl⟩
  | cons a t ih =>
    obtain ⟨l1, l2, l3, l4⟩ := SeqRT.rep_lockstep rep a.offset (a.ll == 0) h0 h1 h2 (hq a (by simp))
    obtain ⟨i1, i2⟩ := ih _ l2 l3 l4 (fun x hx => hq x (by simp [hx]))
    simp only [storeOn, List.map_cons, trisOf, SeqRT.resolveAll, l1]
    exact ⟨by rw [i1], i2⟩

/-! ### ZSTD_mergeBlockDelimiters (Model/SeqApi.lean: `mergeGo`) -/

theorem mergeGo_total (c : Nat) (l : List Seq) : total (mergeGo c l).1 + (mergeGo c l).2 = c + total l := by
  fun_induction mergeGo c l with
  | case1 c => exact Nat.zero_add c
  | case2 c s rest h ih =>
    have hm : s.ml = 0 := by simp only [isDelim, Bool.and_eq_true, beq_iff_eq] at h; exact h.2
    rw [ih, total, hm]; omega
  | case3 c s rest h r ih => simp only [total, r] at ih ⊢; omega

theorem mergeGo_noDelim (c : Nat) (l : List Seq) : ∀ s ∈ (mergeGo c l).1, isDelim s = false := by
  fun_induction mergeGo c l with
  | case1 c => exact nofun
  | case2 c s rest h ih => exact ih
  | case3 c s rest h r ih => exact List.forall_mem_cons.mpr ⟨by simpa [isDelim] using h, ih⟩

theorem mergeGo_matches (c : Nat) (l : List Seq) :
    (mergeGo c l).1.map (fun s => (s.offset, s.ml)) = (l.filter (fun s => !isDelim s)).map (fun s => (s.offset, s.ml)) := by
  fun_induction mergeGo c l with
  | case1 c => rfl
  | case2 c s rest h ih => rw [ih, List.filter_cons_of_neg (by simpa using h)]
  | case3 c s rest h r ih => rw [List.filter_cons_of_pos (by simpa using h), List.map_cons, List.map_cons, ih]

end ZstdVerif.SeqApiRep
