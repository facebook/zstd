/-
SEQUENCES SECTION round trip: the decoder model `Block.decodeSeqs` (ZSTD_decodeSequence × nbSeq, zstd_decompress_block.c) reads back, from
the BYTES written by the encoder model `SeqEnc.encodeSeqBytes` (ZSTD_encodeSequences_body, zstd_compress_sequences.c), exactly the sequences
that were written, and ends bit-exact at the start of the stream.
The bit stream is a stack of `(value, width)` fields; `stackStep` is one ZSTD_decodeSequence on that stack.  Each iteration of the encoder
loop is undone by it (`stackStep_encodeStep`, for tables related by `Inverts`, established by the `inverts_*` lemmas), and each iteration
of `Block.decodeSeqs` follows it on a bit reader that sees the stack (`Holds`, `decodeSeqs_of_holds`).  The second half is about repeat
offsets (`rep_lockstep`, `storeAll` / `resolveAll`, `seq_offsets_roundtrip`).  Lemmas/BlockRT.lean, Lemmas/DictRT.lean and Props/C01.lean
build on `seq_section_roundtrip`, `decodeSeqs_of_holds`, the `inverts_*` family and the repeat-offset lemmas.
-/
import ZstdVerif.Model.SeqEnc
import ZstdVerif.Model.Block
import ZstdVerif.Lemmas.FSERT
import ZstdVerif.Lemmas.BitsRT
namespace ZstdVerif.SeqRT
open ZstdVerif.Gen ZstdVerif.FSE ZstdVerif.SeqEnc ZstdVerif.Rep
open ZstdVerif.Block (Seq decodeSeqs SeqDec)

theorem log2_range {n lo hi : Nat} (h1 : 2 ^ lo ≤ n) (h2 : n < 2 ^ (hi + 1)) : lo ≤ Nat.log2 n ∧ Nat.log2 n ≤ hi := by
  have hn : n ≠ 0 := by have := Nat.two_pow_pos lo; omega
  have b1 := Nat.log2_self_le hn
  have b2 := Nat.lt_log2_self (n := n)
  constructor
  · rcases Nat.lt_or_ge (Nat.log2 n) lo with hc | hc
    · have := Nat.pow_le_pow_right (by decide : 0 < 2) (show Nat.log2 n + 1 ≤ lo by omega)
      omega
    · exact hc
  · rcases Nat.lt_or_ge hi (Nat.log2 n) with hc | hc
    · have := Nat.pow_le_pow_right (by decide : 0 < 2) (show hi + 1 ≤ Nat.log2 n by omega)
      omega
    · exact hc

theorem mod_two_pow_log2 (n : Nat) (h : n ≠ 0) : 2 ^ Nat.log2 n + n % 2 ^ Nat.log2 n = n := by
  have b1 := Nat.log2_self_le h
  have b2 := Nat.lt_log2_self (n := n)
  rw [Nat.pow_succ] at b2
  rw [Nat.mod_eq_sub_mod b1, Nat.mod_eq_of_lt (by omega)]
  omega

/-- The shape ZSTD_LLcode and ZSTD_MLcode share: a lookup table up to `cut = 2^j - 1`, `highbit + delta` above; `small` and `large` are
the two facts about the constant tables.  `2^17`: a block holds at most 2^17 bytes. -/
theorem lenCode_spec {Code base bits : List Nat} {cut j delta d maxc : Nat} (hcut : cut + 1 = 2 ^ j)
    (small : ∀ v, v < cut + 1 → Code.getD v 0 ≤ maxc ∧ base.getD (Code.getD v 0) 0 + v % 2 ^ bits.getD (Code.getD v 0) 0 = v + d)
    (large : ∀ k, k < 17 → j ≤ k → k + delta ≤ maxc ∧ base.getD (k + delta) 0 = 2 ^ k + d ∧ bits.getD (k + delta) 0 = k)
    (v : Nat) (h : v < 2 ^ 17) :
    (if v > cut then Nat.log2 v + delta else Code.getD v 0) ≤ maxc ∧
      base.getD (if v > cut then Nat.log2 v + delta else Code.getD v 0) 0 +
        v % 2 ^ bits.getD (if v > cut then Nat.log2 v + delta else Code.getD v 0) 0 = v + d := by
  by_cases hs : v > cut
  · rw [if_pos hs]
    obtain ⟨hlo, hhi⟩ := log2_range (n := v) (lo := j) (hi := 16) (by omega) h
    obtain ⟨t0, t1, t2⟩ := large _ (by omega) hlo
    rw [t1, t2]
    have := mod_two_pow_log2 v (by omega)
    exact ⟨t0, by omega⟩
  · rw [if_neg hs]
    exact small v (by omega)

/-- ZSTD_LLcode against LL_base / LL_bits -/
theorem llCode_spec (ll : Nat) (h : ll < 2 ^ 17) :
    llCode ll ≤ MaxLL ∧ LL_base.getD (llCode ll) 0 + ll % 2 ^ LL_bits.getD (llCode ll) 0 = ll :=
  lenCode_spec (j := 6) (d := 0) rfl (by decide +kernel) (by decide +kernel) ll h

/-- ZSTD_MLcode on `mlBase = matchLength - MINMATCH` against ML_base / ML_bits -/
theorem mlCode_spec (m : Nat) (h : m < 2 ^ 17) :
    mlCode m ≤ MaxML ∧ ML_base.getD (mlCode m) 0 + m % 2 ^ ML_bits.getD (mlCode m) 0 = m + 3 :=
  lenCode_spec (j := 7) (d := 3) rfl (by decide +kernel) (by decide +kernel) m h

theorem llCode_le (ll : Nat) (h : ll < 2 ^ 17) : llCode ll ≤ MaxLL := (llCode_spec ll h).1

theorem mlCode_le (m : Nat) (h : m < 2 ^ 17) : mlCode m ≤ MaxML := (mlCode_spec m h).1

/-- the literal-length base is 0 exactly for the literal length 0 (`ll0 = (llDInfo->baseValue == 0)` in ZSTD_decodeSequence) -/
theorem ll_base_zero_iff (ll : Nat) (h : ll < 2 ^ 17) : LL_base.getD (llCode ll) 0 = 0 ↔ ll = 0 := by
  obtain ⟨hc, he⟩ := llCode_spec ll h
  have tab : ∀ c, c ≤ MaxLL → LL_base.getD c 0 = 0 → LL_bits.getD c 0 = 0 := by decide
  constructor
  · intro hb
    rw [hb, tab _ hc hb] at he
    omega
  · rintro rfl
    decide

/-- Offset_Value as ZSTD_decodeSequence computes it from the cell of the offset code (`ofBase`, `ofBits`) and the extra bits `x`:
* `ofBits > 1`: `offset = ofBase + x`, and the table holds `ofBase = 2^ofBits - 3` (OF_base), so Offset_Value = `ofBase + x + 3`;
* `ofBits == 0`: repeat code 1 (`ofBase = 0`): Offset_Value = `ofBase + 1`;
* `ofBits == 1`: repeat codes 2, 3 (`ofBase = 1`): Offset_Value = `ofBase + x + 1`.
This is the `ofValue` of `Block.decodeSeqs`, verbatim. -/
def ofValueOf (base ofBits x : Nat) : Nat :=
  if ofBits > 1 then base + x + 3 else if ofBits == 0 then base + 1 else base + x + 1

theorem of_table {k : Nat} (h : k < 32) :
    OF_bits.getD k 0 = k ∧ if k > 1 then OF_base.getD k 0 + 3 = 2 ^ k else OF_base.getD k 0 = k := by
  revert k
  decide +kernel

theorem of_bits_self {c : Nat} (h : c ≤ 31) : OF_bits.getD c 0 = c := (of_table (by omega)).1

/-- The encoder's offset code is `ofCode = highbit32(offBase)` with the low `ofCode` bits of `offBase` as extra bits; the Offset_Value the
decoder computes from the table row of that code (`ofValueOf`) is `offBase`.  `OF_base[c] = 2^c - 3`: the table stores offsets, not
Offset_Values. -/
theorem of_code_roundtrip (offBase : Nat) (h1 : 1 ≤ offBase) (h2 : offBase < 2 ^ 32) :
    OF_bits.getD (highbit offBase) 0 = highbit offBase ∧ highbit offBase ≤ 31 ∧
      ofValueOf (OF_base.getD (highbit offBase) 0) (OF_bits.getD (highbit offBase) 0) (offBase % 2 ^ highbit offBase) = offBase := by
  unfold highbit
  obtain ⟨-, hhi⟩ := log2_range (n := offBase) (lo := 0) (hi := 31) (by omega) h2
  have hm := mod_two_pow_log2 offBase (by omega)
  obtain ⟨t1, t2⟩ := of_table (show Nat.log2 offBase < 32 by omega)
  refine ⟨t1, hhi, ?_⟩
  rw [t1]
  unfold ofValueOf
  generalize Nat.log2 offBase = k at t2 hm ⊢
  by_cases c2 : k > 1
  · rw [if_pos c2] at t2 ⊢
    omega
  · rw [if_neg c2] at t2 ⊢
    rw [t2]
    rcases k with _ | _ | k
    · simp only [BEq.rfl, if_true]; omega
    · simp only [Nat.zero_add, Nat.reduceBEq, Bool.false_eq_true, if_false]; omega
    · omega

theorem getD_le_of_all (l : List Nat) (b : Nat) (h : ∀ x ∈ l, x ≤ b) (i : Nat) : l.getD i 0 ≤ b := by
  by_cases hi : i < l.length
  · have : l.getD i 0 = l[i] := by simp [List.getD, hi]
    rw [this]; exact h _ (List.getElem_mem hi)
  · have : l.getD i 0 = 0 := by
      have : l[i]? = none := List.getElem?_eq_none (by omega)
      simp [List.getD, this]
    omega

theorem ll_bits_le (c : Nat) : LL_bits.getD c 0 ≤ 16 := getD_le_of_all _ _ (by decide) c
theorem ml_bits_le (c : Nat) : ML_bits.getD c 0 ≤ 16 := getD_le_of_all _ _ (by decide) c

/-- ZSTD_buildFSETable: the sequence cell made from an FSE cell and the `base` / `bits` columns of its symbol -/
def seqCellOf (base bits : List Nat) (c : Cell) : SeqCell :=
  { nextState := c.newState, nbAddBits := bits.getD c.sym 0, nbBits := c.nbBits, baseValue := base.getD c.sym 0 }

theorem buildSeqTable_eq (norm : Array Int) (log : Nat) (base bits : List Nat) :
    FSE.buildSeqTable norm log base bits = (buildCells norm log).map (seqCellOf base bits) := rfl

/-- the cell at state `i` belongs to symbol `s`: it carries the `base` / `bits` columns of `s` -/
def CellFor (T : Array SeqCell) (base bits : List Nat) (i s : Nat) : Prop :=
  (T[i]!).baseValue = base.getD s 0 ∧ (T[i]!).nbAddBits = bits.getD s 0

/-- `T` (decoder) inverts `ct` (encoder) on the symbols `ok`, with `V` as the set of encoder states that can occur.  The decoder state
that corresponds to the encoder state `S` is `S mod 2^tableLog` (what FSE_flushCState writes).
* `init`: FSE_initCState2 picks a valid state whose cell belongs to the symbol;
* `step`: FSE_encodeSymbol in a valid state `S` for symbol `s` flushes `nb ≤ tableLog` bits `v` and moves to a valid state whose cell belongs
  to `s`, reads `nb` bits and whose `nextState + v` is the decoder state of `S`. -/
structure InvertsWith (V : Nat → Prop) (ct : CTable) (T : Array SeqCell) (base bits : List Nat) (ok : Nat → Prop) : Prop where
  log_le : ct.tableLog ≤ 56
  init : ∀ s, ok s → V (initCState2 ct s) ∧ CellFor T base bits (initCState2 ct s % 2 ^ ct.tableLog) s
  step : ∀ S s, V S → ok s →
    V (encodeSymbol ct S s).1 ∧ CellFor T base bits ((encodeSymbol ct S s).1 % 2 ^ ct.tableLog) s ∧
      (T[(encodeSymbol ct S s).1 % 2 ^ ct.tableLog]!).nbBits = (encodeSymbol ct S s).2.2 ∧
      (T[(encodeSymbol ct S s).1 % 2 ^ ct.tableLog]!).nextState + (encodeSymbol ct S s).2.1 = S % 2 ^ ct.tableLog ∧
      (encodeSymbol ct S s).2.2 ≤ ct.tableLog

/-- `InvertsWith` for some set `V` of encoder states: users need that an invariant exists, not which one -/
def Inverts (ct : CTable) (T : Array SeqCell) (base bits : List Nat) (ok : Nat → Prop) : Prop :=
  ∃ V, InvertsWith V ct T base bits ok

theorem getBang_map {α β} [Inhabited α] [Inhabited β] (a : Array α) (f : α → β) (i : Nat) (h : i < a.size) :
    (a.map f)[i]! = f a[i]! := by
  simp [h]

theorem mod_of_state {L S : Nat} (h1 : 2 ^ L ≤ S) (h2 : S < 2 ^ (L + 1)) : S % 2 ^ L = S - 2 ^ L := by
  rw [Nat.pow_succ] at h2
  rw [Nat.mod_eq_sub_mod h1, Nat.mod_eq_of_lt (by omega)]

/-- ZSTD_buildFSETable's cells invert FSE_buildCTable_wksp's table over the same spreading, on the symbols of non-zero count
(`L ≤ 14`: see `FSE.init2_inverse`) -/
theorem inverts_fse {syms : Array Nat} {norm : Array Int} {L : Nat} (hN : NormOK norm L) (hS : SpreadOK syms norm L) (hL : L ≤ 14)
    (base bits : List Nat) :
    Inverts (ctableOf syms norm L) ((cellsOf syms norm L).map (seqCellOf base bits)) base bits
      (fun s => s < norm.size ∧ norm[s]! ≠ 0) := by
  have cell : ∀ S, 2 ^ L ≤ S → S < 2 ^ (L + 1) → ((cellsOf syms norm L).map (seqCellOf base bits))[S % 2 ^ L]! =
      seqCellOf base bits (cellsOf syms norm L)[S - 2 ^ L]! := by
    intro S h1 h2
    rw [mod_of_state h1 h2, getBang_map _ _ _ (by rw [cellsOf_size, hS.1]; rw [Nat.pow_succ] at h2; omega)]
  refine ⟨fun S => 2 ^ L ≤ S ∧ S < 2 ^ (L + 1), show L ≤ 56 by omega, ?_, ?_⟩
  · intro s ⟨hs, h0⟩
    obtain ⟨i1, i2, i3⟩ := init2_inverse hN hS hL hs h0
    refine ⟨⟨i1, i2⟩, ?_⟩
    rw [show (ctableOf syms norm L).tableLog = L from rfl]
    unfold CellFor
    rw [cell _ i1 i2]
    simp only [seqCellOf, i3, and_self]
  · intro S s ⟨hS1, hS2⟩ ⟨hs, h0⟩
    obtain ⟨a1, a2, a3, a4, a5⟩ := step_inverse hN hS (show L ≤ 15 by omega) hs h0 hS1 hS2
      (S2 := (encodeSymbol (ctableOf syms norm L) S s).1) (v := (encodeSymbol (ctableOf syms norm L) S s).2.1)
      (nb := (encodeSymbol (ctableOf syms norm L) S s).2.2) rfl
    have hw : (encodeSymbol (ctableOf syms norm L) S s).2.2 ≤ L := by
      obtain ⟨c1, -, -⟩ := symTTOf_spec (L := L) (tot := startOf norm s) (hN.2.1 s hs) h0
      rw [encodeSymbol_spec hN (show L ≤ 15 by omega) hs h0 hS1 hS2]
      exact (encNb_spec c1 (cnt_le hN hs) hS1 hS2).1
    rw [show (ctableOf syms norm L).tableLog = L from rfl]
    unfold CellFor
    rw [cell _ a1 a2, mod_of_state hS1 hS2]
    simp only [seqCellOf, a3, a4, a5, and_self, true_and]
    exact ⟨⟨a1, a2⟩, hw⟩

/-- the tables the two builders produce (FSE_buildCTable_wksp / ZSTD_buildFSETable) for a normalised distribution, given the two
spreading facts in the form `tools/ent_fse.py` checks them on every table (`spreadOK=true spreadEncEqDec=true`); Lemmas/SpreadRT.lean
proves both for every normalised distribution (`spread_ok`, `spreadEnc_eq_spread`) -/
theorem inverts_build {norm : Array Int} {L : Nat} (hN : NormOK norm L) (hL : L ≤ 14)
    (hS : spreadOK (spreadEnc norm L) norm L = true) (hE : spreadEnc norm L = spread norm L) (base bits : List Nat) :
    Inverts (buildCTable norm L) (FSE.buildSeqTable norm L base bits) base bits (fun s => s < norm.size ∧ norm[s]! ≠ 0) := by
  rw [buildSeqTable_eq]
  unfold buildCells buildCTable
  rw [hE] at hS ⊢
  exact inverts_fse hN ((spreadOK_iff _ _ _).1 hS) hL base bits

theorem inverts_const {norm : Array Int} {L maxSym : Nat} {dflt : List SeqCell} {base bits : List Nat} (hN : NormOK norm L)
    (hS : SpreadOK (spread norm L) norm L) (hE : spreadEnc norm L = spread norm L) (hL : L ≤ 14)
    (hT : (buildCells norm L).toList.map (seqCellOf base bits) = dflt) (hnz : ∀ s, s ≤ maxSym → s < norm.size ∧ norm[s]! ≠ 0) :
    Inverts (buildCTable norm L) dflt.toArray base bits (· ≤ maxSym) := by
  obtain ⟨V, hV⟩ := inverts_fse hN hS hL base bits
  unfold buildCTable
  rw [hE, ← hT, ← List.map_toArray, Array.toArray_toList]
  exact ⟨V, hV.log_le, fun s hs => hV.init s (hnz s hs), fun S s hS hs => hV.step S s hS (hnz s hs)⟩

/-- compared as lists: cheaper for the kernel than as arrays -/
theorem defaultDTables_eq :
    (buildCells LL_defaultNorm.toArray LL_DEFAULTNORMLOG).toList.map (seqCellOf LL_base LL_bits) = LL_defaultDTable ∧
    (buildCells OF_defaultNorm.toArray OF_DEFAULTNORMLOG).toList.map (seqCellOf OF_base OF_bits) = OF_defaultDTable ∧
    (buildCells ML_defaultNorm.toArray ML_DEFAULTNORMLOG).toList.map (seqCellOf ML_base ML_bits) = ML_defaultDTable := by
  decide +kernel

/-- the three predefined tables (`set_basic`), on every symbol of the predefined alphabets (LL 0..35, OF 0..28, ML 0..52) -/
theorem inverts_default :
    Inverts (buildCTable LL_defaultNorm.toArray LL_DEFAULTNORMLOG) LL_defaultDTable.toArray LL_base LL_bits (· ≤ MaxLL) ∧
    Inverts (buildCTable OF_defaultNorm.toArray OF_DEFAULTNORMLOG) OF_defaultDTable.toArray OF_base OF_bits (· ≤ DefaultMaxOff) ∧
    Inverts (buildCTable ML_defaultNorm.toArray ML_DEFAULTNORMLOG) ML_defaultDTable.toArray ML_base ML_bits (· ≤ MaxML) := by
  obtain ⟨n1, n2, n3⟩ := default_tables_normOK
  obtain ⟨s1, s2, s3⟩ := default_tables_spreadOK
  obtain ⟨e1, e2, e3⟩ := default_tables_spreadEnc_eq
  obtain ⟨d1, d2, d3⟩ := defaultDTables_eq
  exact ⟨inverts_const n1 s1 e1 (by decide) d1 (by decide +kernel), inverts_const n2 s2 e2 (by decide) d2 (by decide +kernel),
    inverts_const n3 s3 e3 (by decide) d3 (by decide +kernel)⟩

/-- RLE tables (`set_rle`): FSE_buildCTable_rle's table keeps the state at 0 and writes 0-bit fields; ZSTD_buildSeqTable_rle's single cell
(`nbBits = 0`, `nextState = 0`) keeps the decoder state at 0 and reads no state bits -/
theorem inverts_rle (sym : Nat) (base bits : List Nat) :
    Inverts (rleCTable sym) (FSE.rleSeqTable sym base bits) base bits (· = sym) := by
  have tt : (rleCTable sym).symbolTT[sym]! = { deltaFindState := 0, deltaNbBits := 0 } := by simp [rleCTable]
  have hi : initCState2 (rleCTable sym) sym = 0 := by unfold initCState2; rw [tt]; rfl
  have hs : encodeSymbol (rleCTable sym) 0 sym = (0, (0, 0)) := by unfold encodeSymbol; rw [tt]; rfl
  refine ⟨(· = 0), Nat.zero_le _, ?_, ?_⟩
  · rintro s rfl
    rw [hi]
    exact ⟨rfl, rfl, rfl⟩
  · rintro S s rfl rfl
    rw [hs]
    exact ⟨rfl, ⟨rfl, rfl⟩, rfl, rfl, Nat.le_refl _⟩

/-- BIT_readBits(w) on the abstract stream: takes the top field, which must be exactly `w` bits wide; the value comes back masked to
its width (BIT_addBits masks) -/
def pop (w : Nat) : List (Nat × Nat) → Option (Nat × List (Nat × Nat))
  | [] => none
  | f :: rest => if f.2 = w then some (f.1 % 2 ^ w, rest) else none

theorem pop_pair (p : Nat × Nat) (rest : List (Nat × Nat)) : pop p.2 (p :: rest) = some (p.1 % 2 ^ p.2, rest) := by
  simp [pop]

/-- `pop_pair` in the form `simp` meets on a pushed literal pair -/
theorem pop_cons (v w : Nat) (rest : List (Nat × Nat)) : pop w ((v, w) :: rest) = some (v % 2 ^ w, rest) :=
  pop_pair (v, w) rest

theorem encodeSymbol_field_mod (ct : CTable) (S s : Nat) :
    (encodeSymbol ct S s).2.1 % 2 ^ (encodeSymbol ct S s).2.2 = (encodeSymbol ct S s).2.1 := by
  simp only [encodeSymbol, Nat.mod_mod]

/-- what ZSTD_decodeSequence hands out, before the repeat-offset resolution: literal length, match length, Offset_Value, and
`ll0 = (llDInfo->baseValue == 0)` -/
structure Tri where
  ll : Nat
  ml : Nat
  ofValue : Nat
  ll0 : Nat
deriving DecidableEq, Repr

/-- ZSTD_decodeSequence on the abstract stream, from the three decoder states: the offset extra bits, the match-length extra bits, the
literal-length extra bits, then - unless this is the last sequence - the LL, ML, OF state updates (in that order); `none` as soon as a
read does not find a field of exactly the width it asks for -/
def stackStep (llT ofT mlT : Array SeqCell) (isLast : Bool) (sLL sOF sML : Nat) (stack : List (Nat × Nat)) :
    Option (Tri × (Nat × Nat × Nat) × List (Nat × Nat)) :=
  let cLL := llT[sLL]!
  let cOF := ofT[sOF]!
  let cML := mlT[sML]!
  (pop cOF.nbAddBits stack).bind fun x =>
  (pop cML.nbAddBits x.2).bind fun y =>
  (pop cLL.nbAddBits y.2).bind fun z =>
  let t : Tri := { ll := cLL.baseValue + z.1, ml := cML.baseValue + y.1, ofValue := ofValueOf cOF.baseValue cOF.nbAddBits x.1,
                   ll0 := if cLL.baseValue == 0 then 1 else 0 }
  if isLast then some (t, (sLL, sOF, sML), z.2) else
  (pop cLL.nbBits z.2).bind fun a =>
  (pop cML.nbBits a.2).bind fun b =>
  (pop cOF.nbBits b.2).bind fun c =>
  some (t, (cLL.nextState + a.1, cOF.nextState + c.1, cML.nextState + b.1), c.2)

/-- `n` × ZSTD_decodeSequence on the abstract stream -/
def decodeStack (llT ofT mlT : Array SeqCell) : Nat → Nat → Nat → Nat → List (Nat × Nat) → Option (List Tri × List (Nat × Nat))
  | 0, _, _, _, stack => some ([], stack)
  | n + 1, sLL, sOF, sML, stack =>
    (stackStep llT ofT mlT (n == 0) sLL sOF sML stack).bind fun p =>
    (decodeStack llT ofT mlT n p.2.1.1 p.2.1.2.1 p.2.1.2.2 p.2.2).bind fun r =>
    some (p.1 :: r.1, r.2)

/-- ZSTD_decompressSequences_body on the abstract stream: ZSTD_initFseState for LL, OF, ML (`BIT_readBits(tableLog)` each), then the sequences -/
def decodeStackAll (llT ofT mlT : Array SeqCell) (llLog ofLog mlLog n : Nat) (stack : List (Nat × Nat)) :
    Option (List Tri × List (Nat × Nat)) :=
  (pop llLog stack).bind fun a =>
  (pop ofLog a.2).bind fun b =>
  (pop mlLog b.2).bind fun c =>
  decodeStack llT ofT mlT n a.1 b.1 c.1 c.2

/-- what the decoder makes of a sequence of the seqStore: the `base` columns of its three codes plus its extra bits -/
def triOf (s : SeqIn) : Tri :=
  let c := codesOf s
  { ll := LL_base.getD c.ll 0 + s.litLength % 2 ^ LL_bits.getD c.ll 0
    ml := ML_base.getD c.ml 0 + s.mlBase % 2 ^ ML_bits.getD c.ml 0
    ofValue := ofValueOf (OF_base.getD c.of 0) (OF_bits.getD c.of 0) (s.offBase % 2 ^ c.of)
    ll0 := if LL_base.getD c.ll 0 == 0 then 1 else 0 }

/-- a sequence whose three codes the tables know, with an offset code of at most 31 (`offBase` is a U32) -/
def SeqOK (okLL okOF okML : Nat → Prop) (s : SeqIn) : Prop :=
  okLL (codesOf s).ll ∧ okOF (codesOf s).of ∧ okML (codesOf s).ml ∧ (codesOf s).of ≤ 31

section
variable {ctLL ctOF ctML : CTable} {llT ofT mlT : Array SeqCell} {okLL okOF okML : Nat → Prop} {VLL VOF VML : Nat → Prop}

theorem stackStep_pushExtra (s : SeqIn) (hof : (codesOf s).of ≤ 31) (sLL sOF sML : Nat)
    (cLL : CellFor llT LL_base LL_bits sLL (codesOf s).ll) (cOF : CellFor ofT OF_base OF_bits sOF (codesOf s).of)
    (cML : CellFor mlT ML_base ML_bits sML (codesOf s).ml) (stack : List (Nat × Nat)) (isLast : Bool) :
    stackStep llT ofT mlT isLast sLL sOF sML (pushExtra s stack) =
      if isLast then some (triOf s, (sLL, sOF, sML), stack) else
      (pop (llT[sLL]!).nbBits stack).bind fun a =>
      (pop (mlT[sML]!).nbBits a.2).bind fun b =>
      (pop (ofT[sOF]!).nbBits b.2).bind fun c =>
      some (triOf s, ((llT[sLL]!).nextState + a.1, (ofT[sOF]!).nextState + c.1, (mlT[sML]!).nextState + b.1), c.2) := by
  simp only [stackStep, pushExtra, cLL.1, cLL.2, cOF.1, cOF.2, cML.1, cML.2, of_bits_self hof, pop_cons, Option.bind_some, triOf]

theorem widths_cons3 {a b c : Nat × Nat} {stack : List (Nat × Nat)} (ha : a.2 ≤ 56) (hb : b.2 ≤ 56) (hc : c.2 ≤ 56)
    (hw : ∀ f ∈ stack, f.2 ≤ 56) : ∀ f ∈ a :: b :: c :: stack, f.2 ≤ 56 := by
  intro f hf
  simp only [List.mem_cons] at hf
  rcases hf with rfl | rfl | rfl | hf
  · exact ha
  · exact hb
  · exact hc
  · exact hw f hf

/-- widths: every field one loop iteration pushes is at most 56 bits wide (state bits ≤ tableLog ≤ 56, LL / ML extra bits ≤ 16, offset
extra bits ≤ 31) -/
theorem pushExtra_widths (s : SeqIn) (hof : (codesOf s).of ≤ 31) (stack : List (Nat × Nat)) (hw : ∀ f ∈ stack, f.2 ≤ 56) :
    ∀ f ∈ pushExtra s stack, f.2 ≤ 56 :=
  widths_cons3 (Nat.le_trans hof (by decide)) (Nat.le_trans (ml_bits_le _) (by decide)) (Nat.le_trans (ll_bits_le _) (by decide)) hw

section
variable (hLL : InvertsWith VLL ctLL llT LL_base LL_bits okLL) (hOF : InvertsWith VOF ctOF ofT OF_base OF_bits okOF)
  (hML : InvertsWith VML ctML mlT ML_base ML_bits okML)
include hLL hOF hML

/-- ONE STEP of the encoder loop is undone by one step of the abstract decoder: from the decoder states of the new encoder states it
reads `s` and arrives at the decoder states of the old encoder states, on the old stream -/
theorem stackStep_encodeStep (s : SeqIn) (hs : SeqOK okLL okOF okML s)
    (st : States) (vLL : VLL st.ll) (vOF : VOF st.of) (vML : VML st.ml) (stack : List (Nat × Nat)) :
    let r := encodeStep ctLL ctOF ctML st stack s
    VLL r.1.ll ∧ VOF r.1.of ∧ VML r.1.ml ∧
      stackStep llT ofT mlT false (r.1.ll % 2 ^ ctLL.tableLog) (r.1.of % 2 ^ ctOF.tableLog) (r.1.ml % 2 ^ ctML.tableLog) r.2
        = some (triOf s, (st.ll % 2 ^ ctLL.tableLog, st.of % 2 ^ ctOF.tableLog, st.ml % 2 ^ ctML.tableLog), stack) := by
  obtain ⟨h1, h2, h3, h4⟩ := hs
  obtain ⟨a1, a2, a3, a4, -⟩ := hLL.step st.ll _ vLL h1
  obtain ⟨b1, b2, b3, b4, -⟩ := hOF.step st.of _ vOF h2
  obtain ⟨c1, c2, c3, c4, -⟩ := hML.step st.ml _ vML h3
  refine ⟨a1, b1, c1, ?_⟩
  simp only [encodeStep]
  rw [stackStep_pushExtra s h4 _ _ _ a2 b2 c2]
  simp only [Bool.false_eq_true, if_false, a3, b3, c3, pop_pair, Option.bind_some, encodeSymbol_field_mod, a4, b4, c4]

theorem encodeStep_widths (s : SeqIn) (hs : SeqOK okLL okOF okML s)
    (st : States) (vLL : VLL st.ll) (vOF : VOF st.of) (vML : VML st.ml) (stack : List (Nat × Nat)) (hw : ∀ f ∈ stack, f.2 ≤ 56) :
    ∀ f ∈ (encodeStep ctLL ctOF ctML st stack s).2, f.2 ≤ 56 := by
  obtain ⟨h1, h2, h3, h4⟩ := hs
  obtain ⟨-, -, -, -, a5⟩ := hLL.step st.ll _ vLL h1
  obtain ⟨-, -, -, -, b5⟩ := hOF.step st.of _ vOF h2
  obtain ⟨-, -, -, -, c5⟩ := hML.step st.ml _ vML h3
  exact pushExtra_widths s h4 _ (widths_cons3 (Nat.le_trans a5 hLL.log_le) (Nat.le_trans c5 hML.log_le) (Nat.le_trans b5 hOF.log_le) hw)

theorem encodeLoop_decode (rev : List SeqIn) (hrev : ∀ s ∈ rev, SeqOK okLL okOF okML s)
    (st : States) (vLL : VLL st.ll) (vOF : VOF st.of) (vML : VML st.ml) (stack : List (Nat × Nat)) (hw : ∀ f ∈ stack, f.2 ≤ 56) (k : Nat)
    (out : List Tri) (rest : List (Nat × Nat))
    (hdec : decodeStack llT ofT mlT (k + 1) (st.ll % 2 ^ ctLL.tableLog) (st.of % 2 ^ ctOF.tableLog) (st.ml % 2 ^ ctML.tableLog) stack
      = some (out, rest)) :
    let r := encodeSeqLoop ctLL ctOF ctML rev st stack
    VLL r.1.ll ∧ VOF r.1.of ∧ VML r.1.ml ∧ (∀ f ∈ r.2, f.2 ≤ 56) ∧
      decodeStack llT ofT mlT (rev.length + k + 1) (r.1.ll % 2 ^ ctLL.tableLog) (r.1.of % 2 ^ ctOF.tableLog) (r.1.ml % 2 ^ ctML.tableLog) r.2
        = some (rev.reverse.map triOf ++ out, rest) := by
  induction rev generalizing st stack out k with
  | nil => exact ⟨vLL, vOF, vML, hw, by simpa [encodeSeqLoop] using hdec⟩
  | cons s t ih =>
    have hs := hrev s (by simp)
    obtain ⟨a, b, c, d⟩ := stackStep_encodeStep hLL hOF hML s hs st vLL vOF vML stack
    have w := encodeStep_widths hLL hOF hML s hs st vLL vOF vML stack hw
    have := ih (fun x hx => hrev x (by simp [hx])) _ a b c _ w (k + 1) (triOf s :: out)
      (by rw [decodeStack, show (k + 1 == 0) = false from rfl, d]; simp only [Option.bind_some, hdec])
    simp only [encodeSeqLoop]
    have e2 : (s :: t).length + k + 1 = t.length + (k + 1) + 1 := by simp; omega
    have e3 : (s :: t).reverse.map triOf ++ out = t.reverse.map triOf ++ triOf s :: out := by simp
    rw [e2, e3]
    exact this

end

/-- The round trip on the abstract stream, for any mix of table pairs that invert each other (`inverts_fse`, `inverts_build`,
`inverts_default`, `inverts_rle`); no field is wider than 56 bits, which is what `BitR.bits_roundtrip` asks for -/
theorem three_state_roundtrip (hLL : Inverts ctLL llT LL_base LL_bits okLL) (hOF : Inverts ctOF ofT OF_base OF_bits okOF)
    (hML : Inverts ctML mlT ML_base ML_bits okML) (seqs : List SeqIn) (hne : seqs ≠ []) (hok : ∀ s ∈ seqs, SeqOK okLL okOF okML s) :
    decodeStackAll llT ofT mlT ctLL.tableLog ctOF.tableLog ctML.tableLog seqs.length (encodeSeqStack ctLL ctOF ctML seqs)
      = some (seqs.map triOf, []) ∧
    ∀ f ∈ encodeSeqStack ctLL ctOF ctML seqs, f.2 ≤ 56 := by
  obtain ⟨VLL, hLL⟩ := hLL
  obtain ⟨VOF, hOF⟩ := hOF
  obtain ⟨VML, hML⟩ := hML
  obtain ⟨last, rev, hrv⟩ : ∃ last rev, seqs.reverse = last :: rev := by
    cases h : seqs.reverse with
    | nil => exact absurd (List.reverse_eq_nil_iff.1 h) hne
    | cons a t => exact ⟨a, t, rfl⟩
  have hσ : seqs = rev.reverse ++ [last] := by
    have := congrArg List.reverse hrv
    simpa using this
  obtain ⟨h1, h2, h3, h4⟩ := hok last (by rw [hσ]; simp)
  obtain ⟨i1, i2⟩ := hLL.init _ h1
  obtain ⟨j1, j2⟩ := hOF.init _ h2
  obtain ⟨k1, k2⟩ := hML.init _ h3
  -- the last sequence is written first: initial states, then its extra bits
  have hstep := stackStep_pushExtra last h4 _ _ _ i2 j2 k2 [] true
  obtain ⟨a, b, c, w, d⟩ := encodeLoop_decode hLL hOF hML rev (fun x hx => hok x (by rw [hσ]; simp [hx]))
    { ll := initCState2 ctLL (codesOf last).ll, of := initCState2 ctOF (codesOf last).of, ml := initCState2 ctML (codesOf last).ml }
    i1 j1 k1 _ (pushExtra_widths last h4 [] (by simp)) 0 [triOf last] [] (by simp only [decodeStack, BEq.rfl, hstep, if_true, Option.bind_some])
  have hlen : seqs.length = rev.length + 0 + 1 := by rw [hσ]; simp
  have hmap : seqs.map triOf = rev.reverse.map triOf ++ [triOf last] := by rw [hσ]; simp
  unfold encodeSeqStack
  rw [hrv]
  refine ⟨?_, widths_cons3 hLL.log_le hOF.log_le hML.log_le w⟩
  unfold decodeStackAll flushCState
  simp only [pop_cons, Option.bind_some, Nat.mod_mod]
  rw [hlen, hmap]
  exact d

end

/-- the reader `r` sees exactly the fields of `stack` (top first), masked to their widths, and nothing else: after them it stands at the
start of the stream without having overflowed (BIT_endOfDStream) -/
def Holds (r : BitR) : List (Nat × Nat) → Prop
  | [] => r.left = 0 ∧ r.over = false
  | f :: rest => (r.read f.2).1 = f.1 % 2 ^ f.2 ∧ Holds (r.read f.2).2 rest

theorem holds_of_readList (st : List (Nat × Nat)) (r : BitR)
    (h1 : (BitR.readList r (st.map (·.2))).1 = st.map (fun f => f.1 % 2 ^ f.2))
    (h2 : (BitR.readList r (st.map (·.2))).2.atEnd = true) : Holds r st := by
  induction st generalizing r with
  | nil =>
    simp only [List.map_nil, BitR.readList, BitR.atEnd, Bool.and_eq_true, beq_iff_eq, Bool.not_eq_true'] at h2
    exact h2
  | cons f t ih =>
    simp only [List.map_cons, BitR.readList, List.cons.injEq] at h1 h2
    exact ⟨h1.1, ih _ h1.2 h2⟩

theorem pop_holds {w : Nat} {stack st2 : List (Nat × Nat)} {x : Nat} {r : BitR} (hp : pop w stack = some (x, st2)) (h : Holds r stack) :
    (r.read w).1 = x ∧ Holds (r.read w).2 st2 := by
  cases stack with
  | nil => simp [pop] at hp
  | cons f rest =>
    simp only [pop] at hp
    split at hp
    · next hw =>
      simp only [Option.some.injEq, Prod.mk.injEq] at hp
      obtain ⟨h1, h2⟩ := h
      rw [hw] at h1 h2
      rw [← hp.1, ← hp.2]
      exact ⟨h1, h2⟩
    · simp at hp

theorem read_zero (r : BitR) : r.read 0 = (0, r) := by
  cases r
  simp [BitR.read, BitR.field]

/-- loop state of `Block.decodeSeqs`: (sLL, sOF, sML, bit reader, repeat offsets, sequences so far) -/
abbrev LoopSt := Nat × Nat × Nat × BitR × Array Nat × Array Seq

/-- one iteration of the loop of `Block.decodeSeqs` (ZSTD_decodeSequence), with every conditional read written as an unconditional one
(`BitR.read 0` reads nothing: `read_zero`); `isLast` = "this is the last sequence: no state update" -/
def seqStep (llT ofT mlT : Array SeqCell) (isLast : Bool) (s : LoopSt) : LoopSt :=
  let cLL := llT[s.1]!
  let cOF := ofT[s.2.1]!
  let cML := mlT[s.2.2.1]!
  let r := s.2.2.2.1
  let rep := s.2.2.2.2.1
  let ll0 := if cLL.baseValue == 0 then 1 else 0
  let a := r.read cOF.nbAddBits
  let ofValue := ofValueOf cOF.baseValue cOF.nbAddBits a.1
  let res := resolve ⟨rep[0]!, rep[1]!, rep[2]!⟩ ofValue ll0
  let b := a.2.read cML.nbAddBits
  let c := b.2.read cLL.nbAddBits
  let sq : Seq := { ll := cLL.baseValue + c.1, ml := cML.baseValue + b.1, offset := res.1, ofValue := ofValue }
  let rep2 := #[res.2.r0, res.2.r1, res.2.r2]
  if isLast then (s.1, s.2.1, s.2.2.1, c.2, rep2, s.2.2.2.2.2.push sq)
  else
    let x := c.2.read cLL.nbBits
    let y := x.2.read cML.nbBits
    let z := y.2.read cOF.nbBits
    (cLL.nextState + x.1, cOF.nextState + z.1, cML.nextState + y.1, z.2, rep2, s.2.2.2.2.2.push sq)

theorem forIn_yield_list {α β : Type} (l : List α) (f : α → β → β) (g : α → β → Id (ForInStep β)) (init : β)
    (h : ∀ a b, g a b = ForInStep.yield (f a b)) : forIn (m := Id) l init g = l.foldl (fun b a => f a b) init := by
  induction l generalizing init with
  | nil => rfl
  | cons a as ih =>
    rw [List.forIn_cons, h a init, List.foldl_cons]
    exact ih _

theorem decodeSeqs_eq_fold (llT ofT mlT : Array SeqCell) (nbSeq sLL0 sOF0 sML0 : Nat) (r0 : BitR) (rep0 : Array Nat) :
    decodeSeqs llT ofT mlT nbSeq sLL0 sOF0 sML0 r0 rep0 =
      { seqs := ((List.range' 0 nbSeq).foldl (fun (b : LoopSt) k => seqStep llT ofT mlT (k + 1 == nbSeq) b)
          (sLL0, sOF0, sML0, r0, rep0, Array.mkEmpty nbSeq)).2.2.2.2.2
        r := ((List.range' 0 nbSeq).foldl (fun (b : LoopSt) k => seqStep llT ofT mlT (k + 1 == nbSeq) b)
          (sLL0, sOF0, sML0, r0, rep0, Array.mkEmpty nbSeq)).2.2.2.1
        rep := ((List.range' 0 nbSeq).foldl (fun (b : LoopSt) k => seqStep llT ofT mlT (k + 1 == nbSeq) b)
          (sLL0, sOF0, sML0, r0, rep0, Array.mkEmpty nbSeq)).2.2.2.2.1 } := by
  unfold decodeSeqs
  extract_lets sLL sOF sML r rep seqs
  rw [Std.Legacy.Range.forIn_eq_forIn_range', forIn_yield_list _ (fun k (b : LoopSt) => seqStep llT ofT mlT (k + 1 == nbSeq) b)]
  · simp only [Std.Legacy.Range.size, Nat.sub_zero, Nat.add_sub_cancel, Nat.div_one]
    rfl
  · -- The body is left as the `do` block elaborates it (join points not inlined), and the widths 0, 1, ≥ 2 of the offset field and
    -- 0, > 0 of the two length fields are given to `simp` as facts: it then walks one path of the body, not all 24.
    intro k s
    obtain ⟨sLL, sOF, sML, r, rep, seqs⟩ := s
    have hob : (ofT[sOF]!).nbAddBits = 0 ∨ (ofT[sOF]!).nbAddBits = 1 ∨ (ofT[sOF]!).nbAddBits > 1 := by omega
    rcases hob with hob | hob | hob <;>
      rcases Nat.eq_zero_or_pos (mlT[sML]!).nbAddBits with hmb | hmb <;>
      rcases Nat.eq_zero_or_pos (llT[sLL]!).nbAddBits with hlb | hlb <;>
      simp only [seqStep, ofValueOf, pure, hob, hmb, hlb, gt_iff_lt, Nat.not_lt_zero, Nat.lt_irrefl, ↓reduceIte, BEq.rfl, Nat.reduceBEq,
        bne_iff_ne, ne_eq, ite_not, apply_ite ForInStep.yield, Bool.false_eq_true, beq_iff_eq, read_zero, Nat.add_zero]

/-- repeat-offset history: the array of `Block.decodeSeqs` as a `Rep.R` and back -/
def repOf (a : Array Nat) : Rep.R := ⟨a[0]!, a[1]!, a[2]!⟩
def repArr (r : Rep.R) : Array Nat := #[r.r0, r.r1, r.r2]

theorem repOf_repArr (r : Rep.R) : repOf (repArr r) = r := by
  cases r; rfl

/-- the repeat-offset resolution of ZSTD_decodeSequence (`Rep.resolve`) along a list of decoded triples -/
def resolveAll (rep : Rep.R) : List Tri → List Seq × Rep.R
  | [] => ([], rep)
  | t :: ts =>
    let res := resolve rep t.ofValue t.ll0
    ({ ll := t.ll, ml := t.ml, offset := res.1, ofValue := t.ofValue } :: (resolveAll res.2 ts).1, (resolveAll res.2 ts).2)

theorem resolveAll_fields (rep : Rep.R) (ts : List Tri) :
    (resolveAll rep ts).1.map (fun q => (q.ll, q.ml, q.ofValue)) = ts.map (fun t => (t.ll, t.ml, t.ofValue)) := by
  induction ts generalizing rep with
  | nil => rfl
  | cons t ts ih => simp only [resolveAll, List.map_cons, ih]

/-- one iteration of `Block.decodeSeqs` follows `stackStep` on a reader that sees the stack -/
theorem seqStep_of_stackStep {llT ofT mlT : Array SeqCell} {isLast : Bool} {sLL sOF sML a b c : Nat} {stack rest : List (Nat × Nat)}
    {t : Tri} (h : stackStep llT ofT mlT isLast sLL sOF sML stack = some (t, (a, b, c), rest)) {r : BitR} (hh : Holds r stack)
    (rep : Array Nat) (seqs : Array Seq) :
    ∃ r', Holds r' rest ∧ seqStep llT ofT mlT isLast (sLL, sOF, sML, r, rep, seqs) =
      (a, b, c, r', repArr (resolve (repOf rep) t.ofValue t.ll0).2,
        seqs.push { ll := t.ll, ml := t.ml, offset := (resolve (repOf rep) t.ofValue t.ll0).1, ofValue := t.ofValue }) := by
  simp only [stackStep, Option.bind_eq_some_iff] at h
  obtain ⟨⟨x1, x2⟩, hx, ⟨y1, y2⟩, hy, ⟨z1, z2⟩, hz, h⟩ := h
  obtain ⟨rx, hx2⟩ := pop_holds hx hh
  obtain ⟨ry, hy2⟩ := pop_holds hy hx2
  obtain ⟨rz, hz2⟩ := pop_holds hz hy2
  cases isLast
  · simp only [Bool.false_eq_true, if_false, Option.bind_eq_some_iff, Option.some.injEq, Prod.mk.injEq] at h
    obtain ⟨⟨p1, p2⟩, hp, ⟨q1, q2⟩, hq, ⟨u1, u2⟩, hu, rfl, ⟨rfl, rfl, rfl⟩, rfl⟩ := h
    obtain ⟨rp, hp2⟩ := pop_holds hp hz2
    obtain ⟨rq, hq2⟩ := pop_holds hq hp2
    obtain ⟨ru, hu2⟩ := pop_holds hu hq2
    exact ⟨_, hu2, by simp only [seqStep, rx, ry, rz, rp, rq, ru]; rfl⟩
  · simp only [if_true, Option.some.injEq, Prod.mk.injEq] at h
    obtain ⟨rfl, ⟨rfl, rfl, rfl⟩, rfl⟩ := h
    exact ⟨_, hz2, by simp only [seqStep, rx, ry, rz]; rfl⟩

/-- The history is claimed for `m ≠ 0` only: with no iteration it is `rep` itself, and `repArr (repOf rep) = rep` needs an array of
exactly three entries. -/
theorem fold_of_stack (llT ofT mlT : Array SeqCell) (nbSeq : Nat) (m : Nat) : ∀ (a : Nat), a + m = nbSeq →
    ∀ (sLL sOF sML : Nat) (r : BitR) (rep : Array Nat) (seqs : Array Seq) (stack : List (Nat × Nat)) (out : List Tri) (rest : List (Nat × Nat)),
    decodeStack llT ofT mlT m sLL sOF sML stack = some (out, rest) → Holds r stack →
    let F := (List.range' a m).foldl (fun (b : LoopSt) k => seqStep llT ofT mlT (k + 1 == nbSeq) b) (sLL, sOF, sML, r, rep, seqs)
    F.2.2.2.2.2 = seqs ++ (resolveAll (repOf rep) out).1.toArray ∧ Holds F.2.2.2.1 rest ∧
      (m ≠ 0 → F.2.2.2.2.1 = repArr (resolveAll (repOf rep) out).2) := by
  induction m with
  | zero =>
    intro a _ sLL sOF sML r rep seqs stack out rest hdec hh
    simp only [decodeStack, Option.some.injEq, Prod.mk.injEq] at hdec
    obtain ⟨rfl, rfl⟩ := hdec
    simp [resolveAll, hh]
  | succ m ih =>
    intro a ha sLL sOF sML r rep seqs stack out rest hdec hh
    rw [decodeStack] at hdec
    simp only [Option.bind_eq_some_iff, Option.some.injEq, Prod.mk.injEq] at hdec
    obtain ⟨⟨t, ⟨s1, s2, s3⟩, st2⟩, hstep, ⟨o1, o2⟩, hrec, rfl, rfl⟩ := hdec
    have hl : (a + 1 == nbSeq) = (m == 0) := by
      rw [Bool.eq_iff_iff]; simp only [beq_iff_eq]; omega
    obtain ⟨r', hr', hs⟩ := seqStep_of_stackStep hstep hh rep seqs
    rw [List.range'_succ, List.foldl_cons, hl, hs]
    obtain ⟨f1, f2, f3⟩ := ih (a + 1) (by omega) _ _ _ r' _ _ _ _ _ hrec hr'
    rw [repOf_repArr] at f1 f3
    refine ⟨?_, f2, fun _ => ?_⟩
    · rw [f1]; simp [resolveAll]
    · by_cases hm : m = 0
      · subst hm
        simp only [decodeStack, Option.some.injEq, Prod.mk.injEq] at hrec
        obtain ⟨rfl, -⟩ := hrec
        rfl
      · exact f3 hm

/-- the three initial states are read as `Block.prepare` reads them -/
theorem decodeSeqs_of_holds {llT ofT mlT : Array SeqCell} {llLog ofLog mlLog n : Nat} {stack : List (Nat × Nat)} {out : List Tri}
    (hdec : decodeStackAll llT ofT mlT llLog ofLog mlLog n stack = some (out, [])) (hn : n ≠ 0) {r0 : BitR} (hh : Holds r0 stack)
    (rep0 : Array Nat) :
    let a := r0.read llLog
    let b := a.2.read ofLog
    let c := b.2.read mlLog
    let sd := decodeSeqs llT ofT mlT n a.1 b.1 c.1 c.2 rep0
    sd.seqs.toList = (resolveAll (repOf rep0) out).1 ∧ sd.r.atEnd = true ∧ sd.r.over = false ∧
      sd.rep = repArr (resolveAll (repOf rep0) out).2 := by
  unfold decodeStackAll at hdec
  simp only [Option.bind_eq_some_iff] at hdec
  obtain ⟨⟨a1, a2⟩, ha, ⟨b1, b2⟩, hb, ⟨c1, c2⟩, hc, hdec⟩ := hdec
  obtain ⟨ra, ha2⟩ := pop_holds ha hh
  obtain ⟨rb, hb2⟩ := pop_holds hb ha2
  obtain ⟨rc, hc2⟩ := pop_holds hc hb2
  obtain ⟨f1, ⟨g1, g2⟩, f3⟩ := fold_of_stack llT ofT mlT n n 0 (by omega) _ _ _ _ rep0 (Array.mkEmpty n) _ _ _ hdec hc2
  simp only []
  rw [decodeSeqs_eq_fold, ra, rb, rc]
  simp only []
  rw [f1, f3 hn]
  exact ⟨by simp, by rw [BitR.atEnd, g1, g2]; rfl, g2, rfl⟩

/-- a sequence of the seqStore as the decoder must hand it out: literal length, match length `mlBase + MINMATCH`, Offset_Value `= offBase`,
`ll0 = (litLength == 0)` -/
def triIn (s : SeqIn) : Tri :=
  { ll := s.litLength, ml := s.mlBase + 3, ofValue := s.offBase, ll0 := if s.litLength == 0 then 1 else 0 }

/-- value ranges of one sequence: lengths below 2^17 (ZSTD_BLOCKSIZE_MAX = 2^17), `offBase` a non-zero U32 -/
def InRange (s : SeqIn) : Prop := s.litLength < 2 ^ 17 ∧ s.mlBase < 2 ^ 17 ∧ 1 ≤ s.offBase ∧ s.offBase < 2 ^ 32

instance (s : SeqIn) : Decidable (InRange s) := by unfold InRange; infer_instance

theorem triOf_eq (s : SeqIn) (h : InRange s) : triOf s = triIn s := by
  obtain ⟨h1, h2, h3, h4⟩ := h
  obtain ⟨o1, -, o3⟩ := of_code_roundtrip s.offBase h3 h4
  have l1 := (llCode_spec s.litLength h1).2
  have l0 := ll_base_zero_iff s.litLength h1
  have m1 := (mlCode_spec s.mlBase h2).2
  have key : (LL_base.getD (llCode s.litLength) 0 == 0) = (s.litLength == 0) := by
    rw [Bool.eq_iff_iff]; simp only [beq_iff_eq]; exact l0
  unfold triOf triIn
  simp only [codesOf, l1, m1, o3, key]

theorem seqOK_of {okLL okOF okML : Nat → Prop} (s : SeqIn) (h1 : okLL (codesOf s).ll ∧ okOF (codesOf s).of ∧ okML (codesOf s).ml)
    (h2 : InRange s) : SeqOK okLL okOF okML s :=
  ⟨h1.1, h1.2.1, h1.2.2, (of_code_roundtrip s.offBase h2.2.2.1 h2.2.2.2).2.1⟩

section
variable {ctLL ctOF ctML : CTable} {llT ofT mlT : Array SeqCell} {okLL okOF okML : Nat → Prop}

/-- MAIN THEOREM.  For the bytes `b` ZSTD_encodeSequences produces (`encodeSeqBytes`) for a non-empty list of sequences whose codes have
non-zero probability in the three tables and whose values are in range: BIT_initDStream accepts `b`, and with the three initial states
read as `Block.prepare` reads them, `Block.decodeSeqs` returns sequences whose `(ll, ml, ofValue)` are `(litLength, mlBase + 3, offBase)`
of the input, in order; the final reader is at the end of the stream, so the end-of-stream check of `Block.prepare` / `Block.finish`
passes.  The `offset` fields and the new repeat-offset history are those of `Rep.resolve` along the `offBase` values (`resolveAll`). -/
theorem seq_section_roundtrip (hLL : Inverts ctLL llT LL_base LL_bits okLL) (hOF : Inverts ctOF ofT OF_base OF_bits okOF)
    (hML : Inverts ctML mlT ML_base ML_bits okML) (seqs : List SeqIn) (hne : seqs ≠ [])
    (hok : ∀ s ∈ seqs, okLL (codesOf s).ll ∧ okOF (codesOf s).of ∧ okML (codesOf s).ml) (hrng : ∀ s ∈ seqs, InRange s)
    (rep0 : Array Nat) :
    ∃ r0, BitR.init (encodeSeqBytes ctLL ctOF ctML seqs) 0 (encodeSeqBytes ctLL ctOF ctML seqs).size = .ok r0 ∧
      let a := r0.read ctLL.tableLog
      let b := a.2.read ctOF.tableLog
      let c := b.2.read ctML.tableLog
      let sd := decodeSeqs llT ofT mlT seqs.length a.1 b.1 c.1 c.2 rep0
      sd.seqs.toList.map (fun q => (q.ll, q.ml, q.ofValue)) = seqs.map (fun s => (s.litLength, s.mlBase + 3, s.offBase)) ∧
      sd.r.atEnd = true ∧ sd.r.over = false ∧
      sd.seqs.toList = (resolveAll (repOf rep0) (seqs.map triIn)).1 ∧
      sd.rep = repArr (resolveAll (repOf rep0) (seqs.map triIn)).2 := by
  obtain ⟨hdec, hw⟩ := three_state_roundtrip hLL hOF hML seqs hne (fun s hs => seqOK_of s (hok s hs) (hrng s hs))
  rw [List.map_congr_left (fun s hs => triOf_eq s (hrng s hs))] at hdec
  obtain ⟨r0, hinit, -, -, hvals, -, hend⟩ := BitR.bits_roundtrip (encodeSeqFields ctLL ctOF ctML seqs)
    (fun f hf => hw f (by simpa [encodeSeqFields] using hf))
  have hrev : (encodeSeqFields ctLL ctOF ctML seqs).reverse = encodeSeqStack ctLL ctOF ctML seqs := by
    simp [encodeSeqFields]
  rw [hrev] at hvals hend
  obtain ⟨d1, d2, d3, d4⟩ := decodeSeqs_of_holds hdec (by rwa [Ne, List.length_eq_zero_iff]) (holds_of_readList _ r0 hvals hend) rep0
  refine ⟨r0, hinit, ?_, d2, d3, d1, d4⟩
  rw [d1, resolveAll_fields, List.map_map]
  rfl

/-- Encoder and decoder histories move in lockstep, and the new history has no zero.  For every history of non-zero repeat offsets, every raw
offset ≥ 1 and either literal-length case, the decoder's resolution (`Rep.resolve`, ZSTD_decodeSequence) of the offBase the compressor
stores (ZSTD_finalizeOffBase) yields exactly that raw offset, and the decoder's new history equals the compressor's (ZSTD_updateRep). -/
theorem rep_lockstep (r : Rep.R) (raw : Nat) (ll0 : Bool) (h0 : 1 ≤ r.r0) (h1 : 1 ≤ r.r1) (h2 : 1 ≤ r.r2) (hr : 1 ≤ raw) :
    resolve r (finalizeOffBase raw r ll0) (if ll0 then 1 else 0) = (raw, updateRep r (finalizeOffBase raw r ll0) ll0) ∧
      1 ≤ (updateRep r (finalizeOffBase raw r ll0) ll0).r0 ∧ 1 ≤ (updateRep r (finalizeOffBase raw r ll0) ll0).r1 ∧
      1 ≤ (updateRep r (finalizeOffBase raw r ll0) ll0).r2 := by
  obtain ⟨a, b, c⟩ := r
  simp only at h0 h1 h2
  unfold finalizeOffBase
  cases ll0 <;> simp only [Bool.not_false, Bool.not_true, Bool.true_and, Bool.false_and, if_true, if_false, Bool.false_eq_true]
  · by_cases e0 : raw = a
    · subst e0; simp [resolve, updateRep]; omega
    · by_cases e1 : raw = b
      · subst e1; simp [e0, resolve, updateRep]; omega
      · by_cases e2 : raw = c
        · subst e2; simp [e0, e1, resolve, updateRep]; omega
        · have : raw + 3 > 3 := by omega
          simp [e0, e1, e2, resolve, updateRep, this]; omega
  · by_cases e1 : raw = b
    · subst e1; simp [resolve, updateRep]; omega
    · by_cases e2 : raw = c
      · subst e2; simp [e1, resolve, updateRep]; omega
      · by_cases e3 : raw = a - 1
        · subst e3; simp [e1, e2, resolve, updateRep]; omega
        · have : raw + 3 > 3 := by omega
          simp [e1, e2, e3, resolve, updateRep, this]; omega

theorem finalizeOffBase_range (raw : Nat) (r : Rep.R) (ll0 : Bool) (h : raw + 3 < 2 ^ 32) :
    1 ≤ finalizeOffBase raw r ll0 ∧ finalizeOffBase raw r ll0 < 2 ^ 32 := by
  unfold finalizeOffBase
  cases ll0 <;> simp only [Bool.not_false, Bool.not_true, Bool.true_and, Bool.false_and, if_true, if_false, Bool.false_eq_true] <;>
    (repeat' split) <;> omega

/-- what the compressor has in mind for one sequence: literal length, `matchLength - MINMATCH`, the raw match offset -/
structure RawSeq where
  litLength : Nat
  mlBase : Nat
  rawOffset : Nat
deriving DecidableEq, Repr

/-- the seqStore entries for a list of raw sequences along the encoder's repeat-offset history:
`offBase = ZSTD_finalizeOffBase(rawOffset, rep, ll0)`, then `ZSTD_updateRep(rep, offBase, ll0)`, with `ll0 = (litLength == 0)`
(the way ZSTD_copySequencesToSeqStoreExplicitBlockDelim / ZSTD_compressSequences build the seqStore; returns the entries and the final history) -/
def storeAll (rep : Rep.R) : List RawSeq → List SeqIn × Rep.R
  | [] => ([], rep)
  | q :: qs =>
    let ob := finalizeOffBase q.rawOffset rep (q.litLength == 0)
    ({ litLength := q.litLength, mlBase := q.mlBase, offBase := ob } :: (storeAll (updateRep rep ob (q.litLength == 0)) qs).1,
      (storeAll (updateRep rep ob (q.litLength == 0)) qs).2)

theorem resolveAll_storeAll (rep : Rep.R) (qs : List RawSeq) (h0 : 1 ≤ rep.r0) (h1 : 1 ≤ rep.r1) (h2 : 1 ≤ rep.r2)
    (hq : ∀ q ∈ qs, 1 ≤ q.rawOffset) :
    (resolveAll rep ((storeAll rep qs).1.map triIn)).1.map (fun s => (s.ll, s.ml, s.offset)) =
        qs.map (fun q => (q.litLength, q.mlBase + 3, q.rawOffset)) ∧
      (resolveAll rep ((storeAll rep qs).1.map triIn)).2 = (storeAll rep qs).2 := by
  induction qs generalizing rep with
  | nil => exact ⟨rfl, rfl⟩
  | cons q qs ih =>
    obtain ⟨l1, l2, l3, l4⟩ := rep_lockstep rep q.rawOffset (q.litLength == 0) h0 h1 h2 (hq q (by simp))
    obtain ⟨i1, i2⟩ := ih _ l2 l3 l4 (fun x hx => hq x (by simp [hx]))
    simp only [storeAll, List.map_cons, resolveAll, triIn, l1, i1, i2, and_self]

theorem storeAll_spec (rep : Rep.R) (qs : List RawSeq) :
    (storeAll rep qs).1.length = qs.length ∧
      ((∀ q ∈ qs, q.litLength < 2 ^ 17 ∧ q.mlBase < 2 ^ 17 ∧ q.rawOffset + 3 < 2 ^ 32) → ∀ s ∈ (storeAll rep qs).1, InRange s) := by
  induction qs generalizing rep with
  | nil => exact ⟨rfl, fun _ s hs => by simp [storeAll] at hs⟩
  | cons q qs ih =>
    obtain ⟨i1, i2⟩ := ih (updateRep rep (finalizeOffBase q.rawOffset rep (q.litLength == 0)) (q.litLength == 0))
    refine ⟨by simp [storeAll, i1], fun h s hs => ?_⟩
    simp only [storeAll, List.mem_cons] at hs
    rcases hs with e | e
    · obtain ⟨a, b, c⟩ := h q (by simp)
      obtain ⟨f1, f2⟩ := finalizeOffBase_range q.rawOffset rep (q.litLength == 0) c
      subst e
      exact ⟨a, b, f1, f2⟩
    · exact i2 (fun x hx => h x (by simp [hx])) s e

/-- The compressor stores, for raw sequences `(litLength, mlBase, rawOffset)`, the entries `storeAll`
(ZSTD_finalizeOffBase / ZSTD_updateRep along its repeat-offset history, started at `rep0`), and writes them with ZSTD_encodeSequences.
The decoder, started on the same history, reads from those bytes the literal lengths, the match lengths `mlBase + 3` and exactly the RAW
offsets (`Seq.offset`), ends bit-exact, and its history after the block is the compressor's. -/
theorem seq_offsets_roundtrip (hLL : Inverts ctLL llT LL_base LL_bits okLL) (hOF : Inverts ctOF ofT OF_base OF_bits okOF)
    (hML : Inverts ctML mlT ML_base ML_bits okML) (qs : List RawSeq) (hne : qs ≠ []) (rep0 : Array Nat)
    (h0 : 1 ≤ rep0[0]!) (h1 : 1 ≤ rep0[1]!) (h2 : 1 ≤ rep0[2]!)
    (hq : ∀ q ∈ qs, q.litLength < 2 ^ 17 ∧ q.mlBase < 2 ^ 17 ∧ 1 ≤ q.rawOffset ∧ q.rawOffset + 3 < 2 ^ 32)
    (hok : ∀ s ∈ (storeAll (repOf rep0) qs).1, okLL (codesOf s).ll ∧ okOF (codesOf s).of ∧ okML (codesOf s).ml) :
    ∃ r0, BitR.init (encodeSeqBytes ctLL ctOF ctML (storeAll (repOf rep0) qs).1) 0
        (encodeSeqBytes ctLL ctOF ctML (storeAll (repOf rep0) qs).1).size = .ok r0 ∧
      let a := r0.read ctLL.tableLog
      let b := a.2.read ctOF.tableLog
      let c := b.2.read ctML.tableLog
      let sd := decodeSeqs llT ofT mlT qs.length a.1 b.1 c.1 c.2 rep0
      sd.seqs.toList.map (fun s => (s.ll, s.ml, s.offset)) = qs.map (fun q => (q.litLength, q.mlBase + 3, q.rawOffset)) ∧
      sd.r.atEnd = true ∧ sd.r.over = false ∧ sd.rep = repArr (storeAll (repOf rep0) qs).2 := by
  obtain ⟨sl, sr⟩ := storeAll_spec (repOf rep0) qs
  have hne2 : (storeAll (repOf rep0) qs).1 ≠ [] := by
    intro e; rw [e] at sl; exact hne (List.length_eq_zero_iff.1 sl.symm)
  obtain ⟨r0, hinit, hmain⟩ := seq_section_roundtrip hLL hOF hML _ hne2 hok
    (sr (fun q hq2 => ⟨(hq q hq2).1, (hq q hq2).2.1, (hq q hq2).2.2.2⟩)) rep0
  obtain ⟨t1, t2⟩ := resolveAll_storeAll (repOf rep0) qs h0 h1 h2 (fun q hq2 => (hq q hq2).2.2.1)
  refine ⟨r0, hinit, ?_⟩
  simp only [sl] at hmain
  obtain ⟨-, m2, m3, m4, m5⟩ := hmain
  simp only []
  rw [m4, m5, t1, t2]
  exact ⟨rfl, m2, m3, rfl⟩

end

/-- The main theorem for a block whose three tables are the predefined ones (`set_basic`; logs 6, 5, 6): no hypothesis on tables is left.
`offBase < 2^29`: the predefined offset table has the codes up to DefaultMaxOff = 28. -/
theorem seq_section_roundtrip_predefined (seqs : List SeqIn) (hne : seqs ≠ [])
    (hrng : ∀ s ∈ seqs, s.litLength < 2 ^ 17 ∧ s.mlBase < 2 ^ 17 ∧ 1 ≤ s.offBase ∧ s.offBase < 2 ^ 29) (rep0 : Array Nat) :
    ∃ r0, BitR.init (encodeSeqBytes (buildCTable LL_defaultNorm.toArray LL_DEFAULTNORMLOG) (buildCTable OF_defaultNorm.toArray OF_DEFAULTNORMLOG)
          (buildCTable ML_defaultNorm.toArray ML_DEFAULTNORMLOG) seqs) 0
        (encodeSeqBytes (buildCTable LL_defaultNorm.toArray LL_DEFAULTNORMLOG) (buildCTable OF_defaultNorm.toArray OF_DEFAULTNORMLOG)
          (buildCTable ML_defaultNorm.toArray ML_DEFAULTNORMLOG) seqs).size = .ok r0 ∧
      let a := r0.read LL_DEFAULTNORMLOG
      let b := a.2.read OF_DEFAULTNORMLOG
      let c := b.2.read ML_DEFAULTNORMLOG
      let sd := decodeSeqs LL_defaultDTable.toArray OF_defaultDTable.toArray ML_defaultDTable.toArray seqs.length a.1 b.1 c.1 c.2 rep0
      sd.seqs.toList.map (fun q => (q.ll, q.ml, q.ofValue)) = seqs.map (fun s => (s.litLength, s.mlBase + 3, s.offBase)) ∧
      sd.r.atEnd = true ∧ sd.r.over = false ∧
      sd.seqs.toList = (resolveAll (repOf rep0) (seqs.map triIn)).1 ∧
      sd.rep = repArr (resolveAll (repOf rep0) (seqs.map triIn)).2 := by
  obtain ⟨d1, d2, d3⟩ := inverts_default
  refine seq_section_roundtrip d1 d2 d3 seqs hne (fun s hs => ?_) (fun s hs => ?_) rep0
  · obtain ⟨a, b, c, d⟩ := hrng s hs
    refine ⟨llCode_le _ a, ?_, mlCode_le _ b⟩
    show Nat.log2 s.offBase ≤ 28
    exact (log2_range (n := s.offBase) (lo := 0) (hi := 28) (by omega) d).2
  · obtain ⟨a, b, c, d⟩ := hrng s hs
    exact ⟨a, b, c, by omega⟩

/-! ### non-vacuity: concrete streams (the bytes are those of the real ZSTD_encodeSequences, see harness/zvh_seqenc.c / tools/ent_seq.py) -/

/-- three sequences on the three predefined tables: literal lengths 5, 0, 70000 (code 35, the `longLength` case), repeat code and real offsets -/
def demoSeqs : List SeqIn := [⟨5, 2, 1⟩, ⟨0, 40, 1027⟩, ⟨70000, 300, 3⟩]

def demoBytes : Bytes :=
  encodeSeqBytes (buildCTable LL_defaultNorm.toArray 6) (buildCTable OF_defaultNorm.toArray 5) (buildCTable ML_defaultNorm.toArray 6) demoSeqs

example : demoSeqs ≠ [] ∧ (∀ s ∈ demoSeqs, (codesOf s).ll ≤ MaxLL ∧ (codesOf s).of ≤ DefaultMaxOff ∧ (codesOf s).ml ≤ MaxML) ∧
    ∀ s ∈ demoSeqs, InRange s := by decide

/-- Evaluated in one go, so that the kernel builds the predefined compression tables once for all examples below: the bytes of `demoSeqs`,
and the field widths of a stream with an RLE offset table between two predefined tables -/
theorem demo_eval :
    demoBytes = ⟨#[0x70, 0x11, 0x2c, 0xaf, 0xca, 0x0c, 0x90, 0xcd, 0x12, 0xc0, 0x1b]⟩ ∧
    (encodeSeqStack (buildCTable LL_defaultNorm.toArray 6) (rleCTable 7) (buildCTable ML_defaultNorm.toArray 6)
      [⟨1, 1, 130⟩, ⟨2, 0, 200⟩]).map (·.2) = [6, 0, 6, 7, 0, 0, 4, 4, 0, 7, 0, 0] := by
  decide +kernel

example : demoBytes.data = #[0x70, 0x11, 0x2c, 0xaf, 0xca, 0x0c, 0x90, 0xcd, 0x12, 0xc0, 0x1b] := by rw [demo_eval.1]

example : demoSeqs.map codesOf = [⟨5, 0, 2⟩, ⟨0, 10, 36⟩, ⟨35, 1, 44⟩] := by decide +kernel

example : (match BitR.init demoBytes 0 demoBytes.size with
    | .error _ => none
    | .ok r0 =>
      let a := r0.read 6
      let b := a.2.read 5
      let c := b.2.read 6
      let sd := decodeSeqs LL_defaultDTable.toArray OF_defaultDTable.toArray ML_defaultDTable.toArray 3 a.1 b.1 c.1 c.2 #[1, 4, 8]
      some (sd.seqs.toList.map (fun q => (q.ll, q.ml, q.ofValue, q.offset)), sd.r.atEnd, sd.rep)) =
    some ([(5, 5, 1, 1), (0, 43, 1027, 1024), (70000, 303, 3, 4)], true, #[4, 1024, 1]) := by
  rw [demo_eval.1]
  decide +kernel

/-- an RLE table between two predefined ones: every offset code is 7 -/
example : (encodeSeqStack (buildCTable LL_defaultNorm.toArray 6) (rleCTable 7) (buildCTable ML_defaultNorm.toArray 6)
    [⟨1, 1, 130⟩, ⟨2, 0, 200⟩]).map (·.2) = [6, 0, 6, 7, 0, 0, 4, 4, 0, 7, 0, 0] := demo_eval.2

end ZstdVerif.SeqRT
