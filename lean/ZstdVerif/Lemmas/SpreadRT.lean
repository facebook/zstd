/-
FSE symbol spreading: what a table of symbols has to satisfy for the round trip (`NormOK`, `SpreadOK`), and the proof that both spreading
procedures of the library meet it for every normalised distribution: `spread_ok` (FSE_buildDTable_internal / ZSTD_buildFSETable_body;
model `FSE.spread`) and `spreadEnc_eq_spread` (FSE_buildCTable_wksp, fast path included; model `FSE.spreadEnc`).
A table is the list of writes `(position, symbol)` made into it (`setAll`).  The walk visits `t * step mod 2^L`; `step` is odd for `4 ≤ L`,
so its first `2^L` positions are a rearrangement of all positions, exactly `high + 1` of them are free, and neither the placements nor
the budget of the skip loop run out.  The encoder's fast path deals cell `k` of `spread[]` to walk position `k`.
Later files also take from here, all in namespace `FSE`: `getBang_*`, `startOf`, the `forIn`-as-fold rules, `step_odd`, `odd_step_inj`.
-/
import ZstdVerif.Model.FSEEnc
namespace ZstdVerif.FSE

theorem getBang_set_eq {α} [Inhabited α] (a : Array α) (i : Nat) (v : α) (h : i < a.size) : (a.set! i v)[i]! = v := by
  grind

theorem getBang_set_ne {α} [Inhabited α] (a : Array α) (i j : Nat) (v : α) (h : i ≠ j) : (a.set! i v)[j]! = a[j]! := by
  grind

theorem getBang_push_lt {α} [Inhabited α] (a : Array α) (x : α) (i : Nat) (h : i < a.size) : (a.push x)[i]! = a[i]! := by
  grind

theorem getBang_push_eq {α} [Inhabited α] (a : Array α) (x : α) : (a.push x)[a.size]! = x := by
  grind

/-- `startOf norm s`: number of table cells owned by the symbols below `s` (`cumul[s]` of FSE_buildCTable_wksp) -/
def startOf (norm : Array Int) (s : Nat) : Nat := ((List.range s).map (cnt norm)).sum

theorem startOf_succ (norm : Array Int) (s : Nat) : startOf norm (s + 1) = startOf norm s + cnt norm s := by
  simp [startOf, List.range_succ]

theorem startOf_mono {norm : Array Int} {t s : Nat} (h : t < s) : startOf norm t + cnt norm t ≤ startOf norm s := by
  induction s with
  | zero => omega
  | succ s ih =>
    rw [startOf_succ]
    by_cases e : t = s
    · subst e; omega
    · have := ih (by omega); omega

/-- a normalised distribution for a table of `2^log` cells: counts `≥ -1` (-1 = "less than one", owns one cell) whose cells add up
to the table size.  `1 ≤ log` is needed (for `log = 0` the U32 `deltaNbBits = (0 << 16) - 1` wraps around). -/
def NormOK (norm : Array Int) (log : Nat) : Prop :=
  1 ≤ log ∧ (∀ s, s < norm.size → -1 ≤ norm[s]!) ∧ startOf norm norm.size = 2 ^ log

instance (norm : Array Int) (log : Nat) : Decidable (NormOK norm log) := by unfold NormOK; infer_instance

/-- `syms` (the symbol of every table position) respects the distribution: `2^log` positions, every position holds a symbol of the
alphabet, every symbol `s` occurs exactly `norm[s]` times (once when `norm[s] = -1`, never when `norm[s] = 0`) -/
def SpreadOK (syms : Array Nat) (norm : Array Int) (log : Nat) : Prop :=
  syms.size = 2 ^ log ∧ (∀ u, u < syms.size → syms[u]! < norm.size) ∧ (∀ s, s < norm.size → syms.toList.count s = cnt norm s)

instance (syms : Array Nat) (norm : Array Int) (log : Nat) : Decidable (SpreadOK syms norm log) := by unfold SpreadOK; infer_instance

theorem foldl_bump (l : List Nat) (a : Array Nat) :
    (l.foldl (fun (h : Array Nat) s => h.set! s (h[s]! + 1)) a).size = a.size ∧
      ∀ s, s < a.size → (l.foldl (fun (h : Array Nat) s => h.set! s (h[s]! + 1)) a)[s]! = a[s]! + l.count s := by
  induction l generalizing a with
  | nil => exact ⟨rfl, fun _ _ => rfl⟩
  | cons x t ih =>
    obtain ⟨h1, h2⟩ := ih (a.set! x (a[x]! + 1))
    rw [Array.size_set!] at h1 h2
    refine ⟨h1, fun s hs => ?_⟩
    rw [List.foldl_cons, h2 s hs, List.count_cons]
    by_cases e : x = s
    · subst e; rw [getBang_set_eq _ _ _ hs, beq_self_eq_true, if_pos rfl]; omega
    · rw [getBang_set_ne _ _ _ _ e, if_neg (by simpa using e)]; rfl

theorem nextInit_size (norm : Array Int) : (nextInit norm).size = norm.size := by simp [nextInit]

theorem nextInit_get {norm : Array Int} {s : Nat} (hs : s < norm.size) : (nextInit norm)[s]! = cnt norm s := by
  simp [nextInit, cnt, hs]

theorem histOf_spec (n : Nat) (syms : Array Nat) :
    (histOf n syms).size = n ∧ ∀ s, s < n → (histOf n syms)[s]! = syms.toList.count s := by
  unfold histOf
  rw [← Array.foldl_toList]
  obtain ⟨h1, h2⟩ := foldl_bump syms.toList (Array.replicate n 0)
  refine ⟨by simpa using h1, fun s hs => ?_⟩
  rw [h2 s (by simpa using hs)]; simp [hs]

/-- the run-time check `spreadOK` (Model/FSEEnc.lean) decides `SpreadOK` -/
theorem spreadOK_iff (syms : Array Nat) (norm : Array Int) (log : Nat) : spreadOK syms norm log = true ↔ SpreadOK syms norm log := by
  obtain ⟨h1, h2⟩ := histOf_spec norm.size syms
  unfold spreadOK SpreadOK
  simp only [Bool.and_eq_true, beq_iff_eq, Array.all_eq_true]
  constructor
  · rintro ⟨⟨a, b⟩, c⟩
    refine ⟨a, fun u hu => ?_, fun s hs => ?_⟩
    · have := b u hu; simpa [hu] using this
    · rw [← h2 s hs, c, nextInit_get hs]
  · rintro ⟨a, b, c⟩
    refine ⟨⟨a, fun u hu => ?_⟩, ?_⟩
    · have := b u hu; simpa [hu] using this
    · apply Array.ext
      · rw [h1, nextInit_size]
      · intro i hi1 hi2
        have hi : i < norm.size := by omega
        have e1 := h2 i hi
        have e2 := nextInit_get hi
        simp only [getElem!_pos, hi1, hi2] at e1 e2
        rw [e1, e2, c i hi]


theorem forIn_legacy_yield {β : Type} (r : Std.Legacy.Range) (init : β) (f : Nat → β → Id (ForInStep β)) (g : β → Nat → β)
    (h : ∀ i b, f i b = ForInStep.yield (g b i)) :
    forIn (m := Id) r init f = (List.range' r.start r.size r.step).foldl g init := by
  rw [Std.Legacy.Range.forIn_eq_forIn_range']
  have e : f = fun i b => pure (ForInStep.yield (g b i)) := by funext i b; exact h i b
  rw [e]
  exact List.forIn_pure_yield_eq_foldl (fun i b => g b i) init

theorem forIn_upto_yield {β : Type} (n : Nat) (init : β) (f : Nat → β → Id (ForInStep β)) (g : β → Nat → β)
    (h : ∀ i b, f i b = ForInStep.yield (g b i)) :
    forIn (m := Id) [0:n] init f = (List.range n).foldl g init := by
  rw [forIn_legacy_yield _ _ _ g h]
  simp [Std.Legacy.Range.size, List.range_eq_range']

/-- the `while (position > highThreshold) position = (position + step) & tableMask;` loop of the spreading, with a budget of `fuel` turns -/
def skipFn (step mask high : Nat) : Nat → Nat → Nat
  | 0, p => p
  | fuel + 1, p => if p ≤ high then p else skipFn step mask high fuel ((p + step) &&& mask)

theorem forIn_list_skip (step mask high : Nat) (l : List Nat) (p : Nat) :
    forIn (m := Id) l p (fun _ q => if q ≤ high then ForInStep.done q else ForInStep.yield ((q + step) &&& mask)) =
      skipFn step mask high l.length p := by
  induction l generalizing p with
  | nil => rfl
  | cons a t ih =>
    rw [List.forIn_cons]
    by_cases h : p ≤ high
    · simp only [h, if_true, List.length_cons, skipFn]; rfl
    · simp only [h, if_false, List.length_cons, skipFn]
      exact ih _

theorem forIn_upto_skip (step mask high n p : Nat) :
    forIn (m := Id) [0:n] p (fun _ q => if q ≤ high then ForInStep.done q else ForInStep.yield ((q + step) &&& mask)) =
      skipFn step mask high n p := by
  rw [Std.Legacy.Range.forIn_eq_forIn_range', forIn_list_skip]
  simp [Std.Legacy.Range.size]

/-- first loop of both spreading procedures: one turn, `if (normalizedCounter[s] == -1) tableSymbol[highThreshold--] = s`.
State: (table, highThreshold) -/
def lowStep (norm : Array Int) (st : Array Nat × Nat) (s : Nat) : Array Nat × Nat :=
  if norm[s]! == -1 then (st.1.set! st.2 s, st.2 - 1) else st

def lowPass (norm : Array Int) (L : Nat) : Array Nat × Nat :=
  (List.range norm.size).foldl (lowStep norm) (Array.replicate (1 <<< L) 0, 1 <<< L - 1)

/-- one placement of the walk: `tableSymbol[position] = s; position = (position + step) & tableMask;
while (position > highThreshold) position = (position + step) & tableMask;`.  State: (table, position) -/
def place (L high : Nat) (st : Array Nat × Nat) (s : Nat) : Array Nat × Nat :=
  (st.1.set! st.2 s,
    skipFn (tableStep (1 <<< L)) (1 <<< L - 1) high (1 <<< L) ((st.2 + tableStep (1 <<< L)) &&& (1 <<< L - 1)))

/-- the symbols of the walk placements among the first `m` symbols, in order: symbol `s` repeated `norm[s]` times (not at all for
`norm[s] ≤ 0`) -/
def valsUpto (norm : Array Int) (m : Nat) : List Nat := (List.range m).flatMap fun s => List.replicate norm[s]!.toNat s

-- the loop bodies in this statement and in `symLoop_eq` are the elaborated text of Model/FSE.lean and Model/FSEEnc.lean, token for token
theorem lowPass_eq (norm : Array Int) (L : Nat) :
    forIn (m := Id) [0:norm.size] (Array.replicate (1 <<< L) 0, 1 <<< L - 1) (fun s __s =>
      if (norm[s]! == -1) = true then ForInStep.yield (__s.fst.set! __s.snd s, __s.snd - 1)
      else ForInStep.yield (__s.fst, __s.snd)) = lowPass norm L :=
  forIn_upto_yield _ _ _ (lowStep norm) fun i b => by unfold lowStep; split <;> rfl

theorem foldl_replicate_const {β : Type} (g : β → Nat → β) (s n : Nat) (b : β) :
    (List.range n).foldl (fun b _ => g b s) b = (List.replicate n s).foldl g b := by
  induction n generalizing b with
  | zero => rfl
  | succ n ih => rw [List.range_succ, List.foldl_append, List.replicate_succ', List.foldl_append, ih]; rfl

theorem symLoop_eq (L high s n : Nat) (st : Array Nat × Nat) :
    forIn (m := Id) [0:n] (st.fst, st.snd) (fun _ __s =>
      ForInStep.yield (__s.fst.set! __s.snd s,
        forIn (m := Id) [0:1 <<< L] (__s.snd + tableStep (1 <<< L) &&& 1 <<< L - 1) fun _ __s =>
          if __s ≤ high then ForInStep.done __s else ForInStep.yield (__s + tableStep (1 <<< L) &&& 1 <<< L - 1))) =
      (List.replicate n s).foldl (place L high) st := by
  rw [forIn_upto_yield _ _ _ (fun st _ => place L high st s) fun i b => by rw [place, forIn_upto_skip]]
  exact foldl_replicate_const (place L high) s n st

theorem spread_eq_fold (norm : Array Int) (L : Nat) :
    spread norm L = ((valsUpto norm norm.size).foldl (place L (lowPass norm L).2) ((lowPass norm L).1, 0)).1 := by
  unfold spread
  simp only [Id.run, bind, pure]
  rw [lowPass_eq, forIn_upto_yield _ _ _ (fun st s => (List.replicate norm[s]!.toNat s).foldl (place L (lowPass norm L).2) st),
    valsUpto, List.foldl_flatMap]
  intro s b
  split
  · rw [symLoop_eq]
  · rw [show norm[s]!.toNat = 0 by omega]; rfl

/-- FSE_buildCTable_wksp, the fast path (no low-probability symbol), first stage: one symbol laid down in `spread[]` by 8-byte writes
(`MEM_write64(spread + pos, sv)`, then `MEM_write64(spread + pos + i, sv)` for `i = 8, 16, .. < n`); state (spread[], pos) -/
def layStep (norm : Array Int) (st : Array Nat × Nat) (s : Nat) : Array Nat × Nat :=
  ((List.range' 8 ((norm[s]!.toNat - 8 + 8 - 1) / 8) 8).foldl
      (fun a i => (List.range 8).foldl (fun a j => a.set! (st.2 + i + j) s) a)
      ((List.range 8).foldl (fun a j => a.set! (st.2 + j) s) st.1),
    st.2 + norm[s]!.toNat)

def layOf (norm : Array Int) (L : Nat) : Array Nat :=
  ((List.range norm.size).foldl (layStep norm) (Array.replicate (1 <<< L + 8) 0, 0)).1

/-- FSE_buildCTable_wksp, the fast path, second stage: one turn of the dealing loop (two symbols); state (tableSymbol, position) -/
def dealStep (L : Nat) (lay : Array Nat) (st : Array Nat × Nat) (s : Nat) : Array Nat × Nat :=
  ((List.range 2).foldl (fun a u => a.set! ((st.2 + u * tableStep (1 <<< L)) &&& (1 <<< L - 1)) lay[s + u]!) st.1,
    (st.2 + 2 * tableStep (1 <<< L)) &&& (1 <<< L - 1))

theorem spreadEnc_eq_fold (norm : Array Int) (L : Nat) :
    spreadEnc norm L =
      if (lowPass norm L).2 = 1 <<< L - 1 then
        ((List.range' 0 ((1 <<< L + 2 - 1) / 2) 2).foldl (dealStep L (layOf norm L)) ((lowPass norm L).1, 0)).1
      else ((valsUpto norm norm.size).foldl (place L (lowPass norm L).2) ((lowPass norm L).1, 0)).1 := by
  unfold spreadEnc
  simp only [Id.run, bind, pure]
  rw [lowPass_eq]
  by_cases hh : (lowPass norm L).2 = 1 <<< L - 1
  · rw [if_pos (by simpa using hh), if_pos hh,
      forIn_upto_yield norm.size (Array.replicate (1 <<< L + 8) 0, 0) _ (layStep norm),
      forIn_legacy_yield _ _ _ (dealStep L (layOf norm L))]
    · rfl
    · intro s b
      rw [dealStep, forIn_upto_yield _ _ _ (fun (a : Array Nat) u => a.set! ((b.2 + u * tableStep (1 <<< L)) &&& (1 <<< L - 1))
        (layOf norm L)[s + u]!)]
      exact fun _ _ => rfl
    · intro s b
      rw [layStep, forIn_upto_yield _ _ _ (fun (a : Array Nat) j => a.set! (b.2 + j) s) (fun _ _ => rfl),
        forIn_legacy_yield _ _ _ (fun a i => (List.range 8).foldl (fun a j => a.set! (b.2 + i + j) s) a)]
      · rfl
      · intro i a
        rw [forIn_upto_yield _ _ _ (fun (a : Array Nat) j => a.set! (b.2 + i + j) s) (fun _ _ => rfl)]
  · rw [if_neg (by simpa using hh), if_neg hh,
      forIn_upto_yield _ _ _ (fun st s => (List.replicate norm[s]!.toNat s).foldl (place L (lowPass norm L).2) st),
      valsUpto, List.foldl_flatMap]
    intro s b
    rw [symLoop_eq]

/-- the writes `(position, symbol)` made one after the other -/
def setAll (a : Array Nat) (ws : List (Nat × Nat)) : Array Nat := ws.foldl (fun a w => a.set! w.1 w.2) a

theorem setAll_cons (a : Array Nat) (w : Nat × Nat) (ws : List (Nat × Nat)) : setAll a (w :: ws) = setAll (a.set! w.1 w.2) ws := rfl

theorem setAll_append (a : Array Nat) (ws1 ws2 : List (Nat × Nat)) : setAll a (ws1 ++ ws2) = setAll (setAll a ws1) ws2 := by
  simp [setAll, List.foldl_append]

theorem setAll_concat (a : Array Nat) (ws : List (Nat × Nat)) (w : Nat × Nat) :
    setAll a (ws ++ [w]) = (setAll a ws).set! w.1 w.2 := by
  rw [setAll_append]; rfl

theorem setAll_size (a : Array Nat) (ws : List (Nat × Nat)) : (setAll a ws).size = a.size := by
  induction ws generalizing a with
  | nil => rfl
  | cons w t ih => rw [setAll_cons, ih]; simp

theorem setAll_get_of_not_mem (a : Array Nat) (ws : List (Nat × Nat)) (p : Nat) (h : p ∉ ws.map Prod.fst) :
    (setAll a ws)[p]! = a[p]! := by
  induction ws generalizing a with
  | nil => rfl
  | cons w t ih =>
    rw [setAll_cons, ih _ (by intro hm; exact h (by simp only [List.map_cons, List.mem_cons]; exact Or.inr hm))]
    exact getBang_set_ne _ _ _ _ (by intro e; apply h; simp [e])

theorem setAll_get_of_mem (a : Array Nat) (ws : List (Nat × Nat)) (hn : (ws.map Prod.fst).Nodup) (hb : ∀ w ∈ ws, w.1 < a.size) :
    ∀ w ∈ ws, (setAll a ws)[w.1]! = w.2 := by
  induction ws generalizing a with
  | nil => intro w hw; cases hw
  | cons x t ih =>
    intro w hw
    rw [List.map_cons, List.nodup_cons] at hn
    rw [setAll_cons]
    rcases List.mem_cons.1 hw with e | hm
    · subst e
      rw [setAll_get_of_not_mem _ _ _ hn.1]
      exact getBang_set_eq _ _ _ (hb w List.mem_cons_self)
    · exact ih _ hn.2 (fun w hw => by rw [Array.size_set!]; exact hb w (List.mem_cons_of_mem _ hw)) w hm

theorem toList_eq_map_range (a : Array Nat) : a.toList = (List.range a.size).map (a[·]!) := by
  apply List.ext_getElem
  · simp
  · intro i h1 h2
    have : i < a.size := by simpa using h1
    simp [this]

theorem nodup_length_le (N : Nat) (l : List Nat) (hn : l.Nodup) (hb : ∀ x ∈ l, x < N) : l.length ≤ N := by
  induction N generalizing l with
  | zero =>
    cases l with
    | nil => simp
    | cons x t => exact absurd (hb x List.mem_cons_self) (by omega)
  | succ N ih =>
    have h1 := ih (l.erase N) (hn.erase N) (fun x hx => by
      have h2 := (hn.mem_erase_iff).1 hx
      have := hb x h2.2
      omega)
    rw [List.length_erase] at h1
    split at h1 <;> omega

theorem perm_range_of_nodup (N : Nat) (l : List Nat) (hn : l.Nodup) (hb : ∀ x ∈ l, x < N) (hl : l.length = N) :
    l.Perm (List.range N) := by
  rw [List.perm_iff_count]
  intro a
  rw [hn.count, List.nodup_range.count]
  by_cases ha : a < N
  · have : a ∈ l := by
      apply Classical.byContradiction
      intro hna
      have := nodup_length_le N (a :: l) (List.nodup_cons.2 ⟨hna, hn⟩) (fun x hx => by
        rcases List.mem_cons.1 hx with e | hm
        · omega
        · exact hb x hm)
      simp at this
      omega
    simp [this, ha]
  · have : a ∉ l := fun hm => ha (hb a hm)
    simp [this, ha]

theorem setAll_perm (a : Array Nat) (ws : List (Nat × Nat)) (hp : (ws.map Prod.fst).Perm (List.range a.size)) :
    (setAll a ws).toList.Perm (ws.map Prod.snd) := by
  have hn : (ws.map Prod.fst).Nodup := hp.nodup_iff.2 List.nodup_range
  have hb : ∀ w ∈ ws, w.1 < a.size := fun w hw => List.mem_range.1 (hp.subset (List.mem_map_of_mem hw))
  rw [List.perm_iff_count]
  intro s
  rw [toList_eq_map_range, setAll_size, List.count_eq_countP, List.countP_map, ← hp.countP_eq, List.countP_map,
    List.count_eq_countP, List.countP_map]
  apply List.countP_congr
  intro w hw
  simp only [Function.comp, setAll_get_of_mem a ws hn hb w hw]

def lowsUpto (norm : Array Int) (m : Nat) : List Nat := (List.range m).filter fun s => norm[s]! == -1

theorem lowsUpto_succ (norm : Array Int) (m : Nat) :
    lowsUpto norm (m + 1) = if norm[m]! == -1 then lowsUpto norm m ++ [m] else lowsUpto norm m := by
  unfold lowsUpto
  rw [List.range_succ, List.filter_append]
  by_cases h : (norm[m]! == -1) = true
  · simp [h]
  · simp [h]

theorem lowFold_eq (norm : Array Int) (N m : Nat) (a : Array Nat) :
    (List.range m).foldl (lowStep norm) (a, N - 1) =
      (setAll a (List.zip ((List.range (lowsUpto norm m).length).map fun i => N - 1 - i) (lowsUpto norm m)),
        N - 1 - (lowsUpto norm m).length) := by
  induction m with
  | zero => rfl
  | succ m ih =>
    rw [List.range_succ, List.foldl_append, ih, lowsUpto_succ, List.foldl_cons, List.foldl_nil, lowStep]
    by_cases h : (norm[m]! == -1) = true
    · rw [if_pos h, if_pos h, List.length_append, List.length_singleton, List.range_succ, List.map_append,
        List.zip_append (by rw [List.length_map, List.length_range]), List.map_singleton, List.zip_cons_cons, List.zip_nil_left,
        setAll_concat, Nat.sub_add_eq]
    · rw [if_neg h, if_neg h]

theorem valsUpto_succ (norm : Array Int) (m : Nat) :
    valsUpto norm (m + 1) = valsUpto norm m ++ List.replicate norm[m]!.toNat m := by
  simp [valsUpto, List.range_succ, List.flatMap_append]

theorem startOf_split (norm : Array Int) (m : Nat) (hge : ∀ s, s < m → -1 ≤ norm[s]!) :
    startOf norm m = (lowsUpto norm m).length + (valsUpto norm m).length := by
  induction m with
  | zero => rfl
  | succ m ih =>
    rw [startOf_succ, ih (fun s hs => hge s (by omega)), lowsUpto_succ, valsUpto_succ, List.length_append, List.length_replicate, cnt]
    have := hge m (by omega)
    by_cases h : norm[m]! = -1
    · simp [h]; omega
    · have hb : (norm[m]! == -1) = false := by simpa using h
      simp [hb]; omega

theorem lowPass_writes {norm : Array Int} {L : Nat} (hN : NormOK norm L) :
    lowPass norm L = (setAll (Array.replicate (2 ^ L) 0)
        (List.zip ((List.range (lowsUpto norm norm.size).length).map fun i => 2 ^ L - 1 - i) (lowsUpto norm norm.size)),
      2 ^ L - 1 - (lowsUpto norm norm.size).length) ∧
    (lowsUpto norm norm.size).length + (valsUpto norm norm.size).length = 2 ^ L := by
  refine ⟨?_, by rw [← startOf_split norm norm.size hN.2.1]; exact hN.2.2⟩
  unfold lowPass
  rw [Nat.shiftLeft_eq, Nat.one_mul]
  exact lowFold_eq norm (2 ^ L) norm.size _

def walk (L t : Nat) : Nat := (t * tableStep (1 <<< L)) % 2 ^ L

theorem walk_add (L t u : Nat) : (walk L t + u * tableStep (1 <<< L)) &&& (1 <<< L - 1) = walk L (t + u) := by
  unfold walk
  rw [Nat.shiftLeft_eq, Nat.one_mul, Nat.and_two_pow_sub_one_eq_mod, Nat.add_mul, Nat.mod_add_mod]

theorem walk_succ (L t : Nat) : (walk L t + tableStep (1 <<< L)) &&& (1 <<< L - 1) = walk L (t + 1) := by
  have := walk_add L t 1
  rwa [Nat.one_mul] at this

theorem walk_lt (L t : Nat) : walk L t < 2 ^ L := Nat.mod_lt _ (Nat.two_pow_pos L)

theorem skipFn_walk (L high : Nat) : ∀ (j a fuel : Nat), j < fuel → (∀ i, i < j → ¬ walk L (a + i) ≤ high) → walk L (a + j) ≤ high →
    skipFn (tableStep (1 <<< L)) (1 <<< L - 1) high fuel (walk L a) = walk L (a + j) := by
  intro j
  induction j with
  | zero =>
    intro a fuel hf _ h
    obtain ⟨f, rfl⟩ : ∃ f, fuel = f + 1 := ⟨fuel - 1, by omega⟩
    rw [skipFn]; exact if_pos h
  | succ j ih =>
    intro a fuel hf hn h
    obtain ⟨f, rfl⟩ : ∃ f, fuel = f + 1 := ⟨fuel - 1, by omega⟩
    rw [skipFn, if_neg (show ¬ walk L a ≤ high from hn 0 (by omega)), walk_succ, ih (a + 1) f (by omega) (fun i hi => by
      have := hn (i + 1) (by omega)
      rwa [← Nat.add_assoc, Nat.add_right_comm] at this) (by rwa [← Nat.add_assoc, Nat.add_right_comm] at h),
      Nat.add_right_comm, Nat.add_assoc]

/-- the last conjunct is what `placeFold_eq` continues with -/
theorem next_free (p : Nat → Bool) : ∀ (d a : Nat), (List.range' a d).filter p ≠ [] →
    ∃ j, j < d ∧ (∀ i, i < j → p (a + i) = false) ∧ p (a + j) = true ∧
      (List.range' a d).filter p = (List.range' (a + j) (d - j)).filter p := by
  intro d
  induction d with
  | zero => intro a h; exact absurd rfl h
  | succ d ih =>
    intro a h
    by_cases hp : p a = true
    · exact ⟨0, by omega, fun i hi => by omega, hp, rfl⟩
    · rw [List.range'_succ, List.filter_cons, if_neg hp] at h
      obtain ⟨j, h1, h2, h3, h4⟩ := ih (a + 1) h
      refine ⟨j + 1, by omega, fun i hi => ?_, by rwa [← Nat.add_assoc, Nat.add_right_comm], ?_⟩
      · cases i with
        | zero => simpa using hp
        | succ i => rw [← Nat.add_assoc, Nat.add_right_comm]; exact h2 i (by omega)
      · rw [List.range'_succ, List.filter_cons, if_neg hp, h4, ← Nat.add_assoc, Nat.add_right_comm a j 1, Nat.add_sub_add_right]

/-- started on a free position, the placements go to the free positions of the walk, in walk order -/
theorem placeFold_eq (L high : Nat) (vs : List Nat) : ∀ (a : Array Nat) (t d : Nat), t + d = 2 ^ L → walk L t ≤ high →
    vs.length ≤ ((List.range' t d).filter fun i => decide (walk L i ≤ high)).length →
    (vs.foldl (place L high) (a, walk L t)).1 =
      setAll a (List.zip (((List.range' t d).filter fun i => decide (walk L i ≤ high)).map (walk L)) vs) := by
  induction vs with
  | nil => intro a t d _ _ _; rw [List.zip_nil_right]; rfl
  | cons v vs ih =>
    intro a t d ht hfree hlen
    obtain ⟨d, rfl⟩ : ∃ d', d = d' + 1 := by
      cases d with
      | zero => exact absurd hlen (by simp)
      | succ d => exact ⟨d, rfl⟩
    rw [List.range'_succ, List.filter_cons, if_pos (by simpa using hfree)] at hlen ⊢
    rw [List.foldl_cons, List.map_cons, List.zip_cons_cons, setAll_cons, place, walk_succ]
    cases vs with
    | nil => rw [List.zip_nil_right]; rfl
    | cons v2 vs2 =>
      have hne : (List.range' (t + 1) d).filter (fun i => decide (walk L i ≤ high)) ≠ [] := by
        intro e; rw [e] at hlen; simp at hlen
      obtain ⟨j, h1, h2, h3, h4⟩ := next_free _ _ _ hne
      rw [skipFn_walk L high j (t + 1) (1 <<< L) (by rw [Nat.shiftLeft_eq, Nat.one_mul]; omega)
        (fun i hi => by simpa using h2 i hi) (by simpa using h3)]
      rw [h4] at hlen ⊢
      exact ih _ (t + 1 + j) (d - j) (by omega) (by simpa using h3) (by simpa using hlen)

theorem placeFold_zero (L high : Nat) (vs : List Nat) (a : Array Nat)
    (hlen : vs.length ≤ ((List.range (2 ^ L)).filter fun i => decide (walk L i ≤ high)).length) :
    (vs.foldl (place L high) (a, 0)).1 =
      setAll a (List.zip (((List.range (2 ^ L)).filter fun i => decide (walk L i ≤ high)).map (walk L)) vs) := by
  have w0 : walk L 0 = 0 := by simp [walk]
  rw [List.range_eq_range'] at hlen ⊢
  have := placeFold_eq L high vs a 0 (2 ^ L) (Nat.zero_add _) (by rw [w0]; exact Nat.zero_le _) hlen
  rwa [w0] at this

/-- `step = (tableSize>>1) + (tableSize>>3) + 3` is odd for tables of at least 16 cells -/
theorem step_odd {L : Nat} (h : 4 ≤ L) : tableStep (2 ^ L) % 2 = 1 := by
  obtain ⟨d, rfl⟩ : ∃ d, L = d + 4 := ⟨L - 4, by omega⟩
  unfold tableStep
  rw [Nat.pow_add, Nat.shiftRight_eq_div_pow, Nat.shiftRight_eq_div_pow]
  omega

theorem odd_step_inj {L step i j : Nat} (hodd : step % 2 = 1) (h : (i * step) % 2 ^ L = (j * step) % 2 ^ L) :
    (j - i) % 2 ^ L = 0 := by
  have h1 : (j * step - i * step) % 2 ^ L = 0 := Nat.sub_mod_eq_zero_of_mod_eq h.symm
  rw [← Nat.sub_mul] at h1
  have hc : Nat.Coprime (2 ^ L) step := Nat.Coprime.pow_left _ (by rw [Nat.Coprime, Nat.gcd_rec, hodd]; rfl)
  exact Nat.mod_eq_zero_of_dvd (hc.dvd_of_dvd_mul_right (Nat.dvd_of_mod_eq_zero h1))

theorem walk_inj {L : Nat} (hL : 4 ≤ L) {i j : Nat} (hi : i < 2 ^ L) (hj : j < 2 ^ L) (e : walk L i = walk L j) : i = j := by
  unfold walk at e
  rw [Nat.shiftLeft_eq, Nat.one_mul] at e
  have h1 := odd_step_inj (step_odd hL) e
  -- both ways round: the subtraction in `odd_step_inj` is truncated
  have h2 := odd_step_inj (step_odd hL) e.symm
  rw [Nat.mod_eq_of_lt (by omega)] at h1 h2
  omega
theorem walk_nodup {L : Nat} (hL : 4 ≤ L) : ((List.range (2 ^ L)).map (walk L)).Nodup := by
  unfold List.Nodup
  rw [List.pairwise_map]
  refine List.Pairwise.imp_of_mem ?_ (List.nodup_range (n := 2 ^ L))
  intro a b ha hb hab e
  exact hab (walk_inj hL (List.mem_range.1 ha) (List.mem_range.1 hb) e)

/-- single cycle -/
theorem walk_perm {L : Nat} (hL : 4 ≤ L) : ((List.range (2 ^ L)).map (walk L)).Perm (List.range (2 ^ L)) :=
  perm_range_of_nodup _ _ (walk_nodup hL) (fun x hx => by
    obtain ⟨t, _, rfl⟩ := List.mem_map.1 hx
    exact walk_lt L t) (by simp)

theorem countP_le_range {N high : Nat} (h : high < N) : (List.range N).countP (fun x => decide (x ≤ high)) = high + 1 := by
  rw [show N = (high + 1) + (N - high - 1) by omega, List.range_add, List.countP_append]
  have h1 : (List.range (high + 1)).countP (fun x => decide (x ≤ high)) = (List.range (high + 1)).length :=
    List.countP_eq_length.2 (fun a ha => by have := List.mem_range.1 ha; simp; omega)
  have h2 : ((List.range (N - high - 1)).map fun x => high + 1 + x).countP (fun x => decide (x ≤ high)) = 0 :=
    List.countP_eq_zero.2 (fun a ha => by
      obtain ⟨x, _, rfl⟩ := List.mem_map.1 ha
      simp only [decide_eq_true_eq]
      omega)
  rw [h1, h2]; simp

theorem free_count {L high : Nat} (hL : 4 ≤ L) (h : high < 2 ^ L) :
    ((List.range (2 ^ L)).filter fun i => decide (walk L i ≤ high)).length = high + 1 := by
  rw [← List.countP_eq_length_filter]
  calc (List.range (2 ^ L)).countP (fun i => decide (walk L i ≤ high))
      = ((List.range (2 ^ L)).map (walk L)).countP (fun x => decide (x ≤ high)) := by rw [List.countP_map]; rfl
    _ = (List.range (2 ^ L)).countP (fun x => decide (x ≤ high)) := (walk_perm hL).countP_eq _
    _ = high + 1 := countP_le_range h

theorem count_lowsUpto (norm : Array Int) (m s : Nat) :
    (lowsUpto norm m).count s = if s < m ∧ norm[s]! = -1 then 1 else 0 := by
  have hn : (lowsUpto norm m).Nodup := List.filter_sublist.nodup List.nodup_range
  rw [hn.count]
  simp [lowsUpto, List.mem_filter]

theorem count_valsUpto (norm : Array Int) (m s : Nat) :
    (valsUpto norm m).count s = if s < m then norm[s]!.toNat else 0 := by
  induction m with
  | zero => simp [valsUpto]
  | succ m ih =>
    rw [valsUpto_succ, List.count_append, ih, List.count_replicate]
    by_cases e : m = s
    · subst e; simp
    · have : (m == s) = false := by simpa using e
      simp only [this, Bool.false_eq_true, if_false]
      by_cases h : s < m
      · simp [h]; omega
      · have : ¬ s < m + 1 := by omega
        simp [h, this]

theorem count_written (norm : Array Int) (s : Nat) (hs : s < norm.size) :
    (lowsUpto norm norm.size ++ valsUpto norm norm.size).count s = cnt norm s := by
  rw [List.count_append, count_lowsUpto, count_valsUpto]
  unfold cnt
  generalize norm[s]! = c
  by_cases h : c = -1
  · simp [h, hs]
  · have hb : (c == -1) = false := by simpa using h
    simp [h, hb, hs]

theorem mem_written_lt (norm : Array Int) (v : Nat) (h : v ∈ lowsUpto norm norm.size ++ valsUpto norm norm.size) :
    v < norm.size := by
  rcases List.mem_append.1 h with h | h
  · exact List.mem_range.1 (List.mem_filter.1 h).1
  · obtain ⟨a, ha, hv⟩ := List.mem_flatMap.1 h
    rw [(List.mem_replicate.1 hv).2]
    exact List.mem_range.1 ha

theorem lowPos_facts (N k : Nat) (hk : k ≤ N) :
    ((List.range k).map fun i => N - 1 - i).Nodup ∧ ∀ x ∈ (List.range k).map (fun i => N - 1 - i), x < N ∧ N ≤ x + k := by
  constructor
  · unfold List.Nodup
    rw [List.pairwise_map]
    refine List.Pairwise.imp_of_mem ?_ (List.nodup_range (n := k))
    intro a b ha hb hab e
    have := List.mem_range.1 ha
    have := List.mem_range.1 hb
    omega
  · intro x hx
    obtain ⟨i, hi, rfl⟩ := List.mem_map.1 hx
    have := List.mem_range.1 hi
    omega

theorem spread_writes {norm : Array Int} {L : Nat} (hN : NormOK norm L) (hL : 4 ≤ L) :
    ∃ ws : List (Nat × Nat), spread norm L = setAll (Array.replicate (2 ^ L) 0) ws ∧
      (ws.map Prod.fst).Perm (List.range (2 ^ L)) ∧ ws.map Prod.snd = lowsUpto norm norm.size ++ valsUpto norm norm.size := by
  obtain ⟨hlow, hsum⟩ := lowPass_writes hN
  rw [spread_eq_fold, hlow]
  generalize lowsUpto norm norm.size = lows at *
  generalize valsUpto norm norm.size = vals at *
  have hpos := Nat.two_pow_pos L
  obtain ⟨lp1, lp2⟩ := lowPos_facts (2 ^ L) lows.length (by omega)
  by_cases hc : lows.length < 2 ^ L
  · have hfc := free_count (L := L) (high := 2 ^ L - 1 - lows.length) hL (by omega)
    have hlen : vals.length = ((List.range (2 ^ L)).filter fun i => decide (walk L i ≤ 2 ^ L - 1 - lows.length)).length := by omega
    rw [placeFold_zero L _ vals _ (Nat.le_of_eq hlen), ← setAll_append]
    refine ⟨_, rfl, ?_, ?_⟩
    · rw [List.map_append, List.map_fst_zip (by simp), List.map_fst_zip (by rw [List.length_map, hlen]; exact Nat.le_refl _)]
      apply perm_range_of_nodup
      · rw [List.nodup_append]
        refine ⟨lp1, (List.filter_sublist.map _).nodup (walk_nodup hL), ?_⟩
        intro a ha b hb e
        obtain ⟨t, ht, rfl⟩ := List.mem_map.1 hb
        have h1 := (lp2 a ha).2
        have h2 : walk L t ≤ 2 ^ L - 1 - lows.length := by simpa using (List.mem_filter.1 ht).2
        omega
      · intro x hx
        rcases List.mem_append.1 hx with h | h
        · exact (lp2 x h).1
        · obtain ⟨t, _, rfl⟩ := List.mem_map.1 h
          exact walk_lt L t
      · rw [List.length_append, List.length_map, List.length_map, List.length_range, ← hlen]; exact hsum
    · rw [List.map_append, List.map_snd_zip (by simp), List.map_snd_zip (by rw [List.length_map, hlen]; exact Nat.le_refl _)]
  · have hv : vals = [] := List.eq_nil_of_length_eq_zero (by omega)
    subst hv
    refine ⟨_, rfl, ?_, ?_⟩
    · rw [List.map_fst_zip (by simp)]
      exact perm_range_of_nodup _ _ lp1 (fun x hx => (lp2 x hx).1) (by simp; omega)
    · rw [List.map_snd_zip (by simp), List.append_nil]

/-- fse_spread_complete, decoder side (FSE_buildDTable_internal, fse_decompress.c / ZSTD_buildFSETable_body,
zstd_decompress_block.c) -/
theorem spread_ok {norm : Array Int} {L : Nat} (hN : NormOK norm L) (hL : 4 ≤ L) : SpreadOK (spread norm L) norm L := by
  obtain ⟨ws, h1, h2, h3⟩ := spread_writes hN hL
  have hsz : (spread norm L).size = 2 ^ L := by rw [h1, setAll_size, Array.size_replicate]
  have hp := setAll_perm (Array.replicate (2 ^ L) 0) ws (by rwa [Array.size_replicate])
  rw [← h1, h3] at hp
  refine ⟨hsz, fun u hu => mem_written_lt norm _ (hp.subset ?_), fun s hs => by rw [hp.count_eq, count_written norm s hs]⟩
  rw [getElem!_pos _ u hu, ← Array.getElem_toList]
  exact List.getElem_mem _

theorem foldl_set_const (s : Nat) (ps : List Nat) (a : Array Nat) :
    (ps.foldl (fun a p => a.set! p s) a).size = a.size ∧
      ∀ j, (j ∈ ps → j < a.size → (ps.foldl (fun a p => a.set! p s) a)[j]! = s) ∧
        (j ∉ ps → (ps.foldl (fun a p => a.set! p s) a)[j]! = a[j]!) := by
  have e : ps.foldl (fun a p => a.set! p s) a = setAll a (ps.map fun p => (p, s)) := by
    unfold setAll; rw [List.foldl_map]
  rw [e]
  refine ⟨setAll_size _ _, fun j => ⟨fun hm hj => ?_, fun hm => ?_⟩⟩
  · clear e
    induction ps generalizing a with
    | nil => cases hm
    | cons p t ih =>
      rw [List.map_cons, setAll_cons]
      by_cases ht : j ∈ t
      · exact ih _ ht (by simpa using hj)
      · have hp : j = p := by
          rcases List.mem_cons.1 hm with h | h
          · exact h
          · exact absurd h ht
        subst hp
        rw [setAll_get_of_not_mem _ _ _ (by simpa using ht)]
        exact getBang_set_eq _ _ _ hj
  · exact setAll_get_of_not_mem _ _ _ (by simpa using hm)

/-- the positions written for one symbol by the 8-byte writes of the first stage -/
def layPos (pos n : Nat) : List Nat :=
  (List.range 8).map (pos + ·) ++ (List.range' 8 ((n - 8 + 8 - 1) / 8) 8).flatMap fun i => (List.range 8).map (pos + i + ·)

theorem layStep_eq (norm : Array Int) (st : Array Nat × Nat) (s : Nat) :
    layStep norm st s = ((layPos st.2 norm[s]!.toNat).foldl (fun a p => a.set! p s) st.1, st.2 + norm[s]!.toNat) := by
  unfold layStep layPos
  rw [List.foldl_append, List.foldl_flatMap, List.foldl_map]
  simp only [List.foldl_map]

theorem mem_layPos (pos n j : Nat) : (pos ≤ j → j < pos + n → j ∈ layPos pos n) ∧ (j < pos → j ∉ layPos pos n) := by
  unfold layPos
  simp only [List.mem_append, List.mem_map, List.mem_range, List.mem_flatMap, List.mem_range']
  constructor
  · intro h1 h2
    obtain ⟨d, rfl⟩ : ∃ d, j = pos + d := ⟨j - pos, by omega⟩
    by_cases h8 : d < 8
    · exact Or.inl ⟨d, h8, rfl⟩
    · -- the write that starts at the multiple of 8 below `d`
      have hd := Nat.div_add_mod d 8
      have hr := Nat.mod_lt d (show 0 < 8 by decide)
      generalize d / 8 = q at hd
      generalize d % 8 = r at hd hr
      exact Or.inr ⟨8 * q, ⟨q - 1, by omega, by omega⟩, r, hr, by omega⟩
  · intro h
    rintro (⟨x, _, hx⟩ | ⟨i, _, x, _, hx⟩) <;> omega

/-- after the first `m` symbols the cells below `pos` hold the placement symbols, in order -/
theorem layFold_inv (norm : Array Int) (N m : Nat) (hlen : (valsUpto norm m).length ≤ N) :
    ((List.range m).foldl (layStep norm) (Array.replicate (N + 8) 0, 0)).2 = (valsUpto norm m).length ∧
      ((List.range m).foldl (layStep norm) (Array.replicate (N + 8) 0, 0)).1.size = N + 8 ∧
      (List.range (valsUpto norm m).length).map (((List.range m).foldl (layStep norm) (Array.replicate (N + 8) 0, 0)).1[·]!) =
        valsUpto norm m := by
  induction m with
  | zero => simp [valsUpto]
  | succ m ih =>
    rw [valsUpto_succ, List.length_append, List.length_replicate] at hlen
    obtain ⟨i1, i2, i3⟩ := ih (by omega)
    rw [List.range_succ, List.foldl_append, List.foldl_cons, List.foldl_nil]
    generalize (List.range m).foldl (layStep norm) (Array.replicate (N + 8) 0, 0) = st at i1 i2 i3 ⊢
    rw [layStep_eq, valsUpto_succ, List.length_append, List.length_replicate]
    obtain ⟨f1, f2⟩ := foldl_set_const m (layPos st.2 norm[m]!.toNat) st.1
    generalize (layPos st.2 norm[m]!.toNat).foldl (fun a p => a.set! p m) st.1 = A at f1 f2 ⊢
    rw [i1] at f2 ⊢
    -- the cells below `pos` are not touched, the next `norm[m]` cells receive `m`
    have hold : (List.range (valsUpto norm m).length).map (A[·]!) = valsUpto norm m :=
      Eq.trans (List.map_congr_left fun j hj => (f2 j).2 ((mem_layPos _ _ j).2 (List.mem_range.1 hj))) i3
    have hnew : ((List.range norm[m]!.toNat).map ((valsUpto norm m).length + ·)).map (A[·]!) = List.replicate norm[m]!.toNat m := by
      refine List.eq_replicate_iff.2 ⟨by rw [List.length_map, List.length_map, List.length_range], fun b hb => ?_⟩
      obtain ⟨_, hy, rfl⟩ := List.mem_map.1 hb
      obtain ⟨x, hx, rfl⟩ := List.mem_map.1 hy
      have hx2 := List.mem_range.1 hx
      exact (f2 _).1 ((mem_layPos _ _ _).1 (Nat.le_add_right _ _) (Nat.add_lt_add_left hx2 _)) (by omega)
    exact ⟨rfl, by rw [f1, i2], by rw [List.range_add, List.map_append, hold, hnew]⟩

theorem dealStep_walk (L : Nat) (lay a : Array Nat) (t : Nat) :
    dealStep L lay (setAll a ((List.range t).map fun i => (walk L i, lay[i]!)), walk L t) t =
      (setAll a ((List.range (t + 2)).map fun i => (walk L i, lay[i]!)), walk L (t + 2)) := by
  unfold dealStep
  rw [show List.range 2 = [0, 1] from rfl, List.foldl_cons, List.foldl_cons, List.foldl_nil, walk_add, walk_add, walk_add,
    List.range_succ, List.range_succ, List.map_append, List.map_append, List.map_singleton, List.map_singleton,
    setAll_concat, setAll_concat]
  rfl

theorem dealFold_eq (L : Nat) (lay a : Array Nat) (m : Nat) :
    (List.range' 0 m 2).foldl (dealStep L lay) (a, 0) =
      (setAll a ((List.range (2 * m)).map fun i => (walk L i, lay[i]!)), walk L (2 * m)) := by
  induction m with
  | zero => simp [setAll, walk]
  | succ m ih => rw [List.range'_concat, List.foldl_append, ih, List.foldl_cons, List.foldl_nil, Nat.zero_add, dealStep_walk]; rfl

/-- fse_spread_agree (FSE_buildCTable_wksp, fse_compress.c vs FSE_buildDTable_internal, fse_decompress.c /
ZSTD_buildFSETable_body, zstd_decompress_block.c), fast path and walk alike -/
theorem spreadEnc_eq_spread {norm : Array Int} {L : Nat} (hN : NormOK norm L) : spreadEnc norm L = spread norm L := by
  rw [spreadEnc_eq_fold, spread_eq_fold]
  split
  · rename_i hh
    obtain ⟨hlow, hsum⟩ := lowPass_writes hN
    have h2 : 2 ^ L = 2 * 2 ^ (L - 1) := by rw [← Nat.pow_succ', Nat.succ_eq_add_one, Nat.sub_add_cancel hN.1]
    rw [hh]
    rw [hlow, Nat.shiftLeft_eq, Nat.one_mul] at hh ⊢
    have hv : (valsUpto norm norm.size).length = 2 ^ L := by have := Nat.two_pow_pos L; omega
    generalize setAll (Array.replicate (2 ^ L) 0) _ = a
    -- nothing is skipped: every position of the walk is free
    have hall : (List.range (2 ^ L)).filter (fun i => decide (walk L i ≤ 2 ^ L - 1)) = List.range (2 ^ L) :=
      List.filter_eq_self.2 (fun t _ => by have := walk_lt L t; simp; omega)
    obtain ⟨-, -, i3⟩ := layFold_inv norm (2 ^ L) norm.size (Nat.le_of_eq hv)
    -- both sides become `setAll a` of (walk position `k`, symbol `k`): the symbols are the cells of `spread[]` (`← i3`), and the walk's
    -- zip of two maps over `range (2^L)` is the dealing loop's map of pairs (`zip_map'`)
    rw [placeFold_zero L _ _ a (by rw [hall, hv, List.length_range]; exact Nat.le_refl _), hall,
      show (2 ^ L + 2 - 1) / 2 = 2 ^ (L - 1) by omega, dealFold_eq, ← h2, ← i3, hv, List.zip_map', layOf, Nat.shiftLeft_eq, Nat.one_mul]
  · rfl

/-- a distribution with a "less than one" symbol (the walk skips the top cell) and one without (the encoder's fast path) -/
example : SpreadOK (spread #[16, 8, 4, 2, 1, -1] 5) #[16, 8, 4, 2, 1, -1] 5 := spread_ok (by decide) (by decide)
example : spreadEnc #[16, 8, 4, 2, 1, -1] 5 = spread #[16, 8, 4, 2, 1, -1] 5 := spreadEnc_eq_spread (by decide)
example : spreadEnc #[16, 8, 4, 3, 1] 5 = spread #[16, 8, 4, 3, 1] 5 := spreadEnc_eq_spread (by decide)
/-- `4 ≤ L` cannot be dropped: for 8 cells the step is 4 + 1 + 3 = 8, the walk never leaves position 0 -/
example : NormOK #[4, 4] 3 ∧ ¬ SpreadOK (spread #[4, 4] 3) #[4, 4] 3 := by decide +kernel

end ZstdVerif.FSE
