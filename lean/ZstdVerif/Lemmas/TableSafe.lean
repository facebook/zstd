/-
Index safety of the entropy tables for arbitrary input bytes (C03, table side).  Every table access of the decoder model is written
`t[i]!` (a default value where the C code would read out of bounds); the theorems here show that the index is in range, so the default
is never taken.  Where a whole loop is concerned the claim is stated on a CHECKED TWIN of the model function - the same text with
`t[i]?`, returning `none` on a miss - which is shown never to miss and to compute what the model computes.
What C03 and C04 take: what FSE_readNCount accepts is a normalised distribution (`readNCount_normOK`, loop invariant `NCInv`); every
table ZSTD_buildSeqTable returns is closed under the state update (`block_buildSeqTable_closed`, from `cell_closed`); a read of `n`
bits is below `2^n` (`read_lt`); hence the FSE states of ZSTD_decodeSequence stay inside their tables
(`decodeSeqs_from_stream_inbounds`), and the Huffman lookup inside any table built from accepted weights
(`huf_lookup_inbounds_readStats`).  The symbol-column facts, `fse_state_closed` (the step `FSE.decompressWeights` performs; no theorem
about that function is stated), `huf_lookup_inbounds_run`, `spread_ok_partial` and `walk_injective` have no user in the development.
-/
import ZstdVerif.Lemmas.SeqRT
import ZstdVerif.Lemmas.HufRT
import ZstdVerif.Lemmas.ExceptLoop
import ZstdVerif.Lemmas.SpreadRT
namespace ZstdVerif.TableSafe
open ZstdVerif.Gen ZstdVerif.FSE

/-! ### closed tables -/

/-- an FSE decoding table (`FSE_decode_t[]`, fse_decompress.c) of `2^L` cells is CLOSED: every cell reads at most `L` bits and
`newState + (any nbBits-bit value)` is again an index of the table -/
def CellsClosed (cells : Array Cell) (L : Nat) : Prop :=
  cells.size = 2 ^ L ∧ ∀ i, i < cells.size → (cells[i]!).nbBits ≤ L ∧ (cells[i]!).newState + 2 ^ (cells[i]!).nbBits ≤ 2 ^ L

instance (cells : Array Cell) (L : Nat) : Decidable (CellsClosed cells L) := by unfold CellsClosed; infer_instance

/-- a sequence decoding table (`ZSTD_seqSymbol[]`, zstd_decompress_block.c) of `2^L` cells is CLOSED: every cell reads at most `L`
state bits and `nextState + (any nbBits-bit value)` is again an index of the table -/
def SeqClosed (T : Array SeqCell) (L : Nat) : Prop :=
  T.size = 2 ^ L ∧ ∀ i, i < T.size → (T[i]!).nbBits ≤ L ∧ (T[i]!).nextState + 2 ^ (T[i]!).nbBits ≤ 2 ^ L

instance (T : Array SeqCell) (L : Nat) : Decidable (SeqClosed T L) := by unfold SeqClosed; infer_instance

/-- arithmetic of one cell: a `symbolNext` value `ns` in the interval `[c, 2c)` of a symbol of count `c ≤ 2^L` gives
`nbBits = L - highbit ns ≤ L` and `newState + 2^nbBits = ((ns + 1) << nbBits) - 2^L ≤ 2^L` -/
theorem cellAt_closed {L c ns : Nat} (s : Nat) (hcL : c ≤ 2 ^ L) (h1 : c ≤ ns) (h2 : ns < 2 * c) :
    (cellAt L s ns).nbBits ≤ L ∧ (cellAt L s ns).newState + 2 ^ (cellAt L s ns).nbBits ≤ 2 ^ L := by
  have h0 : ns ≠ 0 := by omega
  have l1 : 2 ^ Nat.log2 ns ≤ ns := Nat.log2_self_le h0
  have l2 : ns < 2 ^ (Nat.log2 ns + 1) := Nat.lt_log2_self
  simp only [cellAt, highbit, Nat.shiftLeft_eq, Nat.one_mul]
  generalize Nat.log2 ns = h at *
  have hL : h ≤ L :=
    Nat.le_of_lt_succ ((Nat.pow_lt_pow_iff_right (by omega : 1 < 2)).1 (show 2 ^ h < 2 ^ (L + 1) by rw [Nat.pow_succ]; omega))
  -- `(ns + 1) << nbBits ≤ 2 * 2^L`, and `2^nbBits ≤ 2^L` covers the truncated subtraction
  have a : (ns + 1) * 2 ^ (L - h) ≤ 2 ^ (h + 1) * 2 ^ (L - h) := Nat.mul_le_mul_right _ (by omega)
  rw [← Nat.pow_add, show h + 1 + (L - h) = L + 1 by omega, Nat.pow_succ, Nat.add_mul, Nat.one_mul] at a
  have b : 2 ^ (L - h) ≤ 2 ^ L := Nat.pow_le_pow_right (by omega) (Nat.sub_le L h)
  exact ⟨Nat.sub_le L h, by omega⟩

/-- FSE_buildDTable_internal (fse_decompress.c) / ZSTD_buildFSETable_body (zstd_decompress_block.c), any spreading that respects the distribution -/
theorem cell_closed {syms : Array Nat} {norm : Array Int} {L : Nat} (hN : NormOK norm L) (hS : SpreadOK syms norm L) :
    (cellsOf syms norm L).size = 2 ^ L ∧ ∀ u, u < 2 ^ L →
      ((cellsOf syms norm L)[u]!).nbBits ≤ L ∧
      ((cellsOf syms norm L)[u]!).newState + 2 ^ ((cellsOf syms norm L)[u]!).nbBits ≤ 2 ^ L ∧
      ((cellsOf syms norm L)[u]!).sym < norm.size := by
  refine ⟨by rw [cellsOf_size, hS.1], fun u hu => ?_⟩
  have hu2 : u < syms.size := by rw [hS.1]; exact hu
  have hs : syms[u]! < norm.size := hS.2.1 u hu2
  have ok := listOK_of hN hS
  have hr := (idx_lt ok (u := u) (by simpa using hu2)).1
  have e : syms.toList[u]! = syms[u]! := by simp [hu2]
  rw [e] at hr
  have hcL := cnt_le hN hs
  rw [cellsOf_get hu2 hs]
  obtain ⟨a, b⟩ := cellAt_closed (L := L) (c := cnt norm syms[u]!) (ns := cnt norm syms[u]! + rank syms.toList u) syms[u]!
    hcL (by omega) (by omega)
  exact ⟨a, b, hs⟩

theorem cellsOf_closed {syms : Array Nat} {norm : Array Int} {L : Nat} (hN : NormOK norm L) (hS : SpreadOK syms norm L) :
    CellsClosed (cellsOf syms norm L) L := by
  obtain ⟨h1, h2⟩ := cell_closed hN hS
  exact ⟨h1, fun i hi => ⟨(h2 i (by omega)).1, (h2 i (by omega)).2.1⟩⟩

/-- FSE_decodeSymbol / FSE_updateState, fse.h: from ANY state inside a closed table and ANY `bits < 2^nbBits` read from the stream the
next state is inside the table -/
theorem fse_state_closed {cells : Array Cell} {L : Nat} (h : CellsClosed cells L) (st bits : Nat) (hst : st < 2 ^ L)
    (hb : bits < 2 ^ (cells[st]!).nbBits) : (cells[st]!).newState + bits < cells.size := by
  have := (h.2 st (by rw [h.1]; exact hst)).2
  rw [h.1]; omega

/-- ZSTD_updateFseStateWithDInfo, zstd_decompress_block.c: `nextState + BIT_readBits(nbBits)` -/
theorem seq_state_closed {T : Array SeqCell} {L : Nat} (h : SeqClosed T L) (st bits : Nat) (hst : st < 2 ^ L)
    (hb : bits < 2 ^ (T[st]!).nbBits) : (T[st]!).nextState + bits < T.size := by
  have := (h.2 st (by rw [h.1]; exact hst)).2
  rw [h.1]; omega

/-- ZSTD_buildFSETable_body writes `nextState`, `nbBits` from the FSE cell and `nbAdditionalBits`, `baseValue` from the symbol -/
theorem seqClosed_map {cells : Array Cell} {L : Nat} (h : CellsClosed cells L) (base bits : List Nat) :
    SeqClosed (cells.map (SeqRT.seqCellOf base bits)) L := by
  refine ⟨by rw [Array.size_map, h.1], fun i hi => ?_⟩
  rw [Array.size_map] at hi
  rw [SeqRT.getBang_map _ _ _ hi]
  exact h.2 i hi

theorem buildSeqTable_closed_of_spread {norm : Array Int} {L : Nat} (hN : NormOK norm L) (hS : SpreadOK (spread norm L) norm L)
    (base bits : List Nat) : SeqClosed (FSE.buildSeqTable norm L base bits) L := by
  rw [SeqRT.buildSeqTable_eq]
  exact seqClosed_map (cellsOf_closed hN hS) base bits

/-- one pass over the cells, where deciding `SeqClosed` itself indexes the table once per cell -/
theorem seqClosed_of_all {T : Array SeqCell} {L : Nat} (hs : T.size = 2 ^ L)
    (h : T.toList.all (fun c => decide (c.nbBits ≤ L) && decide (c.nextState + 2 ^ c.nbBits ≤ 2 ^ L)) = true) : SeqClosed T L := by
  refine ⟨hs, fun i hi => ?_⟩
  have hm : T[i]! ∈ T.toList := by rw [getElem!_pos T i hi]; exact Array.getElem_mem_toList hi
  simpa using List.all_eq_true.1 h _ hm

/-- `LL_defaultDTable`, `OF_defaultDTable`, `ML_defaultDTable` of zstd_decompress_block.c -/
theorem default_tables_closed :
    SeqClosed LL_defaultDTable.toArray LL_DEFAULTNORMLOG ∧ SeqClosed OF_defaultDTable.toArray OF_DEFAULTNORMLOG ∧
      SeqClosed ML_defaultDTable.toArray ML_DEFAULTNORMLOG :=
  ⟨seqClosed_of_all (by decide) (by decide +kernel), seqClosed_of_all (by decide) (by decide +kernel),
    seqClosed_of_all (by decide) (by decide +kernel)⟩

/-- ZSTD_buildSeqTable_rle (zstd_decompress_block.c) -/
theorem rleSeqTable_closed (sym : Nat) (base bits : List Nat) : SeqClosed (FSE.rleSeqTable sym base bits) 0 := by
  refine ⟨rfl, fun i hi => ?_⟩
  have : i = 0 := by simp [FSE.rleSeqTable] at hi; omega
  subst this
  simp [FSE.rleSeqTable]

/-! ### bit-field reads -/

theorem field_lt (src : Bytes) (start lo n : Nat) : BitR.field src start lo n < 2 ^ n := by
  unfold BitR.field
  simp only [Nat.shiftLeft_eq, Nat.one_mul, Nat.and_two_pow_sub_one_eq_mod]
  exact Nat.mod_lt _ (Nat.two_pow_pos n)

/-- BIT_readBits / BIT_readBitsFast, bitstream.h - also in the over-read branch (fewer than `n` bits left: the `left` remaining bits
shifted left by `n - left`, exactly the top `n` bits of the C bit container filled with zeros) -/
theorem read_lt (r : BitR) (n : Nat) : (r.read n).1 < 2 ^ n := by
  unfold BitR.read
  split
  · exact field_lt _ _ _ _
  · next h =>
    have := field_lt r.src r.start 0 r.left
    simp only [Nat.shiftLeft_eq]
    have e : 2 ^ n = 2 ^ r.left * 2 ^ (n - r.left) := by rw [← Nat.pow_add]; congr 1; omega
    rw [e]
    exact Nat.mul_lt_mul_of_lt_of_le this (Nat.le_refl _) (Nat.two_pow_pos _)

/-- BIT_lookBitsFast, bitstream.h -/
theorem peek_lt (r : BitR) (n : Nat) : r.peek n < 2 ^ n := by
  have e : r.peek n = (r.read n).1 := by unfold BitR.peek BitR.read; split <;> rfl
  rw [e]; exact read_lt r n

/-! ### the three FSE states of the sequence decoder -/

open ZstdVerif.Block (Seq SeqDec decodeSeqs)

/-- CHECKED TWIN of `Block.decodeSeqs` (the loop of ZSTD_decompressSequences_body / ZSTD_decodeSequence, zstd_decompress_block.c): the same
text with `llT[sLL]?`, `ofT[sOF]?`, `mlT[sML]?`; `none` where the C code would read outside `ZSTD_seqSymbol[]` -/
def decodeSeqsChecked (llT ofT mlT : Array SeqCell) (nbSeq : Nat) (sLL0 sOF0 sML0 : Nat) (r0 : BitR) (rep0 : Array Nat) :
    Option SeqDec := do
  let mut sLL := sLL0
  let mut sOF := sOF0
  let mut sML := sML0
  let mut r := r0
  let mut rep := rep0
  let mut seqs : Array Seq := Array.mkEmpty nbSeq
  for k in [0:nbSeq] do
    let cLL ← llT[sLL]?
    let cOF ← ofT[sOF]?
    let cML ← mlT[sML]?
    let ofBits := cOF.nbAddBits
    let ll0 := if cLL.baseValue == 0 then 1 else 0
    let mut offset := 0
    let mut ofValue := 0
    if ofBits > 1 then
      let (x, r') := r.read ofBits
      r := r'
      ofValue := cOF.baseValue + x + 3
    else if ofBits == 0 then
      ofValue := cOF.baseValue + 1
    else
      let (x, r') := r.read 1
      r := r'
      ofValue := cOF.baseValue + x + 1
    let (off', rep') := Rep.resolve ⟨rep[0]!, rep[1]!, rep[2]!⟩ ofValue ll0
    offset := off'
    rep := #[rep'.r0, rep'.r1, rep'.r2]
    let mut mlen := cML.baseValue
    if cML.nbAddBits > 0 then
      let (x, r') := r.read cML.nbAddBits
      r := r'
      mlen := mlen + x
    let mut llen := cLL.baseValue
    if cLL.nbAddBits > 0 then
      let (x, r') := r.read cLL.nbAddBits
      r := r'
      llen := llen + x
    if k + 1 != nbSeq then
      let (x, r') := r.read cLL.nbBits
      sLL := cLL.nextState + x
      let (y, r'') := r'.read cML.nbBits
      sML := cML.nextState + y
      let (z, r''') := r''.read cOF.nbBits
      sOF := cOF.nextState + z
      r := r'''
    seqs := seqs.push { ll := llen, ml := mlen, offset := offset, ofValue := ofValue }
  return { seqs := seqs, r := r, rep := rep }

/-! Lockstep rules for a computation `x` in `Option` and its pure twin `y` (the same `do` text in `Id`): `Hits P x y` says that `x` does
not miss, returns what `y` returns, and that this value satisfies `P`.  As with `Post`, each rule looks at the head of the two
programs only.  (The Huffman twins below need no such walk: their lookups hit whatever the loop state is, so pushing the monad
morphism `lift` through the text by rewriting is enough; here the hit depends on an invariant of the loop state.) -/

def Hits {β : Type} (P : β → Prop) (x : Option β) (y : Id β) : Prop := x = some y ∧ P y

namespace Hits
variable {α β γ : Type} {P : β → Prop}

/-- the end of a loop body; `P` is applied to the new state itself, so that checking `h` only has to project a tuple -/
theorem yield {b : β} (h : P b) :
    Hits (P ∘ stepVal) (Pure.pure (ForInStep.yield b)) (Pure.pure (ForInStep.yield b)) := ⟨rfl, h⟩

theorem ite {c : Prop} [Decidable c] {x x' : Option β} {y y' : Id β} (h : c → Hits P x y) (h' : ¬ c → Hits P x' y') :
    Hits P (if c then x else x') (if c then y else y') := by
  split
  · exact h ‹_›
  · exact h' ‹_›

theorem lookup [Inhabited α] {a : Array α} {i : Nat} (hi : i < a.size) {k : α → Option β} {y : Id β} (h : Hits P (k a[i]!) y) :
    Hits P (a[i]? >>= k) y := by
  rw [show a[i]? = some a[i]! by simp [hi]]
  exact h

theorem bind_eq {Q : γ → Prop} {x : Option γ} {y : Id γ} {f : γ → Option β} {g : γ → Id β} (h : Hits Q x y)
    (hf : ∀ c, Q c → f c = some (g c)) : x >>= f = some (y >>= g) := by
  obtain ⟨rfl, hq⟩ := h
  exact hf _ hq

theorem loop {P : β → Prop} {rg : Std.Legacy.Range} {g : Nat → β → Option (ForInStep β)} {f : Nat → β → Id (ForInStep β)}
    {init : β} (h0 : P init) (h : ∀ a b, P b → Hits (P ∘ stepVal) (g a b) (f a b)) :
    Hits P (forIn rg init g) (forIn rg init f) := by
  rw [Std.Legacy.Range.forIn_eq_forIn_range', Std.Legacy.Range.forIn_eq_forIn_range']
  generalize List.range' _ _ _ = l
  induction l generalizing init with
  | nil => exact ⟨rfl, h0⟩
  | cons a as ih =>
    obtain ⟨e, hp⟩ := h a init h0
    rw [List.forIn_cons, List.forIn_cons, e]
    show Hits P (match f a init with | .done b => some b | .yield b => forIn as b g)
      (match f a init with | .done b => b | .yield b => forIn (m := Id) as b f)
    cases hs : f a init with
    | done b => rw [hs] at hp; exact ⟨rfl, hp⟩
    | yield b => rw [hs] at hp; exact ih hp

end Hits

def StatesIn (llLog ofLog mlLog sLL sOF sML : Nat) : Prop := sLL < 2 ^ llLog ∧ sOF < 2 ^ ofLog ∧ sML < 2 ^ mlLog

seal BitR.read Rep.resolve in
/-- ZSTD_decompressSequences_body / ZSTD_decodeSequence / ZSTD_updateFseStateWithDInfo, zstd_decompress_block.c: with closed tables
and initial states inside them the three indices `sLL`, `sOF`, `sML` stay inside `llT`, `ofT`, `mlT`, for EVERY reader state `r0` (any
bytes, any position, over-read or not) -/
theorem decodeSeqs_states_inbounds (llT ofT mlT : Array SeqCell) (llLog ofLog mlLog : Nat) (hLL : SeqClosed llT llLog)
    (hOF : SeqClosed ofT ofLog) (hML : SeqClosed mlT mlLog) (nbSeq sLL0 sOF0 sML0 : Nat) (r0 : BitR) (rep0 : Array Nat)
    (h1 : sLL0 < 2 ^ llLog) (h2 : sOF0 < 2 ^ ofLog) (h3 : sML0 < 2 ^ mlLog) :
    decodeSeqsChecked llT ofT mlT nbSeq sLL0 sOF0 sML0 r0 rep0 = some (decodeSeqs llT ofT mlT nbSeq sLL0 sOF0 sML0 r0 rep0) := by
  unfold decodeSeqsChecked decodeSeqs
  refine Hits.bind_eq (Hits.loop (P := fun s => StatesIn llLog ofLog mlLog s.1 s.2.1 s.2.2.1) ⟨h1, h2, h3⟩ fun k s hs => ?_)
    fun _ _ => rfl
  -- the three lookups hit because the states are inside the tables.  (`BitR.read` and `Rep.resolve` are sealed for this proof: it never
  -- looks inside them, and comparing the new states would otherwise make the unifier try to evaluate the reads.)
  refine Hits.lookup (hLL.1 ▸ hs.1) (Hits.lookup (hOF.1 ▸ hs.2.1) (Hits.lookup (hML.1 ▸ hs.2.2) ?_))
  -- the states after the sequence: updated from closed cells by `nbBits`-bit reads, or (last sequence) left as they are
  have next : ∀ x y z, x < 2 ^ (llT[s.1]!).nbBits → z < 2 ^ (ofT[s.2.1]!).nbBits → y < 2 ^ (mlT[s.2.2.1]!).nbBits →
      StatesIn llLog ofLog mlLog ((llT[s.1]!).nextState + x) ((ofT[s.2.1]!).nextState + z) ((mlT[s.2.2.1]!).nextState + y) :=
    fun x y z hx hz hy => ⟨by rw [← hLL.1]; exact seq_state_closed hLL _ _ hs.1 hx,
      by rw [← hOF.1]; exact seq_state_closed hOF _ _ hs.2.1 hz, by rw [← hML.1]; exact seq_state_closed hML _ _ hs.2.2 hy⟩
  -- offset code with extra bits / without / with one bit; extra bits of the match length; of the literal length; last sequence or not
  refine Hits.ite (fun _ => ?_) fun _ => Hits.ite (fun _ => ?_) fun _ => ?_
  all_goals refine Hits.ite (fun _ => ?_) fun _ => ?_
  all_goals refine Hits.ite (fun _ => ?_) fun _ => ?_
  all_goals exact Hits.ite (fun _ => Hits.yield (next _ _ _ (read_lt _ _) (read_lt _ _) (read_lt _ _))) fun _ => Hits.yield hs

/-! ### the Huffman lookup -/

open ZstdVerif.Huf ZstdVerif.HufRT

/-- CHECKED TWIN of `Huf.decode1` (HUF_decompress1X1_usingDTable_internal / HUF_decodeSymbolX1, huf_decompress.c): the same text in the
monad `ExceptT Err Option` (= `Option (R _)`), with `t.cells[idx]?`; `none` where the C code would read outside `HUF_DEltX1[]` -/
def decode1Checked (t : Table) (src : Bytes) (start len n : Nat) (out : ByteArray) (fastPathPossible : Bool := false) :
    ExceptT Err Option ByteArray := do
  let mut r ← match BitR.init src start len with
    | .ok r => pure r
    | .error _ => throw (.corruptionAt "Huf:73")
  let mut o := out
  let mut overEarly := false
  for i in [0:n] do
    let idx := r.peek t.log
    let (sym, nb) ← (t.cells[idx]? : Option (Nat × Nat))
    r := r.skip nb
    if r.over && i + 1 < n then overEarly := true
    o := o.push (UInt8.ofNat sym)
  if fastPathPossible && (r.over || r.left != 0) then throw (.lax "4-stream huffman literals: stream end not validated by the fast decoding loop")
  if overEarly then throw (.corruptionAt "Huf:overread")
  if r.over then throw (.lax "last huffman symbol reads past the stream start (accepted by the X2 decoder only)")
  if r.left != 0 then
    if r.left ≤ Gen.HUF_TABLELOG_MAX then throw (.lax "huffman stream ends with spare bits (accepted by the X2 decoder only)")
    else throw (.corruptionAt "Huf:leftover")
  return o

/-- a computation of the unchecked monad seen in the checked one: it never misses -/
def lift {α : Type} (x : R α) : ExceptT Err Option α := ExceptT.mk (some x)

theorem lift_pure {α : Type} (a : α) : lift (pure a : R α) = pure a := rfl

theorem lift_throw {α : Type} (e : Err) : lift (throw e : R α) = throw e := rfl

theorem lift_bind {α β : Type} (x : R α) (f : α → R β) : lift (x >>= f) = lift x >>= fun a => lift (f a) := by
  cases x <;> rfl

theorem lift_ite {α : Type} (c : Prop) [Decidable c] (a b : R α) : lift (if c then a else b) = if c then lift a else lift b := by
  split <;> rfl

theorem lift_forIn_list {α β : Type} (l : List α) (init : β) (f : α → β → R (ForInStep β)) :
    lift (forIn l init f) = forIn l init (fun a b => lift (f a b)) := by
  induction l generalizing init with
  | nil => rfl
  | cons a as ih =>
    rw [List.forIn_cons, List.forIn_cons, lift_bind]
    congr 1
    funext s
    cases s with
    | done b => rfl
    | yield b => exact ih b

theorem lookup_bind {α β : Type} [Inhabited α] (a : Array α) (i : Nat) (h : i < a.size) (k : α → ExceptT Err Option β) :
    ((liftM a[i]? : ExceptT Err Option α) >>= k) = k a[i]! := by
  have e : a[i]? = some a[i]! := by simp [h]
  rw [e]
  rfl

/-- HUF_decompress1X1_usingDTable_internal_body / HUF_decodeSymbolX1, huf_decompress.c: on a table of `2^log` cells every lookup
`t.cells[r.peek t.log]` is inside the table, for EVERY stream and symbol count.  (`lift x = ExceptT.mk (some x)`: the statement reads
`(decode1Checked …).run = some (decode1 …)`, see `huf_lookup_inbounds_run`.) -/
theorem huf_lookup_inbounds (t : Table) (ht : t.cells.size = 2 ^ t.log) (src : Bytes) (start len n : Nat) (out : ByteArray)
    (fp : Bool) : decode1Checked t src start len n out fp = lift (decode1 t src start len n out fp) := by
  unfold decode1Checked decode1
  generalize BitR.init src start len = ini
  cases ini with
  | error e => rfl
  | ok r0 =>
    simp only [Std.Legacy.Range.forIn_eq_forIn_range', lift_bind, lift_forIn_list, lift_ite, lift_pure, lift_throw]
    -- `dt[BIT_lookBitsFast(Dstream, dtLog)]`: a table of `2^log` cells indexed by a `log`-bit look-ahead
    simp only [lookup_bind _ _ (ht ▸ peek_lt _ t.log)]

/-- CHECKED TWIN of `Huf.decode4` (HUF_decompress4X1_usingDTable_internal, huf_decompress.c): the same text over `decode1Checked` -/
def decode4Checked (t : Table) (src : Bytes) (start len n : Nat) (out : ByteArray) : ExceptT Err Option ByteArray := do
  if len < 10 then throw (.corruptionAt "Huf:85")
  if n < 6 then throw (.corruptionAt "Huf:86")
  let l1 := src.le16 start
  let l2 := src.le16 (start + 2)
  let l3 := src.le16 (start + 4)
  if 6 + l1 + l2 + l3 > len then throw (.corruptionAt "Huf:90")
  let l4 := len - (6 + l1 + l2 + l3)
  let seg := (n + 3) / 4
  if 3 * seg > n then throw (.corruptionAt "Huf:93")
  let s1 := start + 6
  let fast := l1 ≥ 8 && l2 ≥ 8 && l3 ≥ 8 && l4 ≥ 8
  let o1 ← decode1Checked t src s1 l1 seg out fast
  let o2 ← decode1Checked t src (s1 + l1) l2 seg o1 fast
  let o3 ← decode1Checked t src (s1 + l1 + l2) l3 seg o2 fast
  decode1Checked t src (s1 + l1 + l2 + l3) l4 (n - 3 * seg) o3 fast

/-- four streams (HUF_decompress4X1_usingDTable_internal, huf_decompress.c) -/
theorem huf_lookup_inbounds4 (t : Table) (ht : t.cells.size = 2 ^ t.log) (src : Bytes) (start len n : Nat) (out : ByteArray) :
    decode4Checked t src start len n out = lift (decode4 t src start len n out) := by
  unfold decode4Checked decode4
  simp only [lift_bind, lift_ite, lift_throw, huf_lookup_inbounds t ht]

/-- in `Option (R _)` form: `some` = no lookup missed -/
theorem huf_lookup_inbounds_run (t : Table) (ht : t.cells.size = 2 ^ t.log) (src : Bytes) (start len n : Nat) (out : ByteArray)
    (fp : Bool) :
    (decode1Checked t src start len n out fp).run = some (decode1 t src start len n out fp) ∧
      (decode4Checked t src start len n out).run = some (decode4 t src start len n out) := by
  rw [huf_lookup_inbounds t ht, huf_lookup_inbounds4 t ht]
  exact ⟨rfl, rfl⟩

/-- HUF_readDTableX1_wksp (huf_decompress.c) -/
theorem buildTable_size (st : Stats) : (buildTable st).cells.size = 2 ^ (buildTable st).log := by
  simp only [buildTable, Nat.shiftLeft_eq, Nat.one_mul, List.size_toArray, List.length_take, List.length_append,
    List.length_replicate]
  omega

/-- `huf_lookup_inbounds` for every table the decoder builds from untrusted bytes (HUF_readStats_body, entropy_common.c →
HUF_readDTableX1_wksp → HUF_decompress1X1 / 4X1_usingDTable_internal, huf_decompress.c): the ranks fill the `2^tableLog` cells exactly
(`Huf.buildTable` drops nothing), and decoding ANY stream with that table never looks up outside it -/
theorem huf_lookup_inbounds_readStats (src : Bytes) (start n hmax : Nat) (st : Stats) (h : readStats src start n hmax = .ok st) :
    WeightsOK st.weights st.tableLog ∧
    (tableCells st.weights.toList st.tableLog).length = 2 ^ st.tableLog ∧
    (buildTable st).cells = (tableCells st.weights.toList st.tableLog).toArray ∧
    (∀ (src2 : Bytes) (start2 len k : Nat) (out : ByteArray) (fp : Bool),
      decode1Checked (buildTable st) src2 start2 len k out fp = lift (decode1 (buildTable st) src2 start2 len k out fp)) ∧
    (∀ (src2 : Bytes) (start2 len k : Nat) (out : ByteArray),
      decode4Checked (buildTable st) src2 start2 len k out = lift (decode4 (buildTable st) src2 start2 len k out)) := by
  have ok := readStats_weightsOK src start n hmax st h
  exact ⟨ok, tableCells_length ok, buildTable_cells ok st.used,
    fun _ _ _ _ _ _ => huf_lookup_inbounds _ (buildTable_size st) _ _ _ _ _ _,
    fun _ _ _ _ _ => huf_lookup_inbounds4 _ (buildTable_size st) _ _ _ _ _⟩

/-! ### symbols index `base` / `bits` inside their length -/

/-- CHECKED TWIN of `FSE.buildSeqTable` (ZSTD_buildFSETable_body, zstd_decompress_block.c: `nbAdditionalBits[symbol]`, `baseValue[symbol]`):
`none` when a column lookup misses -/
def buildSeqTableChecked (norm : Array Int) (tableLog : Nat) (base bits : List Nat) : Option (Array SeqCell) :=
  (buildCells norm tableLog).mapM fun c => do
    let nbAdd ← bits[c.sym]?
    let bv ← base[c.sym]?
    pure { nextState := c.newState, nbAddBits := nbAdd, nbBits := c.nbBits, baseValue := bv }

/-- CHECKED TWIN of `FSE.rleSeqTable` (ZSTD_buildSeqTable_rle, zstd_decompress_block.c) -/
def rleSeqTableChecked (sym : Nat) (base bits : List Nat) : Option (Array SeqCell) := do
  let nbAdd ← bits[sym]?
  let bv ← base[sym]?
  pure #[{ nextState := 0, nbAddBits := nbAdd, nbBits := 0, baseValue := bv }]

theorem list_mapM_some {α β : Type} (f : α → Option β) (g : α → β) (l : List α) (h : ∀ x ∈ l, f x = some (g x)) :
    l.mapM f = some (l.map g) := by
  induction l with
  | nil => rfl
  | cons a t ih =>
    rw [List.mapM_cons, h a (by simp), ih (fun x hx => h x (by simp [hx]))]
    rfl

theorem getElem?_eq_getD {l : List Nat} {i : Nat} (h : i < l.length) : l[i]? = some (l.getD i 0) := by
  rw [List.getD_eq_getElem?_getD, List.getElem?_eq_getElem h]; rfl

/-- ZSTD_buildFSETable_body, zstd_decompress_block.c: when the distribution has at most as many symbols as the `base` / `bits` columns
have entries, no column lookup misses -/
theorem symbols_in_alphabet {norm : Array Int} {L : Nat} (hN : NormOK norm L) (hS : SpreadOK (spread norm L) norm L)
    (base bits : List Nat) (hb : norm.size ≤ base.length) (hbi : norm.size ≤ bits.length) :
    (∀ u, u < (buildCells norm L).size → ((buildCells norm L)[u]!).sym < norm.size) ∧
      buildSeqTableChecked norm L base bits = some (FSE.buildSeqTable norm L base bits) := by
  obtain ⟨hsz, hc⟩ := cell_closed hN hS
  have hsym : ∀ u, u < (buildCells norm L).size → ((buildCells norm L)[u]!).sym < norm.size := by
    intro u hu
    unfold buildCells at hu ⊢
    exact (hc u (by omega)).2.2
  refine ⟨hsym, ?_⟩
  unfold buildSeqTableChecked FSE.buildSeqTable
  rw [Array.mapM_eq_mapM_toList, list_mapM_some _ (SeqRT.seqCellOf base bits)]
  · show some (List.map (SeqRT.seqCellOf base bits) _).toArray = some (Array.map (SeqRT.seqCellOf base bits) _)
    rw [← Array.toList_map, Array.toArray_toList]
  · intro c hc
    obtain ⟨u, hu, rfl⟩ := List.getElem_of_mem hc
    have hu2 : u < (buildCells norm L).size := by simpa using hu
    have := hsym u hu2
    simp only [getElem!_pos, hu2, Array.getElem_toList] at this ⊢
    rw [getElem?_eq_getD (show (buildCells norm L)[u].sym < bits.length by omega),
      getElem?_eq_getD (show (buildCells norm L)[u].sym < base.length by omega)]
    rfl

/-- `maxSymbolValue + 1`, what ZSTD_buildSeqTable passes to FSE_readNCount (which returns at most that many counts: second clause of
`readNCount_normOK`) -/
theorem alphabet_sizes :
    LL_base.length = MaxLL + 1 ∧ LL_bits.length = MaxLL + 1 ∧ OF_base.length = MaxOff + 1 ∧ OF_bits.length = MaxOff + 1 ∧
      ML_base.length = MaxML + 1 ∧ ML_bits.length = MaxML + 1 := by decide

/-- ZSTD_buildSeqTable, `set_rle` (zstd_decompress_block.c: `RETURN_ERROR_IF((*(const BYTE*)src) > max, corruption_detected)`) -/
theorem rle_symbol_in_alphabet (sym maxSym : Nat) (base bits : List Nat) (h : ¬ sym > maxSym) (hb : maxSym + 1 ≤ base.length)
    (hbi : maxSym + 1 ≤ bits.length) : rleSeqTableChecked sym base bits = some (FSE.rleSeqTable sym base bits) := by
  unfold rleSeqTableChecked FSE.rleSeqTable
  rw [getElem?_eq_getD (show sym < bits.length by omega), getElem?_eq_getD (show sym < base.length by omega)]
  rfl

/-! ### FSE_readNCount returns a normalised distribution -/

theorem countField_ge (s : RS) (h : s.threshold ≤ s.remaining) : -1 ≤ (countField s).1 := by
  unfold countField
  simp only [Id.run, pure]
  repeat' split
  all_goals simp only []
  all_goals omega

/-- what one `readCount` does to the fields the normalisation argument looks at -/
theorem readCount_spec (b : Bytes) (iend m : Nat) (s : RS) :
    (readCount b iend m s).norm = (if s.charnum < s.norm.size then s.norm.set! s.charnum (countField s).1 else s.norm) ∧
    (readCount b iend m s).remaining =
      (if (countField s).1 ≥ 0 then s.remaining - (countField s).1 else s.remaining + (countField s).1) ∧
    (readCount b iend m s).charnum = s.charnum + 1 ∧
    ((readCount b iend m s).done = false → (readCount b iend m s).threshold ≤ (readCount b iend m s).remaining ∧
      s.charnum + 1 < m) := by
  unfold readCount
  simp only [Id.run, pure]
  generalize countField s = cf
  generalize (if cf.1 ≥ 0 then s.remaining - cf.1 else s.remaining + cf.1) = rem
  by_cases h1 : rem < s.threshold <;> by_cases h2 : rem ≤ 1 <;> by_cases h3 : s.charnum + 1 ≥ m
  all_goals simp [h1, h2, h3]
  · intro _
    refine ⟨?_, by omega⟩
    have h0 : rem.toNat ≠ 0 := by omega
    have h5 : ((2 ^ rem.toNat.log2 : Nat) : Int) ≤ (rem.toNat : Int) := Int.ofNat_le.2 (Nat.log2_self_le h0)
    rw [Int.natCast_pow] at h5
    simp only [highbit, Int.shiftLeft_eq, Int.one_mul]
    have h6 : ((2 : Nat) : Int) = 2 := rfl
    rw [h6] at h5
    omega
  · intro _; omega
  · intro _; omega

/-- only `charnum` moves, forward -/
theorem skipZeros_spec (b : Bytes) (iend m : Nat) (s : RS) :
    (skipZeros b iend m s).norm = s.norm ∧ (skipZeros b iend m s).remaining = s.remaining ∧
    (skipZeros b iend m s).threshold = s.threshold ∧ s.charnum ≤ (skipZeros b iend m s).charnum ∧
    ((skipZeros b iend m s).done = false → s.done = false ∧ (skipZeros b iend m s).charnum < m) := by
  unfold skipZeros
  simp only [Id.run, bind, pure]
  generalize hloop : forIn (m := Id) (ρ := Std.Legacy.Range) _ _ _ = L
  have hL : s.charnum ≤ L.2.2.2.2 := by
    rw [← hloop]
    refine forIn_range_inv_id (fun st : Nat × Nat × Int × Nat × Nat => s.charnum ≤ st.2.2.2.2) _ _ _ (Nat.le_refl _) ?_
    intro k st hst
    repeat' split
    all_goals simp only [stepVal]
    all_goals omega
  split
  · refine ⟨rfl, rfl, rfl, ?_, ?_⟩
    · simp only []; omega
    · simp
  · refine ⟨rfl, rfl, rfl, ?_, ?_⟩
    · simp only []; omega
    · simp only []; intro h; exact ⟨h, by omega⟩

theorem cnt_of_zero {norm : Array Int} {i : Nat} (h : norm[i]! = 0) : cnt norm i = 0 := by
  simp [cnt, h]

/-- booking a count in a slot that held 0 adds its cells to the total -/
theorem startOf_set (norm : Array Int) (i : Nat) (v : Int) (n : Nat) (hi : i < norm.size) (h0 : norm[i]! = 0) :
    startOf (norm.set! i v) n = startOf norm n + (if i < n then (if v == -1 then 1 else v.toNat) else 0) := by
  induction n with
  | zero => simp [startOf]
  | succ n ih =>
    rw [startOf_succ, startOf_succ, ih]
    by_cases e : i = n
    · subst e
      have : cnt (norm.set! i v) i = if v == -1 then 1 else v.toNat := by
        unfold cnt; rw [getBang_set_eq _ _ _ hi]
      rw [this, cnt_of_zero h0]
      simp
    · have : cnt (norm.set! i v) n = cnt norm n := by
        unfold cnt; rw [getBang_set_ne _ _ _ _ e]
      rw [this]
      by_cases h : i < n
      · simp [h, show i < n + 1 by omega]; omega
      · simp [h, show ¬ i < n + 1 by omega]

theorem startOf_congr (a b : Array Int) (n : Nat) (h : ∀ i, i < n → a[i]! = b[i]!) : startOf a n = startOf b n := by
  induction n with
  | zero => rfl
  | succ n ih =>
    rw [startOf_succ, startOf_succ, ih (fun i hi => h i (by omega))]
    unfold cnt; rw [h n (by omega)]

theorem startOf_zero_tail (a : Array Int) (c n : Nat) (hcn : c ≤ n) (h : ∀ i, c ≤ i → i < n → a[i]! = 0) :
    startOf a n = startOf a c := by
  induction n with
  | zero => have : c = 0 := by omega
            subst this; rfl
  | succ n ih =>
    by_cases e : c = n + 1
    · subst e; rfl
    · rw [startOf_succ, ih (by omega) (fun i h1 h2 => h i h1 (by omega)), cnt_of_zero (h n (by omega) (by omega))]
      rfl

/-- loop invariant of FSE_readNCount_body: the cells of the booked counts and `remaining` add up to `2^tableLog + 1`; the slots from
`charnum` on are still 0 -/
structure NCInv (m tl : Nat) (s : RS) : Prop where
  size : s.norm.size = m
  ge : ∀ i, i < m → -1 ≤ s.norm[i]!
  zero : ∀ i, s.charnum ≤ i → i < m → s.norm[i]! = 0
  sum : (startOf s.norm m : Int) + s.remaining = 2 ^ tl + 1
  live : s.done = false → s.threshold ≤ s.remaining ∧ s.charnum < m

theorem skipZeros_inv {b : Bytes} {iend m tl : Nat} {s : RS} (h : NCInv m tl s) : NCInv m tl (skipZeros b iend m s) := by
  obtain ⟨e1, e2, e3, e4, e5⟩ := skipZeros_spec b iend m s
  refine ⟨by rw [e1]; exact h.size, by rw [e1]; exact h.ge, ?_, by rw [e1, e2]; exact h.sum, ?_⟩
  · intro i hi him; rw [e1]; exact h.zero i (by omega) him
  · intro hd
    obtain ⟨d1, d2⟩ := e5 hd
    rw [e2, e3]
    exact ⟨(h.live d1).1, d2⟩

theorem readCount_inv {b : Bytes} {iend m tl : Nat} {s : RS} (h : NCInv m tl s) (hd : s.done = false) :
    NCInv m tl (readCount b iend m s) := by
  obtain ⟨e1, e2, e3, e4⟩ := readCount_spec b iend m s
  obtain ⟨l1, l2⟩ := h.live hd
  have hc := countField_ge s l1
  have hsz := h.size
  rw [if_pos (by omega)] at e1
  have hz := h.zero s.charnum (Nat.le_refl _) l2
  refine ⟨by rw [e1]; simp [hsz], ?_, ?_, ?_, ?_⟩
  · intro i hi
    rw [e1]
    by_cases e : s.charnum = i
    · subst e; rw [getBang_set_eq _ _ _ (by omega)]; exact hc
    · rw [getBang_set_ne _ _ _ _ e]; exact h.ge i hi
  · intro i hi him
    rw [e1, getBang_set_ne _ _ _ _ (by omega)]
    exact h.zero i (by omega) him
  · rw [e1, e2, startOf_set _ _ _ _ (by omega) hz, if_pos l2]
    have := h.sum
    generalize (countField s).1 = c at *
    by_cases c1 : c = -1
    · subst c1; simp; omega
    · have : (c == -1) = false := by simpa using c1
      simp only [this, Bool.false_eq_true, if_false]
      split <;> omega
  · intro hd2
    obtain ⟨a, b⟩ := e4 hd2
    exact ⟨a, by omega⟩

theorem NCInv.init (m tl ip bs : Nat) (bc : Int) (hm : 0 < m) :
    NCInv m tl { ip := ip, bitCount := bc, bitStream := bs, remaining := ((1 <<< tl) + 1 : Nat), threshold := ((1 <<< tl) : Nat),
                 nbBits := tl + 1, charnum := 0, previous0 := false, norm := Array.replicate m 0, done := false } := by
  refine ⟨by simp, fun i hi => by simp [hi], fun i _ hi => by simp [hi], ?_, fun _ => ?_⟩
  · rw [startOf_zero_tail _ 0 m (Nat.zero_le _) (fun i _ hi => by simp [hi])]
    simp [startOf, Nat.shiftLeft_eq]
  · exact ⟨Int.ofNat_le.2 (Nat.le_succ _), hm⟩

/-- an accepted final state (`remaining = 1`, `charnum ≤ m`) -/
theorem NCInv.normOK {m tl : Nat} {s : RS} (inv : NCInv m tl s) (htl : 1 ≤ tl) (hrem : s.remaining = 1) (hcn : s.charnum ≤ m) :
    NormOK (s.norm.extract 0 s.charnum) tl ∧ (s.norm.extract 0 s.charnum).size ≤ m := by
  have hsum := inv.sum
  rw [hrem] at hsum
  have hsz : (s.norm.extract 0 s.charnum).size = s.charnum := by
    rw [Array.size_extract, inv.size]; omega
  have hget : ∀ i, i < s.charnum → (s.norm.extract 0 s.charnum)[i]! = s.norm[i]! := by
    intro i hi
    have h1 : i < (s.norm.extract 0 s.charnum).size := by omega
    have h2 : i < s.norm.size := by rw [inv.size]; omega
    rw [getElem!_pos (s.norm.extract 0 s.charnum) i h1, getElem!_pos s.norm i h2, Array.getElem_extract]
    simp
  refine ⟨⟨htl, ?_, ?_⟩, by omega⟩
  · intro i hi
    rw [hsz] at hi
    rw [hget i hi]; exact inv.ge i (by omega)
  · rw [hsz, startOf_congr _ _ _ hget, ← startOf_zero_tail s.norm s.charnum m hcn inv.zero]
    have e : ((startOf s.norm m : Nat) : Int) = ((2 ^ tl : Nat) : Int) := by
      rw [Int.natCast_pow]
      show _ = (2 : Int) ^ tl
      omega
    exact Int.ofNat_inj.1 e

theorem readNCount8_normOK (b : Bytes) (hb maxSV : Nat) :
    Post (fun nc => NormOK nc.norm nc.tableLog ∧ nc.norm.size ≤ maxSV + 1 ∧ 5 ≤ nc.tableLog ∧ nc.tableLog ≤ 15)
      (readNCount8 b hb maxSV) := by
  unfold readNCount8
  refine Post.ite (fun _ => Post.error) fun htl => ?_
  have htl5 : 5 ≤ (b.le32 0 &&& 0xF) + FSE_MIN_TABLELOG := Nat.le_add_left _ _
  generalize (b.le32 0 &&& 0xF) + FSE_MIN_TABLELOG = tl at htl htl5 ⊢
  have htl15 : tl ≤ 15 := Nat.le_of_not_gt htl
  generalize hloop : forIn (m := Id) (ρ := Std.Legacy.Range) _ _ _ = s
  have inv : NCInv (maxSV + 1) tl s := by
    rw [← hloop]
    refine forIn_range_inv_id _ _ _ _ (NCInv.init (maxSV + 1) tl 0 (b.le32 0 >>> 4) 4 (Nat.succ_pos _)) fun _ st hst => ?_
    -- one turn of the main loop
    dsimp only
    split
    · exact hst
    rename_i d0
    split
    · have i1 := skipZeros_inv (b := b) (iend := hb) hst
      split
      · exact i1
      · rename_i d1
        exact readCount_inv i1 (by simpa using d1)
    · exact readCount_inv hst (by simpa using d0)
  refine Post.ite (fun _ => Post.error) fun hrem => Post.ite (fun _ => Post.error) fun hcn => Post.ite (fun _ => Post.error) fun _ => ?_
  obtain ⟨h1, h2⟩ := inv.normOK (by omega) (by simpa using hrem) (by omega)
  exact Post.pure ⟨h1, h2, htl5, htl15⟩

/-- FSE_readNCount / FSE_readNCount_body, entropy_common.c: whatever the header bytes, a distribution that `FSE.readNCount` ACCEPTS is
normalised for its table log -/
theorem readNCount_normOK (src : Bytes) (start n maxSV : Nat) (nc : NCount) (h : FSE.readNCount src start n maxSV = .ok nc) :
    NormOK nc.norm nc.tableLog ∧ nc.norm.size ≤ maxSV + 1 ∧ 5 ≤ nc.tableLog ∧ nc.tableLog ≤ 15 := by
  suffices Post (fun nc => NormOK nc.norm nc.tableLog ∧ nc.norm.size ≤ maxSV + 1 ∧ 5 ≤ nc.tableLog ∧ nc.tableLog ≤ 15)
      (FSE.readNCount src start n maxSV) from this nc h
  unfold FSE.readNCount
  refine Post.ite (fun _ => ?_) fun _ => readNCount8_normOK _ _ _
  dsimp only
  split
  · exact Post.error
  · exact Post.ite (fun _ => Post.error) fun _ => Post.pure (readNCount8_normOK _ _ _ _ ‹_›)

/-! ### the symbol spreading -/

def SymsIn (n L : Nat) (syms : Array Nat) : Prop := syms.size = 2 ^ L ∧ ∀ u, u < syms.size → syms[u]! < n

theorem SymsIn.set {n L : Nat} {syms : Array Nat} (h : SymsIn n L syms) (p s : Nat) (hs : s < n) : SymsIn n L (syms.set! p s) := by
  refine ⟨by simpa using h.1, fun u hu => ?_⟩
  have hu2 : u < syms.size := by simpa using hu
  by_cases e : p = u
  · subst e; rw [getBang_set_eq _ _ _ hu2]; exact hs
  · rw [getBang_set_ne _ _ _ _ e]; exact h.2 u hu2

theorem lt_size_of_getBang_ne {norm : Array Int} {s : Nat} (h : norm[s]! ≠ 0) : s < norm.size := by
  by_cases hs : s < norm.size
  · exact hs
  · exfalso; apply h; simp [hs]

theorem spread_symsIn (norm : Array Int) (L : Nat) (hn : 0 < norm.size) : SymsIn norm.size L (spread norm L) := by
  unfold spread
  simp only [Id.run, bind, pure]
  generalize hfirst : forIn (m := Id) (ρ := Std.Legacy.Range) _ (Array.replicate (1 <<< L) 0, 1 <<< L - 1) _ = F
  have hF : SymsIn norm.size L F.1 := by
    rw [← hfirst]
    refine forIn_range_inv_id (fun st : Array Nat × Nat => SymsIn norm.size L st.1) _ _ _ ?_ ?_
    · exact ⟨by simp [Nat.shiftLeft_eq], fun u hu => by
        have hu2 : u < 1 <<< L := by simpa using hu
        simpa [hu2] using hn⟩
    · intro s st hst
      split
      · rename_i hc
        exact hst.set _ _ (lt_size_of_getBang_ne (by intro e; rw [e] at hc; simp at hc))
      · exact hst
  refine forIn_range_inv_id (fun st : Array Nat × Nat => SymsIn norm.size L st.1) _ _ _ hF ?_
  intro s st hst
  split
  · rename_i hc
    refine forIn_range_inv_id (fun st : Array Nat × Nat => SymsIn norm.size L st.1) _ _ _ hst ?_
    intro k st2 h2
    exact h2.set _ _ (lt_size_of_getBang_ne (by omega))
  · exact hst

/-- an odd step walks a table of `2^L` cells without repetition; hence the first `2^L` steps of the walk of `FSE.spread` visit every
cell exactly once -/
theorem walk_injective {L step i j : Nat} (hodd : step % 2 = 1) (h : (i * step) % 2 ^ L = (j * step) % 2 ^ L) :
    (j - i) % 2 ^ L = 0 :=
  odd_step_inj hodd h

/-- The spreading loops of FSE_buildDTable_internal (fse_decompress.c) / ZSTD_buildFSETable_body (zstd_decompress_block.c): the first two
clauses of `SpreadOK (spread norm L) norm L`, for every table log, and the oddness of the step.  The third clause, every symbol occupies
exactly its count of cells, is `FSE.spread_ok` (Lemmas/SpreadRT.lean, for `4 ≤ L`). -/
theorem spread_ok_partial {norm : Array Int} {L : Nat} (hN : NormOK norm L) :
    (spread norm L).size = 2 ^ L ∧ (∀ u, u < (spread norm L).size → (spread norm L)[u]! < norm.size) ∧
      (4 ≤ L → tableStep (2 ^ L) % 2 = 1) := by
  have hn : 0 < norm.size := by
    have h := hN.2.2
    by_cases e : norm.size = 0
    · rw [e] at h
      have : 0 < 2 ^ L := Nat.two_pow_pos L
      simp [startOf] at h
      omega
    · omega
  obtain ⟨h1, h2⟩ := spread_symsIn norm L hn
  exact ⟨h1, h2, step_odd⟩

/-! ### any bytes → closed tables -/

/-- ZSTD_buildSeqTable in its four modes (zstd_decompress_block.c; model `Block.buildSeqTable`) - `set_rle`: `rleSeqTable_closed`;
`set_basic`: the predefined table; `set_repeat`: the previous table (closed by induction over the blocks); `set_compressed`:
`readNCount_normOK` + `cell_closed`, given that the spreading respects the counts (`FSE.spread_ok` proves it for `4 ≤ tableLog`; C03 / C04
discharge `hspread` with it) -/
theorem block_buildSeqTable_closed {mode : Nat} {src : Bytes} {ip iend maxSym maxLog : Nat} {base bits : List Nat}
    {dflt : List SeqCell} {dfltLog : Nat} {prev : Array SeqCell} {prevLog : Nat} {fseValid : Bool}
    {T : Array SeqCell} {log used : Nat}
    (h : Block.buildSeqTable mode src ip iend maxSym maxLog base bits dflt dfltLog prev prevLog fseValid = .ok (T, log, used))
    (hd : SeqClosed dflt.toArray dfltLog) (hp : fseValid = true → SeqClosed prev prevLog)
    (hspread : ∀ nc, FSE.readNCount src ip (iend - ip) maxSym = .ok nc → SpreadOK (spread nc.norm nc.tableLog) nc.norm nc.tableLog) :
    SeqClosed T log := by
  suffices Post (fun r => SeqClosed r.1 r.2.1)
      (Block.buildSeqTable mode src ip iend maxSym maxLog base bits dflt dfltLog prev prevLog fseValid) from this _ h
  unfold Block.buildSeqTable
  refine Post.ite (fun _ => Post.guard fun _ => Post.guard fun _ => Post.pure (rleSeqTable_closed _ _ _)) fun _ =>
    Post.ite (fun _ => Post.pure hd) fun _ => Post.ite (fun _ => Post.guard fun hv => Post.pure (hp (by simpa using hv))) fun _ => ?_
  cases hr : FSE.readNCount src ip (iend - ip) maxSym with
  | error e => exact Post.throw_bind
  | ok nc =>
    refine Post.bind fun _ e => ?_
    cases e
    exact Post.guard fun _ => Post.pure (buildSeqTable_closed_of_spread (readNCount_normOK _ _ _ _ _ hr).1 (hspread nc hr) base bits)

/-- ZSTD_decompressSequences_body as `Block.prepare` starts it: the three initial states are `BIT_readBits(tableLog)` (ZSTD_initFseState) -/
theorem decodeSeqs_from_stream_inbounds (llT ofT mlT : Array SeqCell) (llLog ofLog mlLog : Nat) (hLL : SeqClosed llT llLog)
    (hOF : SeqClosed ofT ofLog) (hML : SeqClosed mlT mlLog) (nbSeq : Nat) (r0 : BitR) (rep0 : Array Nat) :
    decodeSeqsChecked llT ofT mlT nbSeq (r0.read llLog).1 ((r0.read llLog).2.read ofLog).1
        (((r0.read llLog).2.read ofLog).2.read mlLog).1 (((r0.read llLog).2.read ofLog).2.read mlLog).2 rep0 =
      some (decodeSeqs llT ofT mlT nbSeq (r0.read llLog).1 ((r0.read llLog).2.read ofLog).1
        (((r0.read llLog).2.read ofLog).2.read mlLog).1 (((r0.read llLog).2.read ofLog).2.read mlLog).2 rep0) :=
  decodeSeqs_states_inbounds llT ofT mlT llLog ofLog mlLog hLL hOF hML nbSeq _ _ _ _ rep0 (read_lt _ _) (read_lt _ _) (read_lt _ _)

/-! ### non-vacuity -/

/-- tableLog 5: 16 + 8 + 4 + 2 + 1 cells and one "less than one" symbol -/
example : NormOK #[16, 8, 4, 2, 1, -1] 5 := by decide
private theorem sample_spreadOK : SpreadOK (spread #[16, 8, 4, 2, 1, -1] 5) #[16, 8, 4, 2, 1, -1] 5 := by decide +kernel
example : SpreadOK (spread #[16, 8, 4, 2, 1, -1] 5) #[16, 8, 4, 2, 1, -1] 5 := sample_spreadOK
example : CellsClosed (buildCells #[16, 8, 4, 2, 1, -1] 5) 5 :=
  cellsOf_closed (by decide) sample_spreadOK
/-- the same table, closedness checked cell by cell -/
example : CellsClosed (buildCells #[16, 8, 4, 2, 1, -1] 5) 5 := by decide +kernel
/-- `newState + 2^nbBits` overshoots -/
example : ¬ CellsClosed #[⟨0, 1, 1⟩, ⟨0, 0, 1⟩] 1 := by decide
example (nbSeq : Nat) (r0 : BitR) (rep0 : Array Nat) :
    decodeSeqsChecked LL_defaultDTable.toArray OF_defaultDTable.toArray ML_defaultDTable.toArray nbSeq
        (r0.read 6).1 ((r0.read 6).2.read 5).1 (((r0.read 6).2.read 5).2.read 6).1 (((r0.read 6).2.read 5).2.read 6).2 rep0 =
      some (decodeSeqs LL_defaultDTable.toArray OF_defaultDTable.toArray ML_defaultDTable.toArray nbSeq
        (r0.read 6).1 ((r0.read 6).2.read 5).1 (((r0.read 6).2.read 5).2.read 6).1 (((r0.read 6).2.read 5).2.read 6).2 rep0) :=
  decodeSeqs_from_stream_inbounds _ _ _ 6 5 6 default_tables_closed.1 default_tables_closed.2.1 default_tables_closed.2.2 nbSeq r0 rep0
/-- an over-read: 5 bits asked, 3 bits left (`101`), two zero bits appended -/
example : (BitR.read ⟨ByteArray.mk #[5], 0, 3, false⟩ 5).1 = 20 := by decide
example : (Huf.buildTable ⟨#[2, 1, 1], 2, 0⟩).cells.size = 2 ^ (Huf.buildTable ⟨#[2, 1, 1], 2, 0⟩).log := buildTable_size _
/-- the checked twins do return `none` on a table that is too short -/
example (r0 : BitR) (rep0 : Array Nat) : decodeSeqsChecked #[] #[] #[] 1 0 0 0 r0 rep0 = none := by
  unfold decodeSeqsChecked
  dsimp only
  rw [Std.Legacy.Range.forIn_eq_forIn_range']
  rfl
example (src : Bytes) (start len : Nat) (r : BitR) (h : BitR.init src start len = .ok r) :
    (decode1Checked ⟨1, #[]⟩ src start len 1 ByteArray.empty).run = none := by
  simp only [decode1Checked, h, Std.Legacy.Range.forIn_eq_forIn_range']
  rfl

end ZstdVerif.TableSafe
