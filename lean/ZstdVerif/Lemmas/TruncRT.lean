/-
C09 — the truncation theorems of the frame walker (Model/Walker.lean, Lemmas/WalkerRT.lean) transferred to the full decoder model
(Model/Frame.lean), and the decoder's header-truthfulness checks.  Whatever `Frame.decompressFrame` accepts, `Walker.frameSize` accepts
with the same extent (`decompressFrame_walks`, on `blocks_walk`), and whatever `Frame.decompressAll` accepts, `Walker.frames` tiles
with the sizes in the traces (`decompressAll_walks`); the decoder then rejects truncation and trailing garbage because the walker
does.  Props/C09 restates the results.  Last part: `Frame.findFrameCompressedSize` against `Walker.frameSize`.
Loop states are the tuples `FrameRT.St` and `FrameRT.StA` of Lemmas/FrameAnatomy.lean.
-/
import ZstdVerif.Model.Frame
import ZstdVerif.Model.Walker
import ZstdVerif.Lemmas.WalkerRT
import ZstdVerif.Lemmas.FrameRT
namespace ZstdVerif.TruncRT
open ZstdVerif ZstdVerif.Gen ZstdVerif.Frame ZstdVerif.Walker ZstdVerif.Props.C09
open ZstdVerif.Serialize ZstdVerif.HeaderW ZstdVerif.FrameRT

/-! ### bit operations of Frame.lean against the div / mod of Walker.lean -/

theorem and_shifted_mask (x k w : Nat) : x &&& ((2 ^ w - 1) * 2 ^ k) = x / 2 ^ k % 2 ^ w * 2 ^ k := by
  apply Nat.eq_of_testBit_eq
  intro i
  rw [Nat.testBit_and, Nat.testBit_mul_two_pow, Nat.testBit_mul_two_pow, Nat.testBit_mod_two_pow, Nat.testBit_div_two_pow,
    Nat.testBit_two_pow_sub_one]
  by_cases h : k ≤ i
  · simp [h, show i - k + k = i by omega]; exact Bool.and_comm _ _
  · simp [h]

/-- the skippable-magic test of zstd_decompress.c (`(magic & 0xFFFFFFF0) == 0x184D2A50`) is the walker's `isSkippable` -/
theorem skippable_iff (x : Nat) (hx : x < 2 ^ 32) :
    (x &&& ZSTD_MAGIC_SKIPPABLE_MASK == ZSTD_MAGIC_SKIPPABLE_START) = true ↔ isSkippable x := by
  unfold isSkippable ZSTD_MAGIC_SKIPPABLE_MASK ZSTD_MAGIC_SKIPPABLE_START
  rw [beq_iff_eq, show (4294967280 : Nat) = (2 ^ 28 - 1) * 2 ^ 4 from rfl, and_shifted_mask]
  omega

theorem and8_ne (x : Nat) : (x &&& 8 != 0) = true ↔ (x / 8) % 2 = 1 := by
  rw [show (8 : Nat) = (2 ^ 1 - 1) * 2 ^ 3 from rfl, and_shifted_mask, bne_iff_ne]; omega

/-! ### the byte oracle of a `ByteArray` -/

/-- the walker's byte oracle for a concrete input (0 beyond the end; the walker never looks there) -/
def oracle (src : Bytes) : Get := fun i => src.u8 i

theorem oracle_apply (src : Bytes) (i : Nat) : oracle src i = src.u8 i := rfl

theorem le24_oracle (src : Bytes) (i : Nat) : le24 (oracle src) i = src.le24 i := by
  unfold le24 oracle ByteArray.le24
  simp only [Nat.shiftLeft_eq]

theorem le32_oracle (src : Bytes) (i : Nat) : le32 (oracle src) i = src.le32 i := by
  unfold le32 oracle ByteArray.le32
  simp only [Nat.shiftLeft_eq]

/-- ZSTD_frameHeaderSize_internal, zstd1 format: the two transcriptions agree -/
theorem headerSizeOf_eq (fhd : Nat) : headerSizeOf fhd false = headerSize fhd := by
  unfold headerSizeOf headerSize
  simp only [Bool.false_eq_true, if_false, and3, Nat.shiftRight_eq_div_pow, Nat.and_one_is_mod, Nat.reducePow]
  congr 1
  by_cases h1 : fhd / 32 % 2 = 1 <;> by_cases h2 : fhd / 64 = 0 <;> simp [h1, h2]

/-! ### the walker reads only inside `[ip, ip + rem)` -/

theorem le24_congr {g g' : Get} {ip ip' rem : Nat} (h : ∀ i, i < rem → g (ip + i) = g' (ip' + i)) (h3 : 3 ≤ rem) :
    le24 g ip = le24 g' ip' := by
  have a0 : g ip = g' ip' := h 0 (by omega)
  unfold le24
  rw [a0, h 1 (by omega), h 2 (by omega)]

theorem le32_congr {g g' : Get} {ip ip' rem : Nat} (h : ∀ i, i < rem → g (ip + i) = g' (ip' + i)) (k : Nat) (h4 : k + 4 ≤ rem) :
    le32 g (ip + k) = le32 g' (ip' + k) := by
  unfold le32
  simp only [Nat.add_assoc]
  rw [h k (by omega), h (k + 1) (by omega), h (k + 2) (by omega), h (k + 3) (by omega)]

theorem walkBlocks_congr (g g' : Get) (ip ip' rem : Nat) (h : ∀ i, i < rem → g (ip + i) = g' (ip' + i)) :
    walkBlocks g ip rem = walkBlocks g' ip' rem := by
  induction rem using Nat.strongRecOn generalizing ip ip' with
  | _ rem ih =>
    rw [walkBlocks.eq_1 g ip rem, walkBlocks.eq_1 g' ip' rem]
    refine ite_congr rfl (fun _ => rfl) fun h3 => ?_
    have hx := bExtent_ge (le24 g' ip')
    rw [le24_congr h (by omega), ih (rem - bExtent (le24 g' ip')) (by omega) (ip + bExtent (le24 g' ip')) (ip' + bExtent (le24 g' ip'))
      (fun i hi => by rw [Nat.add_assoc, Nat.add_assoc]; exact h _ (by omega))]

theorem frameSize_congr (g g' : Get) (ip ip' rem : Nat) (h : ∀ i, i < rem → g (ip + i) = g' (ip' + i)) :
    frameSize g ip rem = frameSize g' ip' rem := by
  unfold frameSize
  refine ite_congr rfl (fun _ => rfl) fun h5 => ?_
  have e0 : le32 g ip = le32 g' ip' := le32_congr h 0 (by omega)
  rw [e0, h 4 (by omega)]
  refine ite_congr rfl (fun _ => ite_congr rfl (fun _ => rfl) fun h8 => by rw [le32_congr h 4 (by omega)]) fun _ =>
    ite_congr rfl (fun _ => rfl) fun _ => ite_congr rfl (fun _ => rfl) fun hh => ?_
  rw [walkBlocks_congr g g' (ip + headerSize (g' (ip' + 4))) (ip' + headerSize (g' (ip' + 4)))
    (rem - headerSize (g' (ip' + 4))) (fun i hi => by rw [Nat.add_assoc, Nat.add_assoc]; exact h _ (by omega))]

theorem frames_congr (g g' : Get) (f ip ip' rem : Nat) (h : ∀ i, i < rem → g (ip + i) = g' (ip' + i)) :
    frames g f ip rem = frames g' f ip' rem := by
  induction f generalizing ip ip' rem with
  | zero => unfold frames; rfl
  | succ f ih =>
    by_cases h0 : rem = 0
    · rw [h0, frames_nil, frames_nil]
    rw [frames_succ g f ip h0, frames_succ g' f ip' h0, frameSize_congr g g' ip ip' rem h]
    cases hfs : frameSize g' ip' rem with
    | error e => rfl
    | ok n =>
      have hle := (frameSize_exact g' ip' rem n hfs).1
      dsimp only
      rw [ih (ip + n) (ip' + n) (rem - n) (fun i hi => by rw [Nat.add_assoc, Nat.add_assoc]; exact h _ (by omega))]

/-! ### fuel and concatenation of `Walker.frames` -/

theorem frames_fuel (g : Get) (f ip rem : Nat) (L : List Nat) (h : frames g f ip rem = .ok L) :
    L.length ≤ f ∧ ∀ f', L.length ≤ f' → frames g f' ip rem = .ok L := by
  induction L generalizing f ip rem with
  | nil =>
    rcases frames_ok_cases h with ⟨rfl, _⟩ | ⟨_, _, _, _, _, _, _, c⟩
    · exact ⟨Nat.zero_le _, fun f' _ => frames_nil g f' ip⟩
    · cases c
  | cons a L' ih =>
    rcases frames_ok_cases h with ⟨_, c⟩ | ⟨h0, f0, _, _, rfl, hfs, hrec, c⟩
    · cases c
    cases c
    obtain ⟨hl, hm⟩ := ih _ _ _ hrec
    refine ⟨Nat.succ_le_succ hl, fun f' hf' => ?_⟩
    obtain ⟨f'', rfl⟩ : ∃ f'', f' = f'' + 1 := ⟨f' - 1, by rw [List.length_cons] at hf'; omega⟩
    rw [frames_succ g f'' ip h0, hfs]
    dsimp only
    rw [hm f'' (Nat.le_of_succ_le_succ hf')]

theorem frames_split (g : Get) (f f' ip n r : Nat) (L0 L1 : List Nat) (h0 : frames g f ip n = .ok L0)
    (h1 : frames g f' ip (n + r) = .ok L1) : ∃ L2, L1 = L0 ++ L2 ∧ frames g f' (ip + n) r = .ok L2 := by
  induction L0 generalizing f f' ip n L1 with
  | nil =>
    rcases frames_ok_cases h0 with ⟨rfl, _⟩ | ⟨_, _, _, _, _, _, _, c⟩
    · exact ⟨L1, rfl, by rwa [Nat.zero_add] at h1⟩
    · cases c
  | cons a L0' ih =>
    rcases frames_ok_cases h0 with ⟨_, c⟩ | ⟨hn, f0, _, _, rfl, hfs, hrec, c⟩
    · cases c
    cases c
    obtain ⟨hle, hpos, hge, _⟩ := frameSize_exact g ip n a hfs
    rcases frames_ok_cases h1 with ⟨c, _⟩ | ⟨_, f1, b, L1', rfl, hfs', hrec', rfl⟩
    · omega
    rw [hge (n + r) (by omega)] at hfs'
    cases hfs'
    rw [show n + r - a = n - a + r by omega] at hrec'
    obtain ⟨L2, hL, hfr⟩ := ih f0 f1 (ip + a) (n - a) L1' hrec hrec'
    rw [Nat.add_assoc, Nat.add_sub_cancel' hle] at hfr
    exact ⟨L2, by rw [hL]; rfl, (frames_fuel g _ _ _ _ hfr).2 _ (Nat.le_succ_of_le (frames_fuel g _ _ _ _ hfr).1)⟩

/-! ### block headers and the block loop: decoder against walker -/

/-- ZSTD_getcBlockSize: the decoder's transcription written with the walker's field extractors -/
theorem blockHeader_eq (src : Bytes) (ip rem : Nat) :
    blockHeader src ip rem =
      if rem < 3 then .error .srcSizeWrong
      else if bType (le24 (oracle src) ip) = 3 then .error (.corruptionAt "Frame:104")
      else .ok { last := bLast (le24 (oracle src) ip), ty := bType (le24 (oracle src) ip),
                 cSize := bExtent (le24 (oracle src) ip) - 3, origSize := le24 (oracle src) ip / 8 } := by
  unfold blockHeader
  rw [le24_oracle]
  simp only [show ZSTD_blockHeaderSize = 3 from rfl, bType, bLast, bExtent, Nat.shiftRight_eq_div_pow, and3, Nat.and_one_is_mod,
    Nat.reducePow, Nat.pow_one]
  have hb : ∀ a b : Nat, (a == b) = decide (a = b) := fun a b => by by_cases h : a = b <;> simp [h]
  refine ite_congr rfl (fun _ => rfl) fun _ => ?_
  by_cases ht : src.le24 ip / 2 % 4 = 3
  · simp [ht]
  · by_cases h1 : src.le24 ip / 2 % 4 = 1 <;> simp [ht, h1, hb]

theorem blockHeader_ok {src : Bytes} {ip rem : Nat} {v : BlockHdr} (h : blockHeader src ip rem = .ok v) :
    3 ≤ rem ∧ bType (le24 (oracle src) ip) ≠ 3 ∧ v.last = bLast (le24 (oracle src) ip) ∧
    3 + v.cSize = bExtent (le24 (oracle src) ip) := by
  have hx := bExtent_ge (le24 (oracle src) ip)
  rw [blockHeader_eq, ite_error_ok_iff, ite_error_ok_iff, Nat.not_lt] at h
  obtain ⟨h3, ht, h⟩ := h
  cases h
  exact ⟨h3, ht, rfl, by dsimp only; omega⟩

/-- the block loop of the decoder, step by step, is the recursion of `Walker.walkBlocks` -/
theorem blocks_walk {src dc : Bytes} {fs cap bsm : Nat} : ∀ (l : List Nat) (s r : St),
    forIn l s (fun _ => blockStep src dc fs cap bsm) = .ok r → lastSeen s.2.2.2.2.1 = false → lastSeen r.2.2.2.2.1 = true →
    s.1 ≤ r.1 ∧ r.1 + r.2.1 = s.1 + s.2.1 ∧ walkBlocks (oracle src) s.1 s.2.1 = .ok (r.1 - s.1) := by
  intro l
  induction l with
  | nil =>
    intro s r h hs hr
    cases h
    rw [hs] at hr; cases hr
  | cons i l ih =>
    intro s r h hs hr
    obtain ⟨ip, rem, out, ent, blocks, lax⟩ := s
    obtain ⟨st, hstep, h⟩ := forIn_cons_ok h
    obtain ⟨bh, out', ent', btr, hbh, hfit, -, rfl⟩ := blockStep_ok_iff.1 hstep
    obtain ⟨h3, hty, hlast, hext⟩ := blockHeader_ok hbh
    dsimp only
    cases hl : bh.last with
    | true =>
      rw [hl] at h hlast
      cases h
      exact ⟨by omega, by dsimp only; omega, walkBlocks_ok_iff.2 ⟨hty, by omega, by rw [if_pos hlast.symm]; omega⟩⟩
    | false =>
      rw [hl] at h hlast
      obtain ⟨k1, k2, k3⟩ := ih _ r h (by simp [lastSeen, hl]) hr
      dsimp only at k1 k2 k3
      refine ⟨by omega, by omega, walkBlocks_ok_iff.2 ⟨hty, by omega, ?_⟩⟩
      rw [if_neg (by rw [← hlast]; exact Bool.false_ne_true), ← hext]
      exact ⟨_, by rw [← Nat.add_assoc, ← Nat.sub_sub]; exact k3, by omega⟩

/-! ### the frame header -/

/-- ZSTD_getFrameHeader_advanced (zstd1 format, magic + descriptor present) in the walker's vocabulary, error cases included: the
comparison of `findFrameCompressedSize` with the walker needs them (`getHeader_zstd1` only says what success implies) -/
theorem getHeader_zstd1_eq (src : Bytes) (start n : Nat) (h5 : 5 ≤ n) :
    getHeader src start n false =
      if src.le32 start ≠ ZSTD_MAGICNUMBER then
        if isSkippable (src.le32 start) then
          if n < 8 then .need 8
          else .ok { skippable := true, headerSize := 8, fcs := some (src.le32 (start + 4)), dictID := src.le32 start - ZSTD_MAGIC_SKIPPABLE_START }
        else .err .prefixUnknown
      else if n < headerSize (src.u8 (start + 4)) then .need (headerSize (src.u8 (start + 4)))
      else if (src.u8 (start + 4) / 8) % 2 = 1 then .err .unsupported
      else parseFields src (start + 5) (src.u8 (start + 4)) (headerSize (src.u8 (start + 4))) := by
  unfold getHeader
  simp only [Bool.false_eq_true, if_false, Bool.not_false, Bool.true_and, show ¬ n < 5 by omega, show start + 5 - 1 = start + 4 from rfl,
    headerSizeOf_eq, show ZSTD_SKIPPABLEHEADERSIZE = 8 from rfl]
  refine ite_congr (propext bne_iff_ne) (fun _ => ite_congr (propext (skippable_iff _ (ByteArray.le32_lt _ _))) (fun _ => rfl) fun _ => rfl) fun _ =>
    ite_congr rfl (fun _ => rfl) fun _ => ite_congr (propext (and8_ne _)) (fun _ => rfl) fun _ => rfl

theorem ckSize_eq {src : Bytes} {p fhd fh : Nat} {hd : Header} (h : parseFields src p fhd fh = .ok hd) :
    ckSize fhd = if hd.checksum = true then 4 else 0 := by
  rw [(parseFields_ok h).2.2.2, ckSize]
  simp only [Nat.shiftRight_eq_div_pow, Nat.and_one_is_mod, beq_iff_eq, Nat.reducePow]

theorem getHeader_zstd1 {src : Bytes} {start n : Nat} {hd : Header} (h : getHeader src start n false = .ok hd) (hs : hd.skippable = false) :
    src.le32 start = ZSTD_MAGICNUMBER ∧ headerSize (src.u8 (start + 4)) ≤ n ∧ ¬ (src.u8 (start + 4) / 8) % 2 = 1 ∧
    hd.headerSize = headerSize (src.u8 (start + 4)) ∧ ckSize (src.u8 (start + 4)) = if hd.checksum = true then 4 else 0 := by
  obtain ⟨k2, k3, k4, k5⟩ := getHeader_ok h (.inl hs)
  have p1 := (parseFields_ok k5).1
  have p5 := ckSize_eq k5
  rw [show (start + if false = true then 1 else 5) - 1 = start + 4 from rfl] at k3 k4 p1 p5
  rw [headerSizeOf_eq] at k3 p1
  exact ⟨k2.resolve_left Bool.false_ne_true, k3, fun c => Bool.false_ne_true (k4 ▸ (and8_ne _).2 c), p1, p5⟩

/-! ### an accepted frame (ZSTD_decompressFrame) -/

/-- what ZSTD_decompressFrame has checked when it returns success -/
theorem decompressFrame_anatomy {src : Bytes} {ip0 rem : Nat} {dict : Dict} {out0 : ByteArray} {cap : Nat} {o : Opts}
    {out : ByteArray} {used : Nat} {tr : FrameTrace}
    (h : decompressFrame src ip0 rem dict out0 cap o = .ok (out, used, tr)) :
    getHeader src ip0 (fhSizeAt src ip0 o) o.magicless = .ok tr.hdr ∧ tr.hdr.skippable = false ∧
    (tr.hdr.dictID != 0 && dict.id != tr.hdr.dictID) = false ∧
    fhSizeAt src ip0 o + 3 ≤ rem ∧
    (∃ u, walkBlocks (oracle src) (ip0 + fhSizeAt src ip0 o) (rem - fhSizeAt src ip0 o) = .ok u ∧
      used = fhSizeAt src ip0 o + u + (if tr.hdr.checksum = true then 4 else 0) ∧ used ≤ rem ∧
      (tr.hdr.checksum = true →
        tr.storedChecksum = some (src.le32 (ip0 + fhSizeAt src ip0 o + u)) ∧
        (o.ignoreChecksum = false → src.le32 (ip0 + fhSizeAt src ip0 o + u) =
          (XXH64.hashRange out out0.size (out.size - out0.size)).toNat &&& 0xFFFFFFFF))) ∧
    (∀ n, tr.hdr.fcs = some n → out.size - out0.size = n) ∧ tr.size = used := by
  obtain ⟨-, hroom, hd, s, hg, hsk, hdict, hloop, hend⟩ := decompressFrame_ok_iff.1 h
  obtain ⟨ip, r, out', ent, blocks, lax⟩ := s
  obtain ⟨hlast, hfcs, hck, -, hres⟩ := frameEnd_ok_iff.1 hend
  rw [endResult] at hres
  cases hres
  obtain ⟨w1, w2, w3⟩ := blocks_walk _ _ _ hloop rfl hlast
  dsimp only at w1 w2 w3 ⊢
  generalize fhSizeAt src ip0 o = fh at *
  have hip : ip0 + fh + (ip - (ip0 + fh)) = ip := by omega
  refine ⟨hg, hsk, hdict, hroom, ⟨ip - (ip0 + fh), w3, by split <;> omega, ?_, fun hc => ?_⟩, hfcs, rfl⟩
  · split
    · have := (hck ‹_›).1; omega
    · omega
  · rw [hip, if_pos hc]; exact ⟨rfl, (hck hc).2⟩

theorem fhSizeAt_zstd1 (src : Bytes) (ip0 : Nat) {o : Opts} (hml : o.magicless = false) :
    fhSizeAt src ip0 o = headerSize (src.u8 (ip0 + 4)) := by
  rw [fhSizeAt, hml, headerSizeOf_eq]; rfl

/-- **the decoder agrees with the walker (ZSTD_findFrameCompressedSize) on the extent of every frame it accepts** -/
theorem decompressFrame_walks {src : Bytes} {ip0 rem : Nat} {dict : Dict} {out0 : ByteArray} {cap : Nat} {o : Opts}
    {out : ByteArray} {used : Nat} {tr : FrameTrace} (hml : o.magicless = false)
    (h : decompressFrame src ip0 rem dict out0 cap o = .ok (out, used, tr)) :
    frameSize (oracle src) ip0 rem = .ok used ∧
    (∀ rem', used ≤ rem' → frameSize (oracle src) ip0 rem' = .ok used) ∧
    (∀ rem', rem' < used → ∃ e, frameSize (oracle src) ip0 rem' = .error e) := by
  obtain ⟨hg, hsk, -, hroom, ⟨u, hw, hused, hle, -⟩, -⟩ := decompressFrame_anatomy h
  rw [fhSizeAt_zstd1 src ip0 hml] at hg hroom hw hused
  rw [hml] at hg
  have h5 := headerSize_ge (src.u8 (ip0 + 4))
  obtain ⟨hmagic, -, h8, -, hck⟩ := getHeader_zstd1 hg hsk
  have key : frameSize (oracle src) ip0 rem = .ok used := by
    refine frameSize_ok_iff.2 ⟨by omega, ?_⟩
    rw [le32_oracle, oracle_apply, hmagic, if_neg (by decide), hck]
    exact ⟨rfl, by omega, h8, u, hw, hused ▸ hle, hused⟩
  obtain ⟨-, -, hge, hlt⟩ := frameSize_exact _ _ _ _ key
  exact ⟨key, hge, hlt⟩

theorem decompressFrame_used_le {src : Bytes} {ip0 rem : Nat} {dict : Dict} {out0 : ByteArray} {cap : Nat} {o : Opts}
    {out : ByteArray} {used : Nat} {tr : FrameTrace}
    (h : decompressFrame src ip0 rem dict out0 cap o = .ok (out, used, tr)) : used ≤ rem ∧ 0 < used := by
  obtain ⟨-, -, -, -, ⟨u, -, hused, hle, -⟩, -⟩ := decompressFrame_anatomy h
  have hge : 1 ≤ fhSizeAt src ip0 o := Nat.le_trans (by split <;> omega) (headerSizeOf_ge _ _)
  exact ⟨hle, by omega⟩

/-- frame-level truncation: the extent of an accepted frame does not depend on the dictionary, the capacity, the options or the
amount of input announced -/
theorem decompressFrame_rejects_short {src : Bytes} {ip0 rem : Nat} {dict : Dict} {out0 : ByteArray} {cap : Nat} {o : Opts}
    {out : ByteArray} {used : Nat} {tr : FrameTrace} (hml : o.magicless = false)
    (h : decompressFrame src ip0 rem dict out0 cap o = .ok (out, used, tr))
    (rem2 : Nat) (dict2 : Dict) (out02 : ByteArray) (cap2 : Nat) (o2 : Opts) (hml2 : o2.magicless = false) :
    (∀ out2 used2 tr2, decompressFrame src ip0 rem2 dict2 out02 cap2 o2 = .ok (out2, used2, tr2) → used2 = used) ∧
    (rem2 < used → ∃ e, decompressFrame src ip0 rem2 dict2 out02 cap2 o2 = .error e) := by
  obtain ⟨-, hge, hlt⟩ := decompressFrame_walks hml h
  have huniq : ∀ out2 used2 tr2, decompressFrame src ip0 rem2 dict2 out02 cap2 o2 = .ok (out2, used2, tr2) → used2 = used := by
    intro out2 used2 tr2 h2
    have w2 := (decompressFrame_walks hml2 h2).1
    have hle2 := (decompressFrame_used_le h2).1
    by_cases c : rem2 < used
    · obtain ⟨e, he⟩ := hlt rem2 c
      rw [he] at w2; cases w2
    · rw [hge rem2 (by omega)] at w2
      cases w2; rfl
  refine ⟨huniq, fun c => error_of_not_ok fun r h2 => ?_⟩
  have := huniq r.1 r.2.1 r.2.2 h2
  have hle2 := (decompressFrame_used_le (out := r.1) (used := r.2.1) (tr := r.2.2) h2).1
  omega

/-! ### several frames (ZSTD_decompressMultiFrame) -/

/-- the compressed sizes of the frames (zstd and skippable) the decoder went through, in order -/
def sizesOf (traces : Array FrameTrace) : List Nat := traces.toList.map (·.size)

theorem sizesOf_push (T : Array FrameTrace) (t : FrameTrace) : sizesOf (T.push t) = sizesOf T ++ [t.size] := by
  simp [sizesOf]

theorem skippable_walks {src : Bytes} {ip rem v : Nat} (h5 : 5 ≤ rem)
    (hm : (src.le32 ip &&& ZSTD_MAGIC_SKIPPABLE_MASK == ZSTD_MAGIC_SKIPPABLE_START) = true)
    (h : skippableSize src ip rem = .ok v) : frameSize (oracle src) ip rem = .ok v := by
  unfold skippableSize at h
  simp only [show ZSTD_SKIPPABLEHEADERSIZE = 8 from rfl] at h
  rw [ite_error_ok_iff, ite_error_ok_iff, ite_error_ok_iff] at h
  obtain ⟨h8, hbig, hfit, h⟩ := h
  cases h
  refine frameSize_ok_iff.2 ⟨h5, ?_⟩
  rw [le32_oracle, le32_oracle, if_pos ((skippable_iff _ (ByteArray.le32_lt _ _)).mp hm)]
  exact ⟨by omega, by omega, rfl⟩

theorem frameStep_walks {src : Bytes} {dict : Dict} {cap : Nat} {o : Opts} (hml : o.magicless = false) {ip rem : Nat} {out : ByteArray}
    {T : Array FrameTrace} {more : Bool} {st : ForInStep StA} (h : frameStep src dict cap o (ip, rem, out, T, more) = .ok st) :
    (rem < 5 ∧ st = .done (ip, rem, out, T, more)) ∨
    ∃ t out' more', frameSize (oracle src) ip rem = .ok t.size ∧ st = .yield (ip + t.size, rem - t.size, out', T.push t, more') := by
  by_cases h5 : rem < 5
  · rw [frameStep, if_pos h5] at h
    cases h; exact .inl ⟨h5, rfl⟩
  rw [frameStep, if_neg h5, ite_error_ok_iff] at h
  refine .inr ?_
  obtain ⟨-, h⟩ := h
  split at h
  · rename_i hm
    cases hv : skippableSize src ip rem with
    | error e => rw [hv] at h; cases h
    | ok v => rw [hv] at h; cases h; exact ⟨⟨_, _, v, _, _, _, _⟩, out, more, skippable_walks (Nat.not_lt.1 h5) hm hv, rfl⟩
  · cases hfr : decompressFrame src ip rem dict out cap o with
    | error e => rw [hfr] at h; cases h
    | ok res =>
      obtain ⟨out', used, tr⟩ := res
      rw [hfr] at h; cases h
      have hsz : tr.size = used := (decompressFrame_anatomy hfr).2.2.2.2.2.2
      exact ⟨tr, out', true, by rw [hsz]; exact (decompressFrame_walks hml hfr).1, by rw [hsz]⟩

theorem frames_walk {src : Bytes} {dict : Dict} {cap : Nat} {o : Opts} (hml : o.magicless = false) : ∀ (l : List Nat) (s r : StA),
    forIn l s (fun _ => frameStep src dict cap o) = .ok r → r.2.1 = 0 →
    ∃ L, sizesOf r.2.2.2.1 = sizesOf s.2.2.2.1 ++ L ∧ frames (oracle src) L.length s.1 s.2.1 = .ok L := by
  intro l
  induction l with
  | nil =>
    intro s r h hr
    cases h
    exact ⟨[], (List.append_nil _).symm, by rw [hr]; rfl⟩
  | cons i l ih =>
    intro s r h hr
    obtain ⟨ip, rem, out, T, more⟩ := s
    obtain ⟨st, hstep, h⟩ := forIn_cons_ok h
    rcases frameStep_walks hml hstep with ⟨-, rfl⟩ | ⟨t, out', more', hfs, rfl⟩
    · cases h
      exact ⟨[], (List.append_nil _).symm, by dsimp only at hr ⊢; rw [hr]; rfl⟩
    · obtain ⟨L, hL, hfr⟩ := ih _ r h hr
      obtain ⟨hle, hpos, -⟩ := frameSize_exact _ _ _ _ hfs
      refine ⟨t.size :: L, by rw [hL, sizesOf_push, List.append_assoc]; rfl, ?_⟩
      dsimp only at hfr ⊢
      rw [List.length_cons, frames_succ _ _ _ (by omega), hfs]
      dsimp only
      rw [hfr]

/-- **an input accepted by ZSTD_decompress is exactly a whole number of frames and skippable frames**, of the sizes in the traces -/
theorem decompressAll_walks {src : Bytes} {dict : Dict} {cap : Nat} {o : Opts} {out : ByteArray} {traces : Array FrameTrace}
    (hml : o.magicless = false) (h : decompressAll src dict cap o = .ok (out, traces)) :
    ∀ fuel, traces.size ≤ fuel → frames (oracle src) fuel 0 src.size = .ok (sizesOf traces) := by
  obtain ⟨ip, more, hloop⟩ := (decompressAll_ok_iff hml).1 h
  obtain ⟨L, hL, hfr⟩ := frames_walk hml _ _ _ hloop rfl
  rw [show sizesOf #[] = [] from rfl, List.nil_append] at hL
  rw [hL]
  intro fuel hf
  refine (frames_fuel _ _ _ _ _ hfr).2 fuel ?_
  rw [← hL, sizesOf, List.length_map, Array.length_toList]
  exact hf

/-! ### truncation -/

theorem size_extract_prefix (src : Bytes) (k : Nat) (hk : k ≤ src.size) : (src.extract 0 k).size = k := by
  rw [ByteArray.size_extract]; omega

/-- `k` is the end of one of the frames the decoder went through (or 0) -/
def FrameBoundary (traces : Array FrameTrace) (k : Nat) : Prop := ∃ m, k = ((sizesOf traces).take m).sum

/-- **a cut of an accepted input that is accepted too lies on a frame boundary**; the two decodes may use different dictionaries,
capacities and options -/
theorem truncation_lands_on_frame_boundary {src : Bytes} {dict : Dict} {cap : Nat} {o : Opts} {out : ByteArray} {traces : Array FrameTrace}
    (hml : o.magicless = false) (h : decompressAll src dict cap o = .ok (out, traces))
    {k : Nat} (hk : k ≤ src.size) {dict2 : Dict} {cap2 : Nat} {o2 : Opts} {out2 : ByteArray} {traces2 : Array FrameTrace}
    (hml2 : o2.magicless = false) (h2 : decompressAll (src.extract 0 k) dict2 cap2 o2 = .ok (out2, traces2)) :
    sizesOf traces2 <+: sizesOf traces ∧ (sizesOf traces2).sum = k ∧ FrameBoundary traces k := by
  have W := decompressAll_walks hml h _ (Nat.le_refl _)
  have W2 := decompressAll_walks hml2 h2 _ (Nat.le_refl _)
  rw [size_extract_prefix src k hk,
    frames_congr (oracle (src.extract 0 k)) (oracle src) _ 0 0 k (fun i hi => by
      simp only [Nat.zero_add, oracle_apply]; rw [ByteArray.u8_extract src 0 k i (by omega), Nat.zero_add])] at W2
  have hp := accepted_prefix_is_frame_boundary _ _ _ _ _ _ _ _ W W2 hk
  have hs := frames_tile _ _ _ _ _ W2
  refine ⟨hp, hs, (sizesOf traces2).length, ?_⟩
  rw [← List.prefix_iff_eq_take.mp hp, hs]

/-- **truncation is never accepted**: a cut that is not the end of one of the frames is an error for every dictionary, capacity and
option set (zstd1 format), never a shorter success -/
theorem decoder_rejects_truncation {src : Bytes} {dict : Dict} {cap : Nat} {o : Opts} {out : ByteArray} {traces : Array FrameTrace}
    (hml : o.magicless = false) (h : decompressAll src dict cap o = .ok (out, traces))
    {k : Nat} (hk : k ≤ src.size) (hnb : ¬ FrameBoundary traces k) (dict2 : Dict) (cap2 : Nat) (o2 : Opts) (hml2 : o2.magicless = false) :
    ∃ e, decompressAll (src.extract 0 k) dict2 cap2 o2 = .error e :=
  error_of_not_ok fun r h2 => hnb (truncation_lands_on_frame_boundary hml h hk hml2 (out2 := r.1) (traces2 := r.2) h2).2.2

theorem decoder_rejects_truncation_single {src : Bytes} {dict : Dict} {cap : Nat} {o : Opts} {out : ByteArray} {traces : Array FrameTrace}
    (hml : o.magicless = false) (h : decompressAll src dict cap o = .ok (out, traces)) (h1 : traces.size = 1)
    {k : Nat} (hk0 : 0 < k) (hk : k < src.size) (dict2 : Dict) (cap2 : Nat) (o2 : Opts) (hml2 : o2.magicless = false) :
    ∃ e, decompressAll (src.extract 0 k) dict2 cap2 o2 = .error e := by
  refine decoder_rejects_truncation hml h (Nat.le_of_lt hk) ?_ dict2 cap2 o2 hml2
  rintro ⟨m, hm⟩
  have hs := frames_tile _ _ _ _ _ (decompressAll_walks hml h _ (Nat.le_refl _))
  have hl : (sizesOf traces).length = 1 := by rw [sizesOf, List.length_map, Array.length_toList, h1]
  cases m with
  | zero => rw [List.take_zero] at hm; exact absurd hm (Nat.ne_of_gt hk0)
  | succ m =>
    rw [List.take_of_length_le (by omega), hs] at hm
    omega

theorem sum_take_le (L : List Nat) (m : Nat) : (L.take m).sum ≤ L.sum := by
  induction L generalizing m with
  | nil => simp
  | cons a L ih =>
    cases m with
    | zero => simp
    | succ m => simp only [List.take_succ_cons, List.sum_cons]; have := ih m; omega

/-- the last frame of a multi-frame input: a cut strictly inside it is rejected -/
theorem decoder_rejects_truncation_last {src : Bytes} {dict : Dict} {cap : Nat} {o : Opts} {out : ByteArray} {traces : Array FrameTrace}
    (hml : o.magicless = false) (h : decompressAll src dict cap o = .ok (out, traces)) {last : FrameTrace} (hl : traces.back? = some last)
    {k : Nat} (hk0 : src.size - last.size < k) (hk : k < src.size) (dict2 : Dict) (cap2 : Nat) (o2 : Opts) (hml2 : o2.magicless = false) :
    ∃ e, decompressAll (src.extract 0 k) dict2 cap2 o2 = .error e := by
  refine decoder_rejects_truncation hml h (Nat.le_of_lt hk) ?_ dict2 cap2 o2 hml2
  rintro ⟨m, hm⟩
  have hs := frames_tile _ _ _ _ _ (decompressAll_walks hml h _ (Nat.le_refl _))
  obtain ⟨T, rfl⟩ := Array.back?_eq_some_iff.mp hl
  rw [sizesOf_push] at hm hs
  rw [List.sum_append, List.sum_singleton] at hs
  -- a boundary is the end of one of the frames before the last, or the end of the input
  by_cases c : m ≤ (sizesOf T).length
  · rw [List.take_append_of_le_length c] at hm
    have := sum_take_le (sizesOf T) m
    omega
  · rw [List.take_of_length_le (by rw [List.length_append, List.length_singleton]; omega), List.sum_append, List.sum_singleton] at hm
    omega

/-! ### trailing garbage -/

theorem tail_of_accepted_is_frames {src junk : Bytes} {dict : Dict} {cap : Nat} {o : Opts} {out : ByteArray} {traces : Array FrameTrace}
    (hml : o.magicless = false) (h : decompressAll (src ++ junk) dict cap o = .ok (out, traces))
    {f0 : Nat} {L0 : List Nat} (h0 : frames (oracle src) f0 0 src.size = .ok L0) :
    ∃ L, sizesOf traces = L0 ++ L ∧ ∀ fuel, L.length ≤ fuel → frames (oracle junk) fuel 0 junk.size = .ok L := by
  have W := decompressAll_walks hml h _ (Nat.le_refl _)
  rw [ByteArray.size_append] at W
  rw [frames_congr (oracle src) (oracle (src ++ junk)) f0 0 0 src.size (fun i hi => by
    simp only [Nat.zero_add, oracle_apply]; exact (ByteArray.u8_append_left src junk i hi).symm)] at h0
  obtain ⟨L, hL, hfr⟩ := frames_split _ _ _ _ _ _ _ _ h0 W
  rw [frames_congr (oracle (src ++ junk)) (oracle junk) _ (0 + src.size) 0 junk.size (fun i hi => by
    simp only [Nat.zero_add, oracle_apply]; exact ByteArray.u8_append_right src junk i)] at hfr
  exact ⟨L, hL, (frames_fuel _ _ _ _ _ hfr).2⟩

/-- **trailing garbage is never accepted**, positive form: what is accepted behind an accepted input is itself a whole number of
frames.  The rejection is `decoder_rejects_non_frame_tail`. -/
theorem decoder_rejects_trailing_garbage {src junk : Bytes} {dict : Dict} {cap : Nat} {o : Opts} {out : ByteArray} {traces : Array FrameTrace}
    (hml : o.magicless = false) (h : decompressAll (src ++ junk) dict cap o = .ok (out, traces))
    {dict0 : Dict} {cap0 : Nat} {o0 : Opts} {out0 : ByteArray} {traces0 : Array FrameTrace}
    (hml0 : o0.magicless = false) (h0 : decompressAll src dict0 cap0 o0 = .ok (out0, traces0)) :
    ∃ L, sizesOf traces = sizesOf traces0 ++ L ∧ ∀ fuel, L.length ≤ fuel → frames (oracle junk) fuel 0 junk.size = .ok L :=
  tail_of_accepted_is_frames hml h (decompressAll_walks hml0 h0 _ (Nat.le_refl _))

/-- the form of the walker's `trailing_garbage_rejected`; Props/C09 exports this one as `decoder_rejects_trailing_garbage` -/
theorem decoder_rejects_non_frame_tail {src junk : Bytes} {dict0 : Dict} {cap0 : Nat} {o0 : Opts} {out0 : ByteArray} {traces0 : Array FrameTrace}
    (hml0 : o0.magicless = false) (h0 : decompressAll src dict0 cap0 o0 = .ok (out0, traces0))
    (hj : 0 < junk.size) (hg : ∀ rem', ∃ e, frameSize (oracle junk) 0 rem' = .error e)
    (dict : Dict) (cap : Nat) (o : Opts) (hml : o.magicless = false) :
    ∃ e, decompressAll (src ++ junk) dict cap o = .error e := by
  refine error_of_not_ok fun r h => ?_
  obtain ⟨L, -, hfr⟩ := decoder_rejects_trailing_garbage hml (out := r.1) (traces := r.2) h hml0 h0
  have h1 := hfr (L.length + 1) (Nat.le_succ _)
  obtain ⟨e, he⟩ := hg junk.size
  rw [frames_succ _ _ _ (Nat.ne_of_gt hj), he] at h1
  cases h1

/-! ### header truthfulness in the full decoder -/

theorem decompressFrame_header {src : Bytes} {ip0 rem : Nat} {dict : Dict} {out0 : ByteArray} {cap : Nat} {o : Opts}
    {out : ByteArray} {used : Nat} {tr : FrameTrace}
    (h : decompressFrame src ip0 rem dict out0 cap o = .ok (out, used, tr)) :
    getHeader src ip0 rem o.magicless = .ok tr.hdr ∧ tr.hdr.headerSize = fhSizeAt src ip0 o := by
  obtain ⟨hg, hsk, -, hroom, -⟩ := decompressFrame_anatomy h
  have e : src.u8 (ip0 + (if o.magicless = true then 1 else 5) - 1) = src.u8 (ip0 + if o.magicless then 0 else 4) := by
    cases o.magicless <;> rfl
  have p1 : tr.hdr.headerSize = fhSizeAt src ip0 o := by
    rw [(getHeader_resize hg hsk (Nat.le_refl _)).1, e]; rfl
  exact ⟨(getHeader_resize hg hsk (by omega)).2, p1⟩

/-- **the announced content size is enforced** (ZSTD_decompressFrame: `FCS != regenerated size → corruption_detected`) -/
theorem decoder_fcs_enforced {src : Bytes} {ip0 rem : Nat} {dict : Dict} {out0 : ByteArray} {cap : Nat} {o : Opts}
    {out : ByteArray} {used : Nat} {tr : FrameTrace}
    (h : decompressFrame src ip0 rem dict out0 cap o = .ok (out, used, tr))
    {hd : Header} {n : Nat} (hh : getHeader src ip0 rem o.magicless = .ok hd) (hn : hd.fcs = some n) :
    out.size - out0.size = n := by
  cases hh.symm.trans (decompressFrame_header h).1
  exact (decompressFrame_anatomy h).2.2.2.2.2.1 n hn

/-- **the content checksum is enforced** (low 32 bits of XXH64 of the regenerated content, unless the caller asked to ignore it) -/
theorem decoder_checksum_enforced {src : Bytes} {ip0 rem : Nat} {dict : Dict} {out0 : ByteArray} {cap : Nat} {o : Opts}
    {out : ByteArray} {used : Nat} {tr : FrameTrace}
    (h : decompressFrame src ip0 rem dict out0 cap o = .ok (out, used, tr))
    {hd : Header} (hh : getHeader src ip0 rem o.magicless = .ok hd) (hc : hd.checksum = true) (hi : o.ignoreChecksum = false) :
    4 ≤ used ∧ tr.storedChecksum = some (src.le32 (ip0 + used - 4)) ∧
    src.le32 (ip0 + used - 4) = (XXH64.hashRange out out0.size (out.size - out0.size)).toNat &&& 0xFFFFFFFF := by
  cases hh.symm.trans (decompressFrame_header h).1
  obtain ⟨-, -, -, -, ⟨u, -, hused, -, hck⟩, -⟩ := decompressFrame_anatomy h
  rw [if_pos hc] at hused
  rw [show ip0 + used - 4 = ip0 + fhSizeAt src ip0 o + u by omega]
  exact ⟨by omega, (hck hc).1, (hck hc).2 hi⟩

/-- **the dictionary ID is enforced** (ZSTD_decompressFrame → ZSTD_decodeFrameHeader: `dictID mismatch → dictionary_wrong`) -/
theorem decoder_dictID_enforced {src : Bytes} {ip0 rem : Nat} {dict : Dict} {out0 : ByteArray} {cap : Nat} {o : Opts}
    {out : ByteArray} {used : Nat} {tr : FrameTrace}
    (h : decompressFrame src ip0 rem dict out0 cap o = .ok (out, used, tr))
    {hd : Header} (hh : getHeader src ip0 rem o.magicless = .ok hd) (hn : hd.dictID ≠ 0) : dict.id = hd.dictID := by
  cases hh.symm.trans (decompressFrame_header h).1
  have := (decompressFrame_anatomy h).2.2.1
  simpa [hn] using this

/-! ### ZSTD_findFrameCompressedSize: the decoder model's transcription against the walker's -/

/-- the body of the block loop of `Frame.findFrameCompressedSize` (ZSTD_findFrameSizeInfo) in the walker's terms;
state = (ip, remaining, doneLast) -/
def ffBody (src : Bytes) : Nat × Nat × Bool → R (ForInStep (Nat × Nat × Bool))
  | (ip, r, d) =>
    if r < 3 then .error .srcSizeWrong
    else if bType (le24 (oracle src) ip) = 3 then .error (.corruptionAt "Frame:104")
    else if r < bExtent (le24 (oracle src) ip) then .error (.srcSizeWrongAt "Frame:256")
    else if bLast (le24 (oracle src) ip) = true then .ok (.done (ip + bExtent (le24 (oracle src) ip), r - bExtent (le24 (oracle src) ip), true))
    else .ok (.yield (ip + bExtent (le24 (oracle src) ip), r - bExtent (le24 (oracle src) ip), d))

theorem findFrame_eq (src : Bytes) (ip0 rem : Nat) :
    findFrameCompressedSize src ip0 rem false =
      if 4 ≤ rem ∧ isLegacyMagic (src.le32 ip0) = true then .error .legacy
      else if 8 ≤ rem ∧ (src.le32 ip0 &&& ZSTD_MAGIC_SKIPPABLE_MASK == ZSTD_MAGIC_SKIPPABLE_START) = true then skippableSize src ip0 rem
      else match getHeader src ip0 rem false with
        | .ok h =>
          if h.skippable = true then .error (.srcSizeWrongAt "Frame:250")
          else match forIn (List.range' 0 rem) (ip0 + h.headerSize, rem - h.headerSize, false) (fun _ => ffBody src) with
            | .error e => .error e
            | .ok s =>
              if (!s.2.2) = true then .error (.srcSizeWrongAt "Frame:262")
              else if h.checksum = true then (if s.2.1 < 4 then .error (.srcSizeWrongAt "Frame:264") else .ok (s.1 + 4 - ip0))
              else .ok (s.1 - ip0)
        | .need _ => .error (.srcSizeWrongAt "Frame:248")
        | .err e => .error e := by
  unfold findFrameCompressedSize
  simp only [bind, Except.bind, pure, Except.pure, throw, throwThe, MonadExceptOf.throw, Bool.not_false, Bool.true_and, forIn_range,
    Bool.and_eq_true, decide_eq_true_eq, ge_iff_le]
  refine ite_congr rfl (fun _ => rfl) fun _ => ite_congr rfl (fun _ => rfl) fun _ => ?_
  cases getHeader src ip0 rem false with
  | need n => rfl
  | err e => rfl
  | ok h =>
    refine ite_congr rfl (fun _ => rfl) fun _ => ?_
    rw [forIn_body_congr (g := fun _ => ffBody src)]
    · cases forIn (List.range' 0 rem) (ip0 + h.headerSize, rem - h.headerSize, false) fun _ => ffBody src <;> rfl
    · intro a b
      obtain ⟨ip, r, d⟩ := b
      have hx := bExtent_ge (le24 (oracle src) ip)
      rw [ffBody, blockHeader_eq]
      by_cases h3 : r < 3
      · rw [if_pos h3, if_pos h3]
      rw [if_neg h3, if_neg h3]
      by_cases ht : bType (le24 (oracle src) ip) = 3
      · rw [if_pos ht, if_pos ht]
      rw [if_neg ht, if_neg ht]
      dsimp only
      rw [show ZSTD_blockHeaderSize = 3 from rfl, show 3 + (bExtent (le24 (oracle src) ip) - 3) = bExtent (le24 (oracle src) ip) by omega,
        show ip + 3 + (bExtent (le24 (oracle src) ip) - 3) = ip + bExtent (le24 (oracle src) ip) by omega]

/-- the block loop of ZSTD_findFrameSizeInfo computes `walkBlocks`, when the iteration bound is not the limiting factor (one
iteration per block, every block takes at least 3 bytes) -/
theorem ff_loop (src : Bytes) (l : List Nat) (ip r : Nat) (hl : r < l.length) :
    match walkBlocks (oracle src) ip r with
    | .ok u => u ≤ r ∧ forIn l (ip, r, false) (fun _ => ffBody src) = .ok (ip + u, r - u, true)
    | .error e => ∃ e', forIn l (ip, r, false) (fun _ => ffBody src) = .error e' ∧ e'.cls = e.cls := by
  induction l generalizing ip r with
  | nil => exact absurd hl (Nat.not_lt_zero _)
  | cons a l ih =>
    have hx := bExtent_ge (le24 (oracle src) ip)
    have hb : (fun _ => ffBody src) a (ip, r, false) = _ := ffBody.eq_1 src ip r false
    rw [walkBlocks]
    by_cases h3 : r < 3
    · rw [if_pos h3] at hb ⊢; exact ⟨_, forIn_cons_error a l (fun _ => ffBody src) _ _ hb, rfl⟩
    rw [if_neg h3] at hb ⊢
    by_cases ht : bType (le24 (oracle src) ip) = 3
    · rw [if_pos ht] at hb ⊢; exact ⟨_, forIn_cons_error a l (fun _ => ffBody src) _ _ hb, rfl⟩
    rw [if_neg ht] at hb ⊢
    by_cases hc : r < bExtent (le24 (oracle src) ip)
    · rw [if_pos hc] at hb; rw [dif_pos hc]; exact ⟨_, forIn_cons_error a l (fun _ => ffBody src) _ _ hb, rfl⟩
    rw [if_neg hc] at hb; rw [dif_neg hc]
    by_cases hlast : bLast (le24 (oracle src) ip) = true
    · rw [if_pos hlast] at hb ⊢; exact ⟨Nat.not_lt.1 hc, forIn_cons_done a l (fun _ => ffBody src) _ _ hb⟩
    rw [if_neg hlast] at hb ⊢
    rw [forIn_cons_yield a l (fun _ => ffBody src) _ _ hb]
    have := ih (ip + bExtent (le24 (oracle src) ip)) (r - bExtent (le24 (oracle src) ip)) (by rw [List.length_cons] at hl; omega)
    cases hw : walkBlocks (oracle src) (ip + bExtent (le24 (oracle src) ip)) (r - bExtent (le24 (oracle src) ip)) with
    | ok u =>
      rw [hw] at this
      exact ⟨by have := this.1; omega, by rw [this.2, Nat.add_assoc, Nat.sub_sub]⟩
    | error e =>
      rw [hw] at this
      exact this

/-- the window descriptor does not exceed ZSTD_WINDOWLOG_MAX (or there is none: single-segment frame) -/
def WindowOK (src : Bytes) (ip0 : Nat) : Prop :=
  (src.u8 (ip0 + 4) / 32) % 2 = 1 ∨ src.u8 (ip0 + 5) / 8 + ZSTD_WINDOWLOG_ABSOLUTEMIN ≤ ZSTD_WINDOWLOG_MAX

theorem parseFields_window (src : Bytes) (p fhd fh : Nat) :
    (¬ (fhd / 32) % 2 = 1 ∧ ¬ src.u8 p / 8 + ZSTD_WINDOWLOG_ABSOLUTEMIN ≤ ZSTD_WINDOWLOG_MAX → parseFields src p fhd fh = .err .windowTooLarge) ∧
    ((fhd / 32) % 2 = 1 ∨ src.u8 p / 8 + ZSTD_WINDOWLOG_ABSOLUTEMIN ≤ ZSTD_WINDOWLOG_MAX → ∃ hd, parseFields src p fhd fh = .ok hd) := by
  unfold parseFields
  simp only [Nat.shiftRight_eq_div_pow, Nat.and_one_is_mod, Nat.reducePow]
  constructor
  · rintro ⟨a, b⟩
    rw [if_pos (by simp [a]; omega)]
  · intro hc
    rw [if_neg (by rcases hc with a | b <;> simp <;> omega)]
    exact ⟨_, rfl⟩

theorem mapError_error {α : Type} (e : Err) : (Except.error e : R α).mapError Err.cls = .error e.cls := rfl
theorem mapError_ok {α : Type} (a : α) : (Except.ok a : R α).mapError Err.cls = .ok a := rfl

theorem ok_iff_of_mapError_eq {α : Type} {x y : R α} (h : x.mapError Err.cls = y.mapError Err.cls) (a : α) : x = .ok a ↔ y = .ok a := by
  cases x with
  | ok v =>
    cases y with
    | ok w => cases h; exact Iff.rfl
    | error e => cases h
  | error e =>
    cases y with
    | ok w => cases h
    | error e' => exact ⟨(nomatch ·), (nomatch ·)⟩

theorem ff_tail_ok (ip0 rem hs u : Nat) (ck : Bool) (hh : hs ≤ rem) (hu : u ≤ rem - hs) :
    (if ck = true then
        if rem - hs - u < 4 then (Except.error (Err.srcSizeWrongAt "Frame:264") : R Nat) else Except.ok (ip0 + hs + u + 4 - ip0)
      else Except.ok (ip0 + hs + u - ip0)).mapError Err.cls =
    (if rem < hs + u + (if ck = true then 4 else 0) then (Except.error Err.srcSizeWrong : R Nat)
      else Except.ok (hs + u + (if ck = true then 4 else 0))).mapError Err.cls := by
  cases ck with
  | true =>
    simp only [if_true]
    by_cases c4 : rem - hs - u < 4
    · rw [if_pos c4, if_pos (by omega)]; rfl
    · rw [if_neg c4, if_neg (by omega), show ip0 + hs + u + 4 - ip0 = hs + u + 4 by omega]
  | false =>
    simp only [Bool.false_eq_true, if_false]
    rw [if_neg (by omega), show ip0 + hs + u - ip0 = hs + u + 0 by omega]

/-- skippable frames: readSkippableFrameSize against the walker (the walker has no 32-bit overflow check) -/
theorem ff_skippable (src : Bytes) (ip0 rem : Nat) (h5 : 5 ≤ rem) (hnl : isLegacyMagic (src.le32 ip0) = false)
    (hs : isSkippable (src.le32 ip0)) (hsk : 8 ≤ rem → src.le32 (ip0 + 4) + 8 < 2 ^ 32) :
    (findFrameCompressedSize src ip0 rem false).mapError Err.cls = (frameSize (oracle src) ip0 rem).mapError Err.cls := by
  have hm := (skippable_iff _ (ByteArray.le32_lt _ _)).mpr hs
  have hne : src.le32 ip0 ≠ ZSTD_MAGICNUMBER := fun c => absurd (c ▸ hs) (by decide)
  rw [findFrame_eq, if_neg (fun c => by rw [hnl] at c; cases c.2), frameSize, le32_oracle, le32_oracle,
    if_neg (show ¬ rem < 5 by omega), if_pos hs]
  by_cases h8 : rem < 8
  · rw [if_neg (fun c => absurd c.1 (Nat.not_le.2 h8)), if_pos h8, getHeader_zstd1_eq src ip0 rem h5, if_pos hne, if_pos hs, if_pos h8]
    rfl
  · have := hsk (by omega)
    rw [if_pos ⟨by omega, hm⟩, if_neg h8, skippableSize]
    simp only [show ZSTD_SKIPPABLEHEADERSIZE = 8 from rfl]
    rw [if_neg h8, if_neg (by omega)]

/-- zstd frames: ZSTD_findFrameSizeInfo against the walker (the walker does not look at the window descriptor) -/
theorem ff_frame (src : Bytes) (ip0 rem : Nat) (h5 : 5 ≤ rem) (hnl : isLegacyMagic (src.le32 ip0) = false)
    (hs : ¬ isSkippable (src.le32 ip0))
    (hwin : src.le32 ip0 = ZSTD_MAGICNUMBER → headerSize (src.u8 (ip0 + 4)) ≤ rem → ¬ src.u8 (ip0 + 4) / 8 % 2 = 1 → WindowOK src ip0) :
    (findFrameCompressedSize src ip0 rem false).mapError Err.cls = (frameSize (oracle src) ip0 rem).mapError Err.cls := by
  rw [findFrame_eq, if_neg (fun c => by rw [hnl] at c; cases c.2), if_neg (fun c => hs ((skippable_iff _ (ByteArray.le32_lt _ _)).mp c.2)),
    frameSize, le32_oracle, oracle_apply, if_neg (show ¬ rem < 5 by omega), if_neg hs, getHeader_zstd1_eq src ip0 rem h5]
  by_cases hmg : src.le32 ip0 ≠ ZSTD_MAGICNUMBER
  · rw [if_pos hmg, if_pos hmg, if_neg hs]
  rw [if_neg hmg, if_neg hmg]
  by_cases hh : rem < headerSize (src.u8 (ip0 + 4))
  · rw [if_pos hh, if_pos hh]
    rfl
  rw [if_neg hh, if_neg hh]
  by_cases h8 : src.u8 (ip0 + 4) / 8 % 2 = 1
  · rw [if_pos h8, if_pos h8]
  rw [if_neg h8, if_neg h8]
  obtain ⟨hd, hpf⟩ := (parseFields_window src (ip0 + 5) (src.u8 (ip0 + 4)) (headerSize (src.u8 (ip0 + 4)))).2
    (hwin (Decidable.not_not.mp hmg) (by omega) h8)
  obtain ⟨p1, p2, -⟩ := parseFields_ok hpf
  rw [hpf]
  dsimp only
  rw [ckSize_eq hpf, p1, p2, if_neg Bool.false_ne_true]
  have key := ff_loop src (List.range' 0 rem) (ip0 + headerSize (src.u8 (ip0 + 4))) (rem - headerSize (src.u8 (ip0 + 4)))
    (by have := headerSize_ge (src.u8 (ip0 + 4)); rw [List.length_range']; omega)
  generalize forIn (List.range' 0 rem) _ (fun _ => ffBody src) = L at key ⊢
  generalize walkBlocks (oracle src) (ip0 + headerSize (src.u8 (ip0 + 4))) (rem - headerSize (src.u8 (ip0 + 4))) = W at key ⊢
  cases W with
  | ok u =>
    obtain ⟨hu, rfl⟩ := key
    exact ff_tail_ok ip0 rem _ u hd.checksum (by omega) hu
  | error e =>
    obtain ⟨e', rfl, hc⟩ := key
    exact congrArg Except.error hc

/-- **`Frame.findFrameCompressedSize` and `Walker.frameSize` are the same function** up to the error class (the decoder model tags
its errors with a site), on non-legacy input of at least 5 bytes, except for two checks the walker does not make: (a) a skippable
size field that overflows 32 bits when 8 is added (`frameParameter_unsupported`), (b) a window descriptor above ZSTD_WINDOWLOG_MAX
(`frameParameter_windowTooLarge`) -/
theorem findFrameCompressedSize_eq_walker (src : Bytes) (ip0 rem : Nat) (h5 : 5 ≤ rem) (hnl : isLegacyMagic (src.le32 ip0) = false)
    (hsk : isSkippable (src.le32 ip0) → 8 ≤ rem → src.le32 (ip0 + 4) + 8 < 2 ^ 32)
    (hwin : src.le32 ip0 = ZSTD_MAGICNUMBER → headerSize (src.u8 (ip0 + 4)) ≤ rem → ¬ src.u8 (ip0 + 4) / 8 % 2 = 1 → WindowOK src ip0) :
    (findFrameCompressedSize src ip0 rem false).mapError Err.cls = (frameSize (oracle src) ip0 rem).mapError Err.cls := by
  by_cases hs : isSkippable (src.le32 ip0)
  · exact ff_skippable src ip0 rem h5 hnl hs (hsk hs)
  · exact ff_frame src ip0 rem h5 hnl hs hwin

/-! the inputs left out by `findFrameCompressedSize_eq_walker`, one by one -/

theorem skippable_not_legacy {x : Nat} (h : isSkippable x) : isLegacyMagic x = false := by
  unfold isSkippable ZSTD_MAGIC_SKIPPABLE_START at h
  unfold isLegacyMagic
  simp only [Bool.and_eq_false_imp, decide_eq_true_eq, decide_eq_false_iff_not]
  omega

/-- fewer than 5 bytes: both fail (the decoder model distinguishes a wrong partial magic, `prefix_unknown`, from a short one) -/
theorem findFrameCompressedSize_short (src : Bytes) (ip0 rem : Nat) (h5 : rem < 5) :
    (∃ e, findFrameCompressedSize src ip0 rem false = .error e) ∧ frameSize (oracle src) ip0 rem = .error .srcSizeWrong := by
  refine ⟨error_of_not_ok fun n h => ?_, by rw [frameSize, if_pos h5]⟩
  rw [findFrame_eq, ite_error_ok_iff, if_neg (fun c => absurd c.1 (by omega))] at h
  cases hg : getHeader src ip0 rem false with
  | ok hd => exact absurd (getHeader_ge hg) (by simp only [Bool.false_eq_true, if_false]; omega)
  | need k => rw [hg] at h; cases h.2
  | err e => rw [hg] at h; cases h.2

/-- legacy (v0.5 - v0.7) magic: the decoder model stops (`Err.legacy`: not modelled), the walker says `prefix_unknown` -/
theorem findFrameCompressedSize_legacy (src : Bytes) (ip0 rem : Nat) (h5 : 5 ≤ rem) (hl : isLegacyMagic (src.le32 ip0) = true) :
    findFrameCompressedSize src ip0 rem false = .error .legacy ∧ frameSize (oracle src) ip0 rem = .error .prefixUnknown := by
  refine ⟨by rw [findFrame_eq, if_pos ⟨by omega, hl⟩], ?_⟩
  have hns : ¬ isSkippable (src.le32 ip0) := fun c => by rw [skippable_not_legacy c] at hl; cases hl
  have hnm : src.le32 ip0 ≠ ZSTD_MAGICNUMBER := fun c => by rw [c] at hl; revert hl; decide
  rw [frameSize, le32_oracle, if_neg (by omega), if_neg hns, if_pos hnm]

/-- DIFFERENCE (a): a skippable frame whose size field is ≥ 2^32 - 8.  readSkippableFrameSize reports
`frameParameter_unsupported` (32-bit overflow check); the walker has no such check -/
theorem findFrameCompressedSize_differs_skippable (src : Bytes) (ip0 rem : Nat) (h8 : 8 ≤ rem)
    (hs : isSkippable (src.le32 ip0)) (hbig : 2 ^ 32 ≤ src.le32 (ip0 + 4) + 8) :
    findFrameCompressedSize src ip0 rem false = .error .unsupported ∧
    frameSize (oracle src) ip0 rem =
      if rem < src.le32 (ip0 + 4) + 8 then .error .srcSizeWrong else .ok (src.le32 (ip0 + 4) + 8) := by
  constructor
  · rw [findFrame_eq, if_neg (fun c => by rw [skippable_not_legacy hs] at c; cases c.2),
      if_pos ⟨h8, (skippable_iff _ (ByteArray.le32_lt _ _)).mpr hs⟩, skippableSize]
    simp only [show ZSTD_SKIPPABLEHEADERSIZE = 8 from rfl]
    rw [if_neg (by omega), if_pos (by omega)]
  · rw [frameSize, le32_oracle, le32_oracle, if_neg (by omega), if_pos hs, if_neg (by omega)]

/-- DIFFERENCE (b): a zstd frame header (complete, reserved bit clear) whose window descriptor exceeds ZSTD_WINDOWLOG_MAX.
ZSTD_getFrameHeader reports `frameParameter_windowTooLarge`; the walker does not read the window descriptor and goes on -/
theorem findFrameCompressedSize_differs_window (src : Bytes) (ip0 rem : Nat) (hm : src.le32 ip0 = ZSTD_MAGICNUMBER)
    (hh : headerSize (src.u8 (ip0 + 4)) ≤ rem) (h8 : ¬ src.u8 (ip0 + 4) / 8 % 2 = 1) (hw : ¬ WindowOK src ip0) :
    findFrameCompressedSize src ip0 rem false = .error .windowTooLarge := by
  have h5 : 5 ≤ rem := Nat.le_trans (headerSize_ge _) hh
  have hpf := (parseFields_window src (ip0 + 5) (src.u8 (ip0 + 4)) (headerSize (src.u8 (ip0 + 4)))).1
    ⟨fun c => hw (.inl c), fun c => hw (.inr c)⟩
  rw [findFrame_eq, hm, if_neg (fun c => absurd c.2 (by decide)), if_neg (fun c => absurd c.2 (by decide)),
    getHeader_zstd1_eq src ip0 rem h5, if_neg (fun c => c hm), if_neg (by omega), if_neg h8, hpf]

/-- unconditionally: the walker accepts whatever the decoder model's ZSTD_findFrameCompressedSize accepts, with the same size -/
theorem findFrameCompressedSize_ok_walker (src : Bytes) (ip0 rem n : Nat)
    (h : findFrameCompressedSize src ip0 rem false = .ok n) : frameSize (oracle src) ip0 rem = .ok n := by
  have h5 : 5 ≤ rem := Nat.not_lt.1 fun c => by
    obtain ⟨e, he⟩ := (findFrameCompressedSize_short src ip0 rem c).1
    rw [he] at h; cases h
  have hl : isLegacyMagic (src.le32 ip0) = false := by
    rw [← Bool.not_eq_true]
    intro c
    rw [(findFrameCompressedSize_legacy src ip0 rem h5 c).1] at h; cases h
  -- where the two differ, the decoder model's function fails
  have key := findFrameCompressedSize_eq_walker src ip0 rem h5 hl
    (fun hs h8 => Decidable.by_contra fun c => by
      rw [(findFrameCompressedSize_differs_skippable src ip0 rem h8 hs (by omega)).1] at h; cases h)
    (fun hm hh h8 => Classical.byContradiction fun hw => by
      rw [findFrameCompressedSize_differs_window src ip0 rem hm hh h8 hw] at h; cases h)
  exact (ok_iff_of_mapError_eq key n).1 h

/-! ### non-vacuity: a concrete 10-byte frame (magic, descriptor 0x20 = single segment, FCS byte 1, one raw last block "A") -/

def sampleArgs : HArgs := ⟨17, 1, true, 0, false, false, false⟩
def sampleF : ByteArray := rawFrame sampleArgs (ofList [0x41])

theorem sampleF_size : sampleF.size = 10 := by decide

theorem sampleF_bytes : ∀ i, i < 10 → oracle sampleF (0 + i) = ([0x28, 0xB5, 0x2F, 0xFD, 0x20, 0x01, 0x09, 0x00, 0x00, 0x41] : List Nat).getD i 0 := by
  decide

theorem sampleF_accepted : ∃ traces, decompressAll sampleF {} 1 {} = .ok (ofList [0x41], traces) :=
  frame_roundtrip_raw _ (by unfold HArgs.wf; decide) (Or.inr rfl) rfl _ (fun _ => rfl) {} 1 (Nat.le_refl _) {} rfl rfl

def sampleL : Get := fun i => ([0x28, 0xB5, 0x2F, 0xFD, 0x20, 0x01, 0x09, 0x00, 0x00, 0x41] : List Nat).getD i 0

theorem sampleL_frameSize : frameSize sampleL 0 10 = .ok 10 :=
  frameSize_ok_iff.2 ⟨by decide, by
    rw [if_neg (by decide)]
    exact ⟨by decide, by decide, by decide, 4, walkBlocks_ok_iff.2 ⟨by decide, by decide, by rw [if_pos (by decide)]; decide⟩,
      by decide, by decide⟩⟩

theorem sampleF_frames : frames (oracle sampleF) 1 0 10 = .ok [10] := by
  rw [frames_congr (oracle sampleF) sampleL 1 0 0 10 (fun i hi => by rw [sampleF_bytes i hi, Nat.zero_add]; rfl),
    frames_succ _ _ _ (by decide), sampleL_frameSize]
  rfl

/-- non-vacuity of `decompressAll_walks` and `decoder_rejects_truncation_single` -/
example : ∀ k, 0 < k → k < 10 → ∀ (dict : Dict) (cap : Nat) (o : Opts), o.magicless = false →
    ∃ e, decompressAll (sampleF.extract 0 k) dict cap o = .error e := by
  obtain ⟨traces, h⟩ := sampleF_accepted
  have W := decompressAll_walks rfl h (traces.size + 1) (Nat.le_succ _)
  rw [sampleF_size, (frames_fuel _ _ _ _ _ sampleF_frames).2 (traces.size + 1) (by simp)] at W
  have h1 : traces.size = 1 := by
    have : (sizesOf traces).length = 1 := by rw [← Except.ok.inj W]; rfl
    simpa [sizesOf] using this
  intro k hk0 hk dict cap o hml
  exact decoder_rejects_truncation_single rfl h h1 hk0 (by rw [sampleF_size]; exact hk) dict cap o hml

/-- non-vacuity of `decoder_rejects_non_frame_tail` -/
example (dict : Dict) (cap : Nat) (o : Opts) (hml : o.magicless = false) :
    ∃ e, decompressAll (sampleF ++ ofList [0]) dict cap o = .error e := by
  obtain ⟨traces, h⟩ := sampleF_accepted
  refine decoder_rejects_non_frame_tail rfl h (by decide) (fun rem' => ?_) dict cap o hml
  unfold frameSize
  by_cases h5 : rem' < 5
  · exact ⟨_, by rw [if_pos h5]⟩
  · have e : le32 (oracle (ofList [0])) 0 = 0 := by decide
    rw [if_neg h5, e, if_neg (by decide), if_pos (by decide)]
    exact ⟨_, rfl⟩

/-- non-vacuity of `decoder_rejects_trailing_garbage`: a skippable frame and a frame with checksum as "junk" -/
example : ∃ L, ∀ fuel, L.length ≤ fuel →
    frames (oracle (serializeSegs [.skip 3 (ofList [9, 9]), .frame ⟨10, 0, false, 0, false, true, false⟩ [.rle 7 2] (ofList [7, 7])]))
      fuel 0 (serializeSegs [.skip 3 (ofList [9, 9]), .frame ⟨10, 0, false, 0, false, true, false⟩ [.rle 7 2] (ofList [7, 7])]).size = .ok L := by
  obtain ⟨t0, h0⟩ := frame_roundtrip_blocks ⟨10, 1, true, 0, false, false, false⟩ [.raw 1] (ofList [1])
    (sampleSegs_ok _ List.mem_cons_self) {} 3 (by decide) {} rfl rfl
  obtain ⟨t1, h1⟩ := multi_frame_roundtrip _ sampleSegs_ok {} 3 (by decide) {} rfl rfl
  obtain ⟨L, -, hL⟩ := decoder_rejects_trailing_garbage
    (src := serializeFrame ⟨10, 1, true, 0, false, false, false⟩ [.raw 1] (ofList [1])) rfl h1 rfl h0
  exact ⟨L, hL⟩

/-! non-vacuity of the header-truthfulness theorems (kernel evaluation of the decoder model on concrete frames) -/

/-- `decompressFrame` succeeded, consumed `used` bytes and produced `n` bytes -/
def okWith (r : R (ByteArray × Nat × FrameTrace)) (used n : Nat) : Bool :=
  match r with
  | .ok (out, u, _) => u == used && out.size == n
  | .error _ => false

def failsWith (r : R (ByteArray × Nat × FrameTrace)) (e : Err) : Bool :=
  match r with
  | .ok _ => false
  | .error e' => e' == e

theorem okWith_elim {r : R (ByteArray × Nat × FrameTrace)} {used n : Nat} (h : okWith r used n = true) :
    ∃ out tr, r = .ok (out, used, tr) ∧ out.size = n := by
  unfold okWith at h
  split at h
  · rename_i out u tr
    simp only [Bool.and_eq_true, beq_iff_eq] at h
    exact ⟨out, tr, by rw [h.1], h.2⟩
  · cases h

/-- magic, descriptor 0x21 (single segment, 1-byte dictID), dictID 5, FCS 1, raw last block "A" -/
def dictF : ByteArray := ⟨#[0x28, 0xB5, 0x2F, 0xFD, 0x21, 0x05, 0x01, 0x09, 0x00, 0x00, 0x41]⟩
/-- magic, descriptor 0x20, FCS 2 (a lie), raw last block "A" -/
def lyingF : ByteArray := ⟨#[0x28, 0xB5, 0x2F, 0xFD, 0x20, 0x02, 0x09, 0x00, 0x00, 0x41]⟩
/-- magic, descriptor 0x24 (single segment, checksum), FCS 1, raw last block "A", checksum field 0 (wrong) -/
def badCkF : ByteArray := ⟨#[0x28, 0xB5, 0x2F, 0xFD, 0x24, 0x01, 0x09, 0x00, 0x00, 0x41, 0, 0, 0, 0]⟩
def ckArgs : HArgs := ⟨17, 1, true, 0, false, true, false⟩
/-- the same with the checksum the reference writes -/
def goodCkF : ByteArray := serializeFrame ckArgs [.raw 1] (ofList [0x41])

theorem sampleF_decodes : okWith (decompressFrame sampleF 0 10 {} ByteArray.empty 1 {}) 10 1 = true := by decide +kernel

/-- `decoder_fcs_enforced`: hypotheses satisfiable (sample frame, FCS = 1 = regenerated size) ... -/
example : ∃ out used tr hd, decompressFrame sampleF 0 10 {} ByteArray.empty 1 {} = .ok (out, used, tr) ∧
    getHeader sampleF 0 10 false = .ok hd ∧ hd.fcs = some 1 ∧ out.size - ByteArray.empty.size = 1 := by
  obtain ⟨out, tr, h, _⟩ := okWith_elim sampleF_decodes
  have hh := (decompressFrame_header h).1
  have hn : tr.hdr.fcs = some 1 := by
    have : (match getHeader sampleF 0 10 false with | .ok hd => hd.fcs | _ => none) = some 1 := by decide +kernel
    rw [hh] at this; exact this
  exact ⟨out, 10, tr, tr.hdr, h, hh, hn, decoder_fcs_enforced h hh hn⟩

/-- ... and a frame that lies about its content size is rejected -/
example : failsWith (decompressFrame lyingF 0 10 {} ByteArray.empty 10 {}) (.corruptionAt "Frame:182") = true := by decide +kernel

/-- `decoder_dictID_enforced`: hypotheses satisfiable (dictID 5 announced, dictionary 5 supplied) ... -/
example : ∃ out used tr hd, decompressFrame dictF 0 11 { id := 5 } ByteArray.empty 1 {} = .ok (out, used, tr) ∧
    getHeader dictF 0 11 false = .ok hd ∧ hd.dictID ≠ 0 ∧ ({ id := 5 } : Dict).id = hd.dictID := by
  obtain ⟨out, tr, h, _⟩ := okWith_elim (show okWith (decompressFrame dictF 0 11 { id := 5 } ByteArray.empty 1 {}) 11 1 = true by decide +kernel)
  have hh := (decompressFrame_header h).1
  have hn : tr.hdr.dictID ≠ 0 := by
    have : (match getHeader dictF 0 11 false with | .ok hd => hd.dictID | _ => 0) = 5 := by decide +kernel
    rw [hh] at this
    simp only [] at this
    omega
  exact ⟨out, 11, tr, tr.hdr, h, hh, hn, decoder_dictID_enforced h hh hn⟩

/-- ... and any other dictionary is refused -/
example : failsWith (decompressFrame dictF 0 11 { id := 6 } ByteArray.empty 1 {}) .dictWrong = true := by decide +kernel

/-- `decoder_checksum_enforced`: hypotheses satisfiable (checksum flag set, the checksum the reference writes; symbolic, since
XXH64 does not evaluate in the kernel) ... -/
example : ∃ out used tr hd, decompressFrame goodCkF 0 (goodCkF.size + 0) {} ByteArray.empty 1 {} = .ok (out, used, tr) ∧
    getHeader goodCkF 0 (goodCkF.size + 0) false = .ok hd ∧ hd.checksum = true ∧
    goodCkF.le32 (0 + used - 4) = (XXH64.hashRange out ByteArray.empty.size (out.size - ByteArray.empty.size)).toNat &&& 0xFFFFFFFF := by
  have hwf : ckArgs.wf := by unfold HArgs.wf; decide
  obtain ⟨tr, h⟩ := decompressFrame_serialized ckArgs hwf (Or.inr rfl) [.raw 1] (ofList [0x41]) (fun _ => rfl)
    (by simp only [Tiles]; decide) (src := goodCkF) (ip0 := 0) 0 (holds_self _) {} ByteArray.empty 1 (by decide) {} rfl rfl
  have hh := (decompressFrame_header h).1
  obtain ⟨hd, e1, e2, _, _, _, _, e7⟩ := getHeader_serialized ckArgs hwf (src := goodCkF) (ip := 0) (holds_self _)
  have e3 := (decompressFrame_anatomy h).1
  have e4 : fhSizeAt goodCkF 0 {} = (writeHeader ckArgs).length := e1
  rw [e4] at e3
  have hc : tr.hdr.checksum = true := by
    have : HdrResult.ok tr.hdr = HdrResult.ok hd := e3.symm.trans e2
    cases this; exact e7
  exact ⟨_, _, tr, tr.hdr, h, hh, hc, (decoder_checksum_enforced h hh hc rfl).2.2⟩

/-- ... a damaged checksum is accepted only when the caller asked to ignore it (`o.ignoreChecksum`) -/
example : okWith (decompressFrame badCkF 0 14 {} ByteArray.empty 1 { ignoreChecksum := true }) 14 1 = true := by decide +kernel
/-- ... and a frame cut inside its checksum field is an error too -/
example : failsWith (decompressFrame goodCkF 0 12 {} ByteArray.empty 1 {}) .checksumWrong = true := by decide +kernel

/-- decoder, `findFrameCompressedSize` and walker all find 10 bytes on the sample -/
example : frameSize (oracle sampleF) 0 10 = .ok 10 ∧ findFrameCompressedSize sampleF 0 10 false = .ok 10 := by
  obtain ⟨out, tr, h, _⟩ := okWith_elim sampleF_decodes
  have hw := (decompressFrame_walks rfl h).1
  refine ⟨hw, ?_⟩
  have hnl : isLegacyMagic (sampleF.le32 0) = false := by decide +kernel
  have hm : sampleF.le32 0 = ZSTD_MAGICNUMBER := by decide +kernel
  have key := findFrameCompressedSize_eq_walker sampleF 0 10 (by omega) hnl
    (fun c => absurd (hm ▸ c) (by decide)) (fun _ _ _ => .inl (by decide +kernel))
  exact (ok_iff_of_mapError_eq key 10).2 hw

end ZstdVerif.TruncRT
