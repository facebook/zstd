/-
C09 — truncation, size lies and checksum damage are reported, never accepted: the frame walker (Model/Walker.lean).  The extent of a
frame is determined by the bytes inside it, so no proper prefix of a frame or of a sequence of frames (cut anywhere but at a frame
boundary) is accepted, and trailing non-frame bytes are rejected; plus the epilogue and pledged-size laws.  `walkBlocks_ok_iff`,
`frameSize_ok_iff`, `frames_ok_cases` say when the three functions succeed; the theorems are inductions over these.  TruncRT
transfers them to the full decoder.  Namespace `ZstdVerif.Props.C09`: this is the walker half of C09, continued in Props/C09.lean.
-/
import ZstdVerif.Model.Walker
import ZstdVerif.Lemmas.ExceptLoop
namespace ZstdVerif.Props.C09
open ZstdVerif ZstdVerif.Walker

theorem ok_eq_ok_iff {α : Type} {a b : α} : (Except.ok a : R α) = .ok b ↔ b = a :=
  ⟨fun c => (Except.ok.inj c).symm, fun c => congrArg _ c.symm⟩

theorem walkBlocks_ok_iff {g : Get} {ip rem u : Nat} :
    walkBlocks g ip rem = .ok u ↔
      bType (le24 g ip) ≠ 3 ∧ bExtent (le24 g ip) ≤ rem ∧
      (if bLast (le24 g ip) then u = bExtent (le24 g ip)
       else ∃ u', walkBlocks g (ip + bExtent (le24 g ip)) (rem - bExtent (le24 g ip)) = .ok u' ∧ u = bExtent (le24 g ip) + u') := by
  have hx := bExtent_ge (le24 g ip)
  rw [walkBlocks, dite_eq_ite, ite_error_ok_iff, ite_error_ok_iff, ite_error_ok_iff, Nat.not_lt, Nat.not_lt]
  refine (and_iff_right_of_imp fun h => Nat.le_trans hx h.2.1).trans (and_congr Iff.rfl (and_congr Iff.rfl ?_))
  split
  · exact ok_eq_ok_iff
  · cases walkBlocks g (ip + bExtent (le24 g ip)) (rem - bExtent (le24 g ip)) with
    | error e => exact ⟨(nomatch ·), fun ⟨_, c, _⟩ => nomatch c⟩
    | ok u' => exact ok_eq_ok_iff.trans ⟨fun c => ⟨u', rfl, c⟩, fun ⟨_, c, e⟩ => by cases c; exact e⟩

/-- **locality of the block walk**: the bytes the blocks occupy do not depend on how much input is available beyond them -/
theorem walkBlocks_exact (g : Get) (ip rem u : Nat) (h : walkBlocks g ip rem = .ok u) :
    u ≤ rem ∧ (∀ rem', u ≤ rem' → walkBlocks g ip rem' = .ok u) ∧
    (∀ rem', rem' < u → ∃ e, walkBlocks g ip rem' = .error e) := by
  induction rem using Nat.strongRecOn generalizing ip u with
  | _ rem ih =>
    have hx := bExtent_ge (le24 g ip)
    obtain ⟨hty, hfit, hrest⟩ := walkBlocks_ok_iff.1 h
    by_cases hl : bLast (le24 g ip) = true
    · rw [if_pos hl] at hrest
      subst hrest
      refine ⟨hfit, fun rem' hr => walkBlocks_ok_iff.2 ⟨hty, hr, by rw [if_pos hl]⟩, fun rem' hr => error_of_not_ok fun v hv => ?_⟩
      exact absurd (walkBlocks_ok_iff.1 hv).2.1 (by omega)
    · rw [if_neg hl] at hrest
      obtain ⟨u', hrec, rfl⟩ := hrest
      obtain ⟨hle, hge, hlt⟩ := ih _ (by omega) _ _ hrec
      refine ⟨by omega, fun rem' hr => walkBlocks_ok_iff.2 ⟨hty, by omega, ?_⟩, fun rem' hr => error_of_not_ok fun v hv => ?_⟩
      · rw [if_neg hl]; exact ⟨u', hge _ (by omega), rfl⟩
      · obtain ⟨_, hfit', hrest'⟩ := walkBlocks_ok_iff.1 hv
        rw [if_neg hl] at hrest'
        obtain ⟨v', hv', _⟩ := hrest'
        obtain ⟨e, he⟩ := hlt (rem' - bExtent (le24 g ip)) (by omega)
        rw [he] at hv'; cases hv'

theorem frameSize_ok_iff {g : Get} {ip rem n : Nat} :
    frameSize g ip rem = .ok n ↔
      5 ≤ rem ∧
      (if isSkippable (le32 g ip) then 8 ≤ rem ∧ le32 g (ip + 4) + 8 ≤ rem ∧ n = le32 g (ip + 4) + 8
       else le32 g ip = Gen.ZSTD_MAGICNUMBER ∧ headerSize (g (ip + 4)) ≤ rem ∧ ¬ (g (ip + 4) / 8) % 2 = 1 ∧
         ∃ u, walkBlocks g (ip + headerSize (g (ip + 4))) (rem - headerSize (g (ip + 4))) = .ok u ∧
           headerSize (g (ip + 4)) + u + ckSize (g (ip + 4)) ≤ rem ∧ n = headerSize (g (ip + 4)) + u + ckSize (g (ip + 4))) := by
  rw [frameSize, ite_error_ok_iff, Nat.not_lt]
  refine and_congr Iff.rfl ?_
  split
  · rw [ite_error_ok_iff, ite_error_ok_iff, Nat.not_lt, Nat.not_lt]
    exact and_congr Iff.rfl (and_congr Iff.rfl ok_eq_ok_iff)
  · rw [ite_error_ok_iff, ite_error_ok_iff, ite_error_ok_iff, Decidable.not_not, Nat.not_lt]
    refine and_congr Iff.rfl (and_congr Iff.rfl (and_congr Iff.rfl ?_))
    cases walkBlocks g (ip + headerSize (g (ip + 4))) (rem - headerSize (g (ip + 4))) with
    | error e => exact ⟨(nomatch ·), fun ⟨_, c, _⟩ => nomatch c⟩
    | ok u =>
      dsimp only
      rw [ite_error_ok_iff, Nat.not_lt, ok_eq_ok_iff]
      exact ⟨fun ⟨hle, c⟩ => ⟨u, rfl, hle, c⟩, fun ⟨_, c, hle, e⟩ => by cases c; exact ⟨hle, e⟩⟩

/-- **locality of the frame extent** (ZSTD_findFrameCompressedSize) -/
theorem frameSize_exact (g : Get) (ip rem n : Nat) (h : frameSize g ip rem = .ok n) :
    n ≤ rem ∧ 0 < n ∧ (∀ rem', n ≤ rem' → frameSize g ip rem' = .ok n) ∧ (∀ rem', rem' < n → ∃ e, frameSize g ip rem' = .error e) := by
  obtain ⟨h5, hrest⟩ := frameSize_ok_iff.1 h
  have hhs := headerSize_ge (g (ip + 4))
  by_cases hsk : isSkippable (le32 g ip)
  · rw [if_pos hsk] at hrest
    obtain ⟨-, hle, rfl⟩ := hrest
    refine ⟨hle, by omega, fun rem' hr => frameSize_ok_iff.2 ⟨by omega, by rw [if_pos hsk]; exact ⟨by omega, hr, rfl⟩⟩,
      fun rem' hr => error_of_not_ok fun m hm => ?_⟩
    have hrest' := (frameSize_ok_iff.1 hm).2
    rw [if_pos hsk] at hrest'
    omega
  · rw [if_neg hsk] at hrest
    obtain ⟨hmagic, hfit, hres, u, hw, hle, rfl⟩ := hrest
    obtain ⟨_, hge, hlt⟩ := walkBlocks_exact g _ _ _ hw
    refine ⟨hle, by omega, fun rem' hr => frameSize_ok_iff.2 ⟨by omega, ?_⟩, fun rem' hr => error_of_not_ok fun m hm => ?_⟩
    · rw [if_neg hsk]; exact ⟨hmagic, by omega, hres, u, hge _ (by omega), hr, rfl⟩
    · have hrest' := (frameSize_ok_iff.1 hm).2
      rw [if_neg hsk] at hrest'
      obtain ⟨_, _, _, u2, hw2, hle', rfl⟩ := hrest'
      -- the walk behind the header succeeded with fewer bytes, hence with the same extent
      by_cases c : rem' - headerSize (g (ip + 4)) < u
      · obtain ⟨e, he⟩ := hlt _ c
        rw [he] at hw2; cases hw2
      · rw [hge _ (by omega)] at hw2
        cases hw2; omega

/-! ### sequences of frames -/

theorem frames_nil (g : Get) (f ip : Nat) : frames g f ip 0 = .ok [] := by
  cases f <;> rfl

theorem frames_zero_fuel (g : Get) (ip : Nat) {rem : Nat} (h : rem ≠ 0) : frames g 0 ip rem = .error .srcSizeWrong := by
  rw [frames, if_neg h]

theorem frames_succ (g : Get) (f ip : Nat) {rem : Nat} (h : rem ≠ 0) :
    frames g (f + 1) ip rem =
      match frameSize g ip rem with
      | .error e => .error e
      | .ok n => match frames g f (ip + n) (rem - n) with
        | .ok l => .ok (n :: l)
        | .error e => .error e := by
  rw [frames, if_neg h]
  rfl

theorem frames_ok_cases {g : Get} {f ip rem : Nat} {L : List Nat} (h : frames g f ip rem = .ok L) :
    (rem = 0 ∧ L = []) ∨
    (rem ≠ 0 ∧ ∃ f' n L', f = f' + 1 ∧ frameSize g ip rem = .ok n ∧ frames g f' (ip + n) (rem - n) = .ok L' ∧ L = n :: L') := by
  by_cases h0 : rem = 0
  · subst h0; rw [frames_nil] at h; cases h; exact .inl ⟨rfl, rfl⟩
  refine .inr ⟨h0, ?_⟩
  cases f with
  | zero => rw [frames_zero_fuel g ip h0] at h; cases h
  | succ f' =>
    rw [frames_succ g f' ip h0] at h
    cases hfs : frameSize g ip rem with
    | error e => rw [hfs] at h; cases h
    | ok n =>
      rw [hfs] at h
      dsimp only at h
      cases hrec : frames g f' (ip + n) (rem - n) with
      | error e => rw [hrec] at h; cases h
      | ok L' => rw [hrec] at h; cases h; exact ⟨f', n, L', rfl, rfl, hrec, rfl⟩

/-- **a non-empty proper prefix of a frame is rejected** -/
theorem prefix_rejected (g : Get) (n k fuel : Nat) (h : frameSize g 0 n = .ok n) (hk0 : 0 < k) (hkn : k < n) :
    ∃ e, frames g (fuel + 1) 0 k = .error e := by
  obtain ⟨e, he⟩ := (frameSize_exact g 0 n n h).2.2.2 k hkn
  rw [frames_succ g fuel 0 (Nat.ne_of_gt hk0), he]
  exact ⟨_, rfl⟩

/-- **a cut of a valid multi-frame stream that is itself accepted lies on a frame boundary** -/
theorem accepted_prefix_is_frame_boundary (g : Get) (f f' ip n k : Nat) (L L' : List Nat)
    (h : frames g f ip n = .ok L) (h' : frames g f' ip k = .ok L') (hk : k ≤ n) : L' <+: L := by
  induction L' generalizing f f' ip n k L with
  | nil => exact List.nil_prefix
  | cons a L1' ih =>
    rcases frames_ok_cases h' with ⟨_, c⟩ | ⟨hk0, f1', _, _, rfl, hfs', hrec', c⟩
    · cases c
    cases c
    rcases frames_ok_cases h with ⟨hn0, _⟩ | ⟨_, f1, n1, L1, rfl, hfs, hrec, rfl⟩
    · omega
    -- the first frame of the cut is the first frame of the whole
    obtain ⟨hle, _, hge, hlt⟩ := frameSize_exact g ip n n1 hfs
    have hk1 : ¬ k < n1 := fun c => by obtain ⟨e, he⟩ := hlt k c; rw [he] at hfs'; cases hfs'
    rw [hge k (by omega)] at hfs'
    cases hfs'
    exact (List.prefix_cons_inj a).mpr (ih f1 f1' (ip + a) (n - a) (k - a) L1 hrec hrec' (by omega))

/-- frames tile the input exactly -/
theorem frames_tile (g : Get) (f ip n : Nat) (L : List Nat) (h : frames g f ip n = .ok L) : L.sum = n := by
  induction L generalizing f ip n with
  | nil =>
    rcases frames_ok_cases h with ⟨hn, _⟩ | ⟨_, _, _, _, _, _, _, c⟩
    · exact hn.symm
    · cases c
  | cons a L' ih =>
    rcases frames_ok_cases h with ⟨_, c⟩ | ⟨_, f', _, _, rfl, hfs, hrec, c⟩
    · cases c
    cases c
    have := (frameSize_exact g ip n a hfs).1
    rw [List.sum_cons, ih _ _ _ hrec]
    omega

/-- **trailing bytes that do not start a frame make the walk fail** -/
theorem trailing_garbage_rejected (g : Get) (f ip n r : Nat) (L : List Nat) (h : frames g f ip n = .ok L)
    (hr : 0 < r) (hg : ∀ rem', ∃ e, frameSize g (ip + n) rem' = .error e) :
    ∀ f', ∃ e, frames g f' ip (n + r) = .error e := by
  induction L generalizing f ip n with
  | nil =>
    rcases frames_ok_cases h with ⟨rfl, _⟩ | ⟨_, _, _, _, _, _, _, c⟩
    · intro f'
      cases f' with
      | zero => exact ⟨_, frames_zero_fuel g ip (by omega)⟩
      | succ f'' =>
        obtain ⟨e, he⟩ := hg (0 + r)
        rw [frames_succ g f'' ip (by omega), ← Nat.add_zero ip, he]
        exact ⟨_, rfl⟩
    · cases c
  | cons a L' ih =>
    rcases frames_ok_cases h with ⟨_, c⟩ | ⟨hn0, f0, _, _, rfl, hfs, hrec, c⟩
    · cases c
    cases c
    obtain ⟨hle, _, hge, _⟩ := frameSize_exact g ip n a hfs
    intro f'
    cases f' with
    | zero => exact ⟨_, frames_zero_fuel g ip (by omega)⟩
    | succ f'' =>
      obtain ⟨e, he⟩ := ih f0 (ip + a) (n - a) hrec (by rw [Nat.add_assoc, Nat.add_sub_cancel' hle]; exact hg) f''
      rw [frames_succ g f'' ip (by omega), hge (n + r) (by omega)]
      dsimp only
      rw [show n + r - a = n - a + r by omega, he]
      exact ⟨_, rfl⟩

/-! ### content size and checksum -/

/-- the announced content size is enforced -/
theorem fcs_enforced (n regen : Nat) (ck ign : Bool) (st co : Nat) (h : epilogue (some n) regen ck st co ign = .ok ()) : regen = n := by
  unfold epilogue at h
  dsimp only at h
  split at h
  · cases h
  · rename_i hne; exact (Decidable.not_not.1 hne).symm

/-- the checksum is enforced unless explicitly ignored -/
theorem checksum_enforced (fcs : Option Nat) (regen st co : Nat) (h : epilogue fcs regen true st co false = .ok ()) : st = co := by
  unfold epilogue at h
  by_cases hne : st = co
  · exact hne
  · rw [if_pos ⟨rfl, rfl, hne⟩] at h
    cases fcs with
    | none => cases h
    | some n => dsimp only at h; split at h <;> cases h

/-! ### pledged source size -/

/-- once the frame has started with a pledge, no call can push the consumed total beyond it -/
theorem pledge_never_exceeded (p p' : Pledge) (n : Nat) (d : Dir) (hs : p.started = true) (hp : p.plusOne ≠ 0)
    (h : p.call n d = .ok p') : p'.plusOne = p.plusOne ∧ p'.consumed + 1 ≤ p.plusOne ∧ p'.consumed = p.consumed + n := by
  unfold Pledge.call at h
  simp [hs] at h
  split at h
  · simp at h
  · split at h
    · simp at h
    · cases h; simp; omega

/-- a successful `end` on a started, pledged frame: exactly the pledged number of bytes was supplied -/
theorem pledge_enforced_partial (p p' : Pledge) (n : Nat) (hs : p.started = true) (hp : p.plusOne ≠ 0)
    (h : p.call n .end_ = .ok p') : p'.consumed + 1 = p.plusOne := by
  unfold Pledge.call at h
  simp [hs] at h
  split at h
  · simp at h
  · split at h
    · simp at h
    · rename_i h1 h2; cases h; simp at h2 ⊢; omega

/-- the full statement (the same when the very first call of the frame is `end`) is FALSE of the code as
it is: the pledge is silently replaced by the supplied size.  Witness: pledge 100, one `end` call with 50 bytes. -/
theorem pledge_first_end_overrides :
    (Pledge.call { plusOne := 101, consumed := 0, started := false } 50 .end_) = .ok { plusOne := 51, consumed := 50, started := true } := by
  rfl

/-! non-vacuity: a concrete 12-byte frame (magic, descriptor 0x20 = single segment, FCS byte, one raw last block of 3 bytes) -/
def sampleFrame : List Nat := [0x28, 0xB5, 0x2F, 0xFD, 0x20, 0x03, 0x19, 0x00, 0x00, 0x61, 0x62, 0x63]
def sampleGet : Get := fun i => sampleFrame.getD i 0
theorem sample_walk : walkBlocks sampleGet 6 6 = .ok 6 := by
  rw [walkBlocks]; simp [sampleGet, sampleFrame, le24, bType, bExtent, bLast]
example : frameSize sampleGet 0 12 = .ok 12 := by
  have hs : headerSize (sampleGet 4) = 6 := by decide
  unfold frameSize
  rw [hs]
  simp [sample_walk, isSkippable, ckSize]
  simp [sampleGet, sampleFrame, le32, Gen.ZSTD_MAGICNUMBER, Gen.ZSTD_MAGIC_SKIPPABLE_START]

end ZstdVerif.Props.C09
