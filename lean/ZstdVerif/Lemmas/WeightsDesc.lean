/-
The FSE-compressed Huffman tree description without spreading hypotheses: `WeightsRT.WeightsFseOK` asks, among the side conditions on the
normalised counts of the weight values, for the two spreading facts (`spreadOK (spreadEnc norm L) norm L`, `spreadEnc norm L = spread norm L`);
Lemmas/SpreadRT.lean proves both for every distribution (`spread_ok`, `spreadEnc_eq_spread`), so the conditions that remain speak
about the distribution only.
-/
import ZstdVerif.Lemmas.WeightsRT
import ZstdVerif.Lemmas.SpreadRT
namespace ZstdVerif.WeightsRT
open ZstdVerif ZstdVerif.FSE

/-- `WeightsFseOK` minus the two spreading conjuncts, which it states in the form `tools/ent_fse.py` checks them on every table -/
structure WeightsDescOK (norm : Array Int) (L : Nat) (ws : List Nat) : Prop where
  normOK : NormOK norm L
  log_ge : 5 ≤ L
  log_le : L ≤ 6
  last_ne : norm[norm.size - 1]! ≠ 0
  size_le : norm.size ≤ 13
  covers : ∀ w, w ∈ ws → w < norm.size ∧ norm[w]! ≠ 0
  not_rle : ∀ s, s < norm.size → cnt norm s < 2 ^ L

theorem weightsFseOK_of_distribution {norm : Array Int} {L : Nat} {ws : List Nat} (h : WeightsDescOK norm L ws) : WeightsFseOK norm L ws := by
  have hE := spreadEnc_eq_spread h.normOK
  refine ⟨h.normOK, h.log_ge, h.log_le, h.last_ne, h.size_le, ?_, hE, h.covers, h.not_rle⟩
  rw [hE]
  exact (spreadOK_iff _ _ _).2 (spread_ok h.normOK (by have := h.log_ge; omega))

end ZstdVerif.WeightsRT
