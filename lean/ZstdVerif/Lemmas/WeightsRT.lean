/-
Round trip of the FSE-COMPRESSED Huffman tree description: what HUF_writeCTable_wksp writes when HUF_compressWeights makes the weights
smaller than the direct 4-bit form (writer model: `LitEnc.fseWeights` = size byte, FSE_writeNCount, FSE_compress_usingCTable with its TWO
INTERLEAVED STATES, `FSE.compressStack`; tied byte for byte to the C functions by tools/ent_huf.py `whdr`), the decoder model reads back
(`FSE.decompressWeights` = FSE_decompress_wksp; `Huf.readStats`).
The C encoder's loop structure (state 1 / state 2, odd / even start, pairs) is an alternation: every symbol goes to the state that is NOT
the one the decoder reads next (`encodeAlt`).  An abstract two-state decoder on the stack of bit fields (`decode2`) inverts it and stops
when the stream is exhausted under a cell that wants at least one bit; the loop of `FSE.decompressWeights` follows it on bytes (`wloop`).
Props/C01.lean and Lemmas/BlockRT.lean use `decompressWeights_roundtrip`, `readStats_fse` / `readStats_descr` (under `WeightsFseOK`) and
`literals_roundtrip_compressed_fse`.
-/
import ZstdVerif.Lemmas.FSERT
import ZstdVerif.Lemmas.SeqRT
import ZstdVerif.Lemmas.NCountRT
import ZstdVerif.Lemmas.LitRT
import ZstdVerif.Lemmas.ExceptLoop
import ZstdVerif.Model.LitEnc
namespace ZstdVerif.WeightsRT
open ZstdVerif ZstdVerif.FSE


/-- FSE_compress_usingCTable_generic seen from the decoder: `cur` is the state the decoder will read the NEXT symbol from, `other` the
second one.  Going backwards through the source, each symbol is encoded into `other`, which then becomes `cur`. -/
def encodeAlt (ct : CTable) : List Nat → Nat → Nat → List (Nat × Nat) → Nat × Nat × List (Nat × Nat)
  | [], cur, other, stack => (cur, other, stack)
  | s :: rev, cur, other, stack =>
    let r := encodeSymbol ct other s
    encodeAlt ct rev r.1 cur (r.2 :: stack)

theorem encodePairs_eq_alt (ct : CTable) : ∀ (n : Nat) (rev : List Nat), rev.length = 2 * n → ∀ (s1 s2 : Nat) (stack : List (Nat × Nat)),
    encodePairs ct rev s1 s2 stack = encodeAlt ct rev s1 s2 stack := by
  intro n
  induction n with
  | zero =>
    intro rev h s1 s2 stack
    have : rev = [] := List.eq_nil_of_length_eq_zero (by omega)
    subst this
    rfl
  | succ n ih =>
    intro rev h s1 s2 stack
    match rev, h with
    | a :: b :: t, h =>
      have ht : t.length = 2 * n := by simp only [List.length_cons] at h; omega
      rw [encodePairs, encodeAlt, encodeAlt]
      exact ih t ht _ _ _

/-- FSE_compress_usingCTable_generic: the two last symbols of the source initialise the states (the last but one: the state read first at
the end, `cur`), every earlier symbol is encoded in alternation, the states are flushed `other` first -/
theorem compressStack_eq (ct : CTable) (σ : List Nat) (a b : Nat) :
    compressStack ct (σ ++ [a, b]) =
      if σ = [] then none else
      some (flushCState ct (encodeAlt ct σ.reverse (initCState2 ct a) (initCState2 ct b) []).1 ::
        flushCState ct (encodeAlt ct σ.reverse (initCState2 ct a) (initCState2 ct b) []).2.1 ::
        (encodeAlt ct σ.reverse (initCState2 ct a) (initCState2 ct b) []).2.2) := by
  unfold compressStack
  have hrev : (σ ++ [a, b]).reverse = b :: a :: σ.reverse := by simp
  have hlen : (σ ++ [a, b]).length = σ.length + 2 := by simp
  rw [hrev, hlen]
  by_cases he : σ = []
  · subst he; simp
  · have hpos : 0 < σ.length := List.length_pos_iff.2 he
    rw [if_neg (by omega), if_neg he]
    simp only []
    by_cases hodd : (σ.length + 2) % 2 = 1
    · rw [if_pos hodd]
      cases hr : σ.reverse with
      | nil => exact absurd (List.reverse_eq_nil_iff.1 hr) he
      | cons x2 rev2 =>
        simp only []
        have hl : rev2.length = 2 * ((σ.length - 1) / 2) := by
          have := congrArg List.length hr
          simp only [List.length_reverse, List.length_cons] at this
          omega
        rw [encodePairs_eq_alt ct _ rev2 hl, encodeAlt]
    · rw [if_neg hodd]
      have hl : σ.reverse.length = 2 * (σ.length / 2) := by rw [List.length_reverse]; omega
      rw [encodePairs_eq_alt ct _ σ.reverse hl]


/-- FSE_decompress_usingDTable_generic on the abstract stream (a stack of bit fields): emit the symbol of the current state `a`; its update
wants `nbBits` bits: when the stream is exhausted (BIT_reloadDStream: overflow) the symbol of the other state is the last one; otherwise the
updated state becomes the other one.  A read of ZERO bits on an exhausted stream does not overflow: not a valid end (`none`). -/
def decode2 (cells : Array Cell) : Nat → Nat → List (Nat × Nat) → Option (List Nat)
  | a, b, [] => if 1 ≤ (cells[a]!).nbBits then some [(cells[a]!).sym, (cells[b]!).sym] else none
  | a, b, (v, w) :: rest =>
    if w = (cells[a]!).nbBits then (decode2 cells b ((cells[a]!).newState + v % 2 ^ w) rest).map ((cells[a]!).sym :: ·) else none

section
variable {syms : Array Nat} {norm : Array Int} {L : Nat}

theorem encodeAlt_decode (hN : NormOK norm L) (hS : SpreadOK syms norm L) (hL : L ≤ 15) (rev : List Nat)
    (hrev : ∀ s, s ∈ rev → s < norm.size ∧ norm[s]! ≠ 0) (cur other : Nat) (hc1 : 2 ^ L ≤ cur) (hc2 : cur < 2 ^ (L + 1))
    (ho1 : 2 ^ L ≤ other) (ho2 : other < 2 ^ (L + 1)) (stack : List (Nat × Nat)) (out : List Nat)
    (hdec : decode2 (cellsOf syms norm L) (cur - 2 ^ L) (other - 2 ^ L) stack = some out) (hw : ∀ f ∈ stack, f.2 ≤ L) :
    (∀ f ∈ (encodeAlt (ctableOf syms norm L) rev cur other stack).2.2, f.2 ≤ L) ∧
    2 ^ L ≤ (encodeAlt (ctableOf syms norm L) rev cur other stack).1 ∧
      (encodeAlt (ctableOf syms norm L) rev cur other stack).1 < 2 ^ (L + 1) ∧
      2 ^ L ≤ (encodeAlt (ctableOf syms norm L) rev cur other stack).2.1 ∧
      (encodeAlt (ctableOf syms norm L) rev cur other stack).2.1 < 2 ^ (L + 1) ∧
      decode2 (cellsOf syms norm L) ((encodeAlt (ctableOf syms norm L) rev cur other stack).1 - 2 ^ L)
        ((encodeAlt (ctableOf syms norm L) rev cur other stack).2.1 - 2 ^ L)
        (encodeAlt (ctableOf syms norm L) rev cur other stack).2.2 = some (rev.reverse ++ out) := by
  induction rev generalizing cur other stack out with
  | nil => exact ⟨hw, hc1, hc2, ho1, ho2, by simpa [encodeAlt] using hdec⟩
  | cons s t ih =>
    obtain ⟨hs, h0⟩ := hrev s (by simp)
    generalize hr : encodeSymbol (ctableOf syms norm L) other s = r
    obtain ⟨S2, v, nb⟩ := r
    obtain ⟨a1, a2, a3, a4, a5⟩ := step_inverse hN hS hL hs h0 ho1 ho2 hr
    have hmod : v % 2 ^ nb = v := by
      have := SeqRT.encodeSymbol_field_mod (ctableOf syms norm L) other s
      rw [hr] at this
      exact this
    have hnb : nb ≤ L := by
      obtain ⟨c1, -, -⟩ := symTTOf_spec (L := L) (tot := startOf norm s) (hN.2.1 s hs) h0
      have e := encodeSymbol_spec (syms := syms) hN hL hs h0 ho1 ho2
      rw [hr] at e
      have := (encNb_spec c1 (cnt_le hN hs) ho1 ho2).1
      have e2 := congrArg (fun p => p.2.2) e
      simp only [] at e2
      rw [e2]; exact this
    have hdec2 : decode2 (cellsOf syms norm L) (S2 - 2 ^ L) (cur - 2 ^ L) ((v, nb) :: stack) = some (s :: out) := by
      rw [decode2]
      simp only [a4, if_true, hmod, a5, hdec, a3, Option.map_some]
    have e : encodeAlt (ctableOf syms norm L) (s :: t) cur other stack = encodeAlt (ctableOf syms norm L) t S2 cur ((v, nb) :: stack) := by
      rw [encodeAlt, hr]
    rw [e]
    have e3 : (s :: t).reverse ++ out = t.reverse ++ s :: out := by simp
    rw [e3]
    exact ih (fun x hx => hrev x (by simp [hx])) S2 cur a1 a2 hc1 hc2 ((v, nb) :: stack) (s :: out) hdec2
      (by intro f hf; simp only [List.mem_cons] at hf; rcases hf with e | e; · subst e; exact hnb
          · exact hw f e)

/-- TWO-STATE STREAM ROUND TRIP (FSE_compress_usingCTable / FSE_decompress_usingDTable, abstract stream): the decoder, started with the
two flushed states, gives the source back and stops exactly at its end.  At least three symbols: the C encoder refuses fewer; the
symbol before the last is not the only one of the distribution (HUF_compressWeights refuses `maxCount == wtSize`). -/
theorem compress_decode2 (hN : NormOK norm L) (hS : SpreadOK syms norm L) (hL : L ≤ 14) (σ : List Nat) (a b : Nat) (hne : σ ≠ [])
    (hσ : ∀ s, s ∈ σ ++ [a, b] → s < norm.size ∧ norm[s]! ≠ 0) (hlt : cnt norm a < 2 ^ L) :
    ∃ cur other stack, compressStack (ctableOf syms norm L) (σ ++ [a, b]) =
        some (flushCState (ctableOf syms norm L) cur :: flushCState (ctableOf syms norm L) other :: stack) ∧
      (∀ f ∈ stack, f.2 ≤ L) ∧ 2 ^ L ≤ cur ∧ cur < 2 ^ (L + 1) ∧ 2 ^ L ≤ other ∧ other < 2 ^ (L + 1) ∧
      decode2 (cellsOf syms norm L) (cur - 2 ^ L) (other - 2 ^ L) stack = some (σ ++ [a, b]) := by
  obtain ⟨ha, ha0⟩ := hσ a (by simp)
  obtain ⟨hb, hb0⟩ := hσ b (by simp)
  obtain ⟨i1, i2, ic⟩ := initCState2_cell hN hS hL ha ha0
  obtain ⟨j1, j2, j3⟩ := init2_inverse hN hS hL hb hb0
  -- the cell FSE_initCState2 picks for `a` (`symbolNext` = its count) wants at least one bit, since `a` does not own the whole table:
  -- that is what makes the decoder stop
  have hpos : 1 ≤ (cellAt L a (cnt norm a)).nbBits := by
    obtain ⟨c1, -, -⟩ := symTTOf_spec (L := L) (tot := startOf norm a) (hN.2.1 a ha) ha0
    have : Nat.log2 (cnt norm a) < L := (Nat.log2_lt (by omega)).2 hlt
    simp only [cellAt, highbit]
    omega
  have hdec0 : decode2 (cellsOf syms norm L) (initCState2 (ctableOf syms norm L) a - 2 ^ L)
      (initCState2 (ctableOf syms norm L) b - 2 ^ L) [] = some [a, b] := by
    rw [decode2, ic, if_pos hpos, j3]
    rfl
  obtain ⟨b0, b1, b2, b3, b4, b5⟩ := encodeAlt_decode hN hS (by omega) σ.reverse
    (fun x hx => hσ x (by simp only [List.mem_reverse] at hx; simp [hx])) _ _ i1 i2 j1 j2 [] [a, b] hdec0 (by simp)
  rw [List.reverse_reverse] at b5
  rw [compressStack_eq, if_neg hne]
  exact ⟨_, _, _, rfl, b0, b1, b2, b3, b4, b5⟩

end


theorem decode2_nil {cells : Array Cell} {a b : Nat} {σ : List Nat} (h : decode2 cells a b [] = some σ) :
    1 ≤ (cells[a]!).nbBits ∧ σ = [(cells[a]!).sym, (cells[b]!).sym] := by
  rw [decode2] at h
  split at h
  · next hnb => exact ⟨hnb, (Option.some.inj h).symm⟩
  · cases h

theorem decode2_cons {cells : Array Cell} {a b v w : Nat} {rest : List (Nat × Nat)} {σ : List Nat}
    (h : decode2 cells a b ((v, w) :: rest) = some σ) :
    w = (cells[a]!).nbBits ∧ ∃ σ2, decode2 cells b ((cells[a]!).newState + v % 2 ^ w) rest = some σ2 ∧ σ = (cells[a]!).sym :: σ2 := by
  rw [decode2] at h
  split at h
  · next hw =>
    obtain ⟨σ2, h2, rfl⟩ := Option.map_eq_some_iff.1 h
    exact ⟨hw, σ2, h2, rfl⟩
  · cases h

theorem decode2_length {cells : Array Cell} {a b : Nat} {stack : List (Nat × Nat)} {σ : List Nat} (h : decode2 cells a b stack = some σ) :
    2 ≤ σ.length := by
  induction stack generalizing a b σ with
  | nil => rw [(decode2_nil h).2]; exact Nat.le_refl 2
  | cons f rest ih =>
    obtain ⟨-, σ2, h2, rfl⟩ := decode2_cons (v := f.1) (w := f.2) h
    exact Nat.le_succ_of_le (ih h2)

theorem holds_over {r : BitR} {st : List (Nat × Nat)} (h : SeqRT.Holds r st) : r.over = false := by
  induction st generalizing r with
  | nil => exact h.2
  | cons f rest ih =>
    have := ih h.2
    cases ho : r.over with
    | false => rfl
    | true => rw [BitR.read_over_sticky r f.2 ho] at this; cases this

/-- state of the loop of `FSE.decompressWeights`: early-return value, state 1, state 2, bit reader, output -/
abbrev WSt := Option (Array Nat) × Nat × Nat × BitR × Array Nat

/-- one turn of the loop of `FSE.decompressWeights` (two symbols), as the `do` block elaborates it, with `maxOut = 255`, the value
`Huf.readStats` passes -/
def wstep (cells : Array Cell) : WSt → R (ForInStep WSt)
  | (_, st1, st2, r, out) =>
    if out.size + 2 > 255 then .error .dstTooSmall else
    let c1 := cells[st1]!
    let out1 := out.push c1.sym
    let r1 := r.read c1.nbBits
    if r1.2.over = true then
      .ok (.done (some (out1.push (cells[st2]!).sym), c1.newState + r1.1, st2, r1.2, out1.push (cells[st2]!).sym))
    else if out1.size + 2 > 255 then .error .dstTooSmall else
    let c2 := cells[st2]!
    let out2 := out1.push c2.sym
    let r2 := r1.2.read c2.nbBits
    if r2.2.over = true then
      .ok (.done (some (out2.push (cells[c1.newState + r1.1]!).sym), c1.newState + r1.1, c2.newState + r2.1, r2.2,
        out2.push (cells[c1.newState + r1.1]!).sym))
    else .ok (.yield (none, c1.newState + r1.1, c2.newState + r2.1, r2.2, out2))

theorem holds_nil_over {r : BitR} (h : SeqRT.Holds r []) {n : Nat} (hn : 1 ≤ n) : (r.read n).2.over = true :=
  (BitR.read_underflow_sets_over r n (by rw [h.1]; omega)).1

/-- the loop of `FSE.decompressWeights` follows `decode2` on a reader that sees the stack (at most 255 symbols; enough turns) -/
theorem wloop (cells : Array Cell) (f : Nat → WSt → R (ForInStep WSt)) (hf : ∀ i s, f i s = wstep cells s) :
    ∀ (l : List Nat) (a b : Nat) (stack : List (Nat × Nat)) (r : BitR) (out : Array Nat) (σ : List Nat),
      SeqRT.Holds r stack → decode2 cells a b stack = some σ → out.size + σ.length ≤ 255 → σ.length ≤ 2 * l.length + 1 →
      ∃ s, forIn l ((none, a, b, r, out) : WSt) f = .ok s ∧ s.1 = some (out ++ σ.toArray) := by
  intro l
  induction l with
  | nil =>
    intro a b stack r out σ _ hd _ hl
    have := decode2_length hd
    simp only [List.length_nil] at hl
    omega
  | cons i l ih =>
    intro a b stack r out σ hh hd hsz hl
    have h2 := decode2_length hd
    have c0 : ¬ out.size + 2 > 255 := by omega
    cases stack with
    | nil =>
      obtain ⟨hnb, rfl⟩ := decode2_nil hd
      have hov := holds_nil_over hh hnb
      exact ⟨_, FrameRT.forIn_cons_done _ _ _ _ _ (by rw [hf]; unfold wstep; simp only [c0, if_false, hov, if_true]; rfl), rfl⟩
    | cons fld rest =>
      obtain ⟨v, w⟩ := fld
      obtain ⟨rfl, σ2, hd2, rfl⟩ := decode2_cons hd
      obtain ⟨hv, hh2⟩ := hh
      simp only [] at hv hh2
      have hov := holds_over hh2
      have h3 := decode2_length hd2
      simp only [List.length_cons] at hsz hl
      have c1 : ¬ (out.push (cells[a]!).sym).size + 2 > 255 := by rw [Array.size_push]; omega
      rw [← hv] at hd2
      cases rest with
      | nil =>
        obtain ⟨hnb, rfl⟩ := decode2_nil hd2
        have hov2 := holds_nil_over hh2 hnb
        exact ⟨_, FrameRT.forIn_cons_done _ _ _ _ _ (by
          rw [hf]; unfold wstep
          simp only [c0, if_false, hov, Bool.false_eq_true, c1, hov2, if_true]
          rfl), rfl⟩
      | cons fld2 rest2 =>
        obtain ⟨v2, w2⟩ := fld2
        obtain ⟨rfl, σ3, hd3, rfl⟩ := decode2_cons hd2
        obtain ⟨hv2, hh3⟩ := hh2
        simp only [] at hv2 hh3
        have hov2 := holds_over hh3
        simp only [List.length_cons] at hsz hl
        rw [← hv2] at hd3
        obtain ⟨s, hs1, hs2⟩ := ih _ _ rest2 _ ((out.push (cells[a]!).sym).push (cells[b]!).sym) σ3 hh3 hd3
          (by rw [Array.size_push, Array.size_push]; omega) (by omega)
        refine ⟨s, ?_, by rw [hs2]; simp⟩
        rw [FrameRT.forIn_cons_yield _ _ _ _ _ (by
          rw [hf]; unfold wstep
          simp only [c0, if_false, hov, Bool.false_eq_true, c1, hov2]
          rfl)]
        exact hs1


/-- FSE_decompress_wksp (`FSE.decompressWeights`) gives back the symbols `σ ++ [a, b]` (the Huffman weights) from the bytes
HUF_compressWeights writes: FSE_writeNCount of `norm` / `L`, then the two-state stream under FSE_buildCTable_wksp's table.
`5 ≤ L ≤ 6`: FSE_MIN_TABLELOG and MAX_FSE_TABLELOG_FOR_HUFF_HEADER; `cnt norm a < 2^L` (the symbol before the last does not own the whole
table) is what makes the decoder stop; at least three symbols (the C encoder refuses fewer), at most 255. -/
theorem decompressWeights_roundtrip {norm : Array Int} {L : Nat} (hN : NormOK norm L) (hL5 : 5 ≤ L) (hL6 : L ≤ 6)
    (hlast : norm[norm.size - 1]! ≠ 0) (hnsz : norm.size ≤ 256)
    (hS : spreadOK (spreadEnc norm L) norm L = true) (hE : spreadEnc norm L = spread norm L)
    (σ : List Nat) (a b : Nat) (hne : σ ≠ []) (hσ : ∀ s, s ∈ σ ++ [a, b] → s < norm.size ∧ norm[s]! ≠ 0) (hlt : cnt norm a < 2 ^ L)
    (hlen : (σ ++ [a, b]).length ≤ 255) (fields : List (Nat × Nat))
    (hfields : compressFields (buildCTable norm L) (σ ++ [a, b]) = some fields) (src : Bytes) (start len : Nat)
    (hlen2 : len = (NCountW.writeNCount norm L ++ BitW.ofFields fields).size)
    (hsrc : src.extract start (start + (NCountW.writeNCount norm L ++ BitW.ofFields fields).size)
      = NCountW.writeNCount norm L ++ BitW.ofFields fields) :
    decompressWeights src start len 255 = .ok (σ ++ [a, b]).toArray := by
  unfold buildCTable at hfields
  rw [hE] at hS hfields
  have hS2 := (spreadOK_iff _ _ _).1 hS
  obtain ⟨cur, other, stack, hcs, hw, c1, c2, o1, o2, hdec⟩ := compress_decode2 hN hS2 (by omega) σ a b hne hσ hlt
  unfold compressFields at hfields
  rw [hcs] at hfields
  simp only [Option.map_some, Option.some.injEq] at hfields
  have hrevf : fields.reverse = flushCState (ctableOf (spread norm L) norm L) cur ::
      flushCState (ctableOf (spread norm L) norm L) other :: stack := by
    rw [← hfields, List.reverse_reverse]
  have hwf : ∀ f ∈ fields, f.2 ≤ 56 := by
    intro f hf
    have : f ∈ fields.reverse := List.mem_reverse.2 hf
    rw [hrevf] at this
    simp only [List.mem_cons] at this
    rcases this with e | e | e
    · subst e; show L ≤ 56; omega
    · subst e; show L ≤ 56; omega
    · have := hw f e; omega
  have hW : src.extract start (start + (NCountW.writeNCount norm L).size) = NCountW.writeNCount norm L := by
    have := HufBytes.embedded_part ByteArray.empty (NCountW.writeNCount norm L) (BitW.ofFields fields)
      (by rw [ByteArray.empty_append]; exact hsrc)
    simpa using this
  have hB : src.extract (start + (NCountW.writeNCount norm L).size)
      (start + (NCountW.writeNCount norm L).size + (BitW.ofFields fields).size) = BitW.ofFields fields :=
    LitRT.body_embedded _ _ hsrc
  rw [ByteArray.size_append] at hlen2
  have hnc := NCountRT.ncount_roundtrip norm L hN hL5 (by omega) hlast 255 (by omega) src start len (by omega) hW
  obtain ⟨r0, hinit, -, -, hvals, -, hend⟩ := BitR.bits_roundtrip_at fields hwf src _ hB
  have hh := SeqRT.holds_of_readList _ r0 hvals hend
  rw [hrevf] at hh
  obtain ⟨hv1, hh1⟩ := hh
  obtain ⟨hv2, hh2⟩ := hh1
  have hLt : (ctableOf (spread norm L) norm L).tableLog = L := rfl
  simp only [flushCState, hLt, Nat.mod_mod] at hv1 hv2 hh2
  rw [SeqRT.mod_of_state c1 c2] at hv1
  rw [SeqRT.mod_of_state o1 o2] at hv2
  have hlenb : len - (NCountW.writeNCount norm L).size = (BitW.ofFields fields).size := by omega
  have d1 : ¬ L > 6 := by omega
  have d2 : ¬ (NCountW.writeNCount norm L).size > len := by omega
  unfold decompressWeights
  simp only [bind, Except.bind, pure, Except.pure, throw, throwThe, MonadExceptOf.throw, hnc, d1, hlenb, hinit, d2, ↓reduceIte]
  generalize hloop : forIn (m := R) (ρ := Std.Legacy.Range) _ _ _ = Lp
  have hL : ∃ s, Lp = .ok s ∧ s.1 = some (#[] ++ (σ ++ [a, b]).toArray) := by
    rw [← hv1, ← hv2] at hdec
    rw [← hloop, Std.Legacy.Range.forIn_eq_forIn_range']
    exact wloop (buildCells norm L) _ (fun _ _ => by unfold wstep; rfl) _ _ _ stack _ #[] _ hh2 hdec (by simp only [Array.size_empty]; omega)
      (by simp only [List.length_range', Std.Legacy.Range.size]; omega)
  obtain ⟨s, rfl, hs⟩ := hL
  simp only [hs, Array.empty_append]


/-- what the normalised counts `norm` / `L` handed to HUF_compressWeights (a DECISION: FSE_optimalTableLog / FSE_normalizeCount are not
modelled) must satisfy for the weights `ws` (symbols 0 .. maxSymbolValue-1): a normalised distribution with
`FSE_MIN_TABLELOG = 5 ≤ L ≤ 6 = MAX_FSE_TABLELOG_FOR_HUFF_HEADER` over the weight values 0 .. HUF_TABLELOG_MAX, last value present, the two
spreading facts `tools/ent_fse.py` checks on every table; every weight that occurs has a non-zero count; no weight value owns the whole
table (HUF_compressWeights returns 1, "rle", when all weights are equal). -/
structure WeightsFseOK (norm : Array Int) (L : Nat) (ws : List Nat) : Prop where
  normOK : NormOK norm L
  log_ge : 5 ≤ L
  log_le : L ≤ 6
  last_ne : norm[norm.size - 1]! ≠ 0
  size_le : norm.size ≤ 13
  spread : spreadOK (spreadEnc norm L) norm L = true
  spreadEq : spreadEnc norm L = FSE.spread norm L
  covers : ∀ w, w ∈ ws → w < norm.size ∧ norm[w]! ≠ 0
  not_rle : ∀ s, s < norm.size → cnt norm s < 2 ^ L

theorem split_last_two (l : List Nat) (h : 3 ≤ l.length) : ∃ σ a b, l = σ ++ [a, b] ∧ σ ≠ [] := by
  rcases List.eq_nil_or_concat l with e | ⟨l1, b, e⟩
  · subst e; simp at h
  · rcases List.eq_nil_or_concat l1 with e1 | ⟨l2, a, e1⟩
    · subst e1; subst e; simp at h
    · subst e1; subst e
      refine ⟨l2, a, b, by simp, ?_⟩
      intro e2; subst e2; simp at h

open ZstdVerif.HufRT ZstdVerif.HufEnc ZstdVerif.Huf ZstdVerif.LitEnc in
/-- FSE-COMPRESSED TREE DESCRIPTION.  HUF_readStats_body reads the form HUF_writeCTable_wksp writes when HUF_compressWeights pays
(`LitEnc.fseWeights`: size byte < 128, FSE_writeNCount, two-state FSE stream) back, consuming exactly the description.  Side conditions
on the Huffman weights as for the direct form (`LitRT.readStats_direct`); on the FSE table: `WeightsFseOK`; at most 255 explicit
weights (256 symbols). -/
theorem readStats_fse (ws : List Nat) (last log : Nat) (ok : WeightsOK (ws.toArray.push last) log) (hlast : 0 < last)
    (hlog : log ≤ 12) (hr1 : 2 ≤ (ws ++ [last]).count 1) (hws : ws.length ≤ 255) (norm : Array Int) (L : Nat)
    (hF : WeightsFseOK norm L ws) (wh : ByteArray) (hwh : fseWeights norm L ws = some wh) (src : Bytes) (pos n : Nat)
    (hsrc : src.extract pos (pos + wh.size) = wh) (hn : wh.size ≤ n) :
    readStats src pos n = .ok ⟨ws.toArray.push last, log, wh.size⟩ := by
  unfold fseWeights at hwh
  cases hcw : compressWeights norm L ws with
  | none => rw [hcw] at hwh; cases hwh
  | some h =>
  rw [hcw] at hwh
  simp only [] at hwh
  split at hwh
  case isFalse => cases hwh
  next hcond =>
  injection hwh with hwh
  unfold compressWeights at hcw
  split at hcw
  · cases hcw
  simp only [] at hcw
  split at hcw
  · cases hcw
  split at hcw
  · cases hcw
  cases hf : FSE.compressFields (FSE.buildCTable norm L) ws with
  | none => rw [hf] at hcw; cases hcw
  | some fields =>
  rw [hf] at hcw
  injection hcw with hcw
  have h3 : 3 ≤ ws.length := by
    unfold FSE.compressFields FSE.compressStack at hf
    split at hf
    · cases hf
    · omega
  obtain ⟨σ, a, b, hσ, hne⟩ := split_last_two ws h3
  rw [LitRT.empty_push] at hwh
  have hsize : wh.size = 1 + h.size := by
    rw [← hwh, ByteArray.size_append, List.size_toByteArray]; rfl
  have h128 : h.size < 128 := by omega
  rw [← hwh] at hsrc
  have hb0 : src.u8 pos = h.size := by
    have := HufBytes.u8_embedded hsrc 0 (by rw [ByteArray.size_append, List.size_toByteArray, List.length_singleton]; omega)
    rw [Nat.add_zero, ByteArray.u8_append_left _ _ _ (by simp [List.size_toByteArray]), LitRT.u8_singleton, BitW.ofNat_toNat] at this
    omega
  have hbody : src.extract (pos + 1) (pos + 1 + h.size) = h := by
    have := LitRT.body_embedded _ h hsrc
    rwa [List.size_toByteArray, List.length_singleton] at this
  have hdw : FSE.decompressWeights src (pos + 1) h.size 255 = .ok ws.toArray := by
    rw [hσ]
    rw [hσ] at hf
    refine decompressWeights_roundtrip hF.normOK hF.log_ge hF.log_le hF.last_ne (by have := hF.size_le; omega) hF.spread hF.spreadEq σ a b hne
      (fun s hs => hF.covers s (by rw [hσ]; exact hs)) (hF.not_rle a (hF.covers a (by rw [hσ]; simp)).1) (by rw [← hσ]; exact hws) fields hf
      src (pos + 1) h.size (by rw [hcw]) (by rw [hcw]; exact hbody)
  have c1 : ¬ n = 0 := by omega
  have c2 : ¬ h.size ≥ 128 := by omega
  have c3 : ¬ h.size + 1 > n := by omega
  rw [show wh.size = h.size + 1 by omega]
  unfold readStats
  simp only [bind, Except.bind, pure, Except.pure, throw, throwThe, MonadExceptOf.throw, c1, c2, ↓reduceIte, hb0, c3, hdw]
  exact LitRT.statsTail_weights ws last log ok hlast hlog hr1 _


open ZstdVerif.HufRT ZstdVerif.HufEnc ZstdVerif.Huf ZstdVerif.LitEnc in
/-- HUF_readStats_body on `LitEnc.treeDescr`: whichever form HUF_writeCTable_wksp picked -/
theorem readStats_descr (ws : List Nat) (last log : Nat) (ok : WeightsOK (ws.toArray.push last) log) (hlast : 0 < last)
    (hlog : log ≤ 12) (hr1 : 2 ≤ (ws ++ [last]).count 1) (hws1 : 1 ≤ ws.length) (hws : ws.length ≤ 255) (norm : Array Int) (L : Nat)
    (hF : WeightsFseOK norm L ws) (wh : ByteArray) (hwh : treeDescr norm L ws = some wh) (src : Bytes) (pos n : Nat)
    (hsrc : src.extract pos (pos + wh.size) = wh) (hn : wh.size ≤ n) :
    readStats src pos n = .ok ⟨ws.toArray.push last, log, wh.size⟩ := by
  unfold treeDescr at hwh
  cases hf : fseWeights norm L ws with
  | some h =>
    rw [hf] at hwh
    injection hwh with hwh
    subst hwh
    exact readStats_fse ws last log ok hlast hlog hr1 hws norm L hF h hf src pos n hsrc hn
  | none =>
    rw [hf] at hwh
    exact LitRT.readStats_direct ws last log ok hlast hlog hr1 hws1 wh hwh src pos n hsrc hn

open ZstdVerif.HufRT ZstdVerif.HufEnc ZstdVerif.Huf ZstdVerif.LitEnc ZstdVerif.Block ZstdVerif.HufBytes in
/-- COMPRESSED LITERALS, tree description as HUF_writeCTable_wksp writes it (FSE-compressed weights when that is smaller, else the direct
form): `LitRT.literals_roundtrip_compressed` with `wh = treeDescr norm L ws`.  Extra hypotheses: `WeightsFseOK` on the normalised
counts of the weight values, at most 256 symbols. -/
theorem literals_roundtrip_compressed_fse (ws : List Nat) (last log : Nat) (ok : WeightsOK (ws.toArray.push last) log)
    (hlast : 0 < last) (hlog : log ≤ 12) (hr1 : 2 ≤ (ws ++ [last]).count 1) (hws1 : 1 ≤ ws.length) (hws : ws.length ≤ 255)
    (norm : Array Int) (L : Nat) (hF : WeightsFseOK norm L ws)
    (single : Bool) (wh streams : ByteArray) (syms : List Nat) (hwh : treeDescr norm L ws = some wh)
    (hstreams : hufStreams single (codesOf (ws.toArray.push last) log) syms = some streams)
    (hsyms : ∀ s ∈ syms, ∃ hs : s < (ws.toArray.push last).size, 0 < (ws.toArray.push last)[s])
    (src : Bytes) (start srcSize : Nat) (ent : Entropy) (bsm dstCap : Nat)
    (hsec : src.extract start (start + (compressedLiterals single wh streams syms.length).size)
      = compressedLiterals single wh streams syms.length)
    (hsingle : single = true → syms.length < 1024)
    (hc : wh.size + streams.size < syms.length) (hn : syms.length ≤ 2 ^ 17)
    (hbsm : syms.length ≤ bsm) (hcap : syms.length ≤ dstCap)
    (hsz : (compressedLiterals single wh streams syms.length).size ≤ srcSize) (h5 : 5 ≤ srcSize) :
    decodeLiterals src start srcSize ent bsm dstCap
      = .ok { lits := litBytes syms, used := (compressedLiterals single wh streams syms.length).size,
              ent := { ent with huf := some (buildTable ⟨ws.toArray.push last, log, wh.size⟩) }, mode := .compressed,
              streams := if single then 1 else 4 } := by
  have hwhsrc : src.extract (start + lhSize syms.length) (start + lhSize syms.length + wh.size) = wh := by
    have := embedded_part (compressedHeader set_compressed single syms.length (wh.size + streams.size)) wh streams hsec
    rwa [LitRT.compressedHeader_size] at this
  have hstats := readStats_descr ws last log ok hlast hlog hr1 hws1 hws norm L hF wh hwh src (start + lhSize syms.length)
    (wh.size + streams.size) hwhsrc (by omega)
  exact LitRT.literals_roundtrip_huf set_compressed single wh streams syms _ log wh.size (readStats_weightsOK _ _ _ _ _ hstats)
    (by omega) src start srcSize ent bsm dstCap hsec (Or.inl ⟨rfl, hstats, rfl⟩) hsyms hstreams hsingle hc hn hbsm hcap hsz h5

end ZstdVerif.WeightsRT
