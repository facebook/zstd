/-
Window sufficiency of sequence execution (Model/Exec.lean).  A decoder which keeps only the last `w` bytes it has produced (the ring
buffer `ZSTD_decompressStream` allocates from the Window_Descriptor) cannot tell two outputs apart that agree on their last `w` bytes:
`AgreeTail w a b`.  Executing sequences preserves `AgreeTail w` as long as every sequence obeys the window rule of `Conform.offsetOk`
(`WindowOk`; `Props.C05.conform_gives_windowOk` is the bridge), so the limited decoder regenerates the same content as the unlimited
one.  Nothing is claimed for a sequence that breaks the rule: that is the situation the C05 / C11 checks report.
-/
import ZstdVerif.Lemmas.ExecRT
namespace ZstdVerif.Exec

/-- `a` and `b` have the same length and the same last `w` bytes -/
def AgreeTail (w : Nat) (a b : ByteArray) : Prop :=
  a.size = b.size ∧ ∀ i, i < a.size → a.size ≤ i + w → a[i]! = b[i]!

theorem AgreeTail.refl (w : Nat) (a : ByteArray) : AgreeTail w a a := ⟨rfl, fun _ _ _ => rfl⟩

theorem AgreeTail.append {w : Nat} {a b : ByteArray} (h : AgreeTail w a b) (l : ByteArray) : AgreeTail w (a ++ l) (b ++ l) := by
  refine ⟨by rw [ByteArray.size_append, ByteArray.size_append, h.1], ?_⟩
  intro i hi hw
  rw [ByteArray.size_append] at hi hw
  by_cases hlt : i < a.size
  · rw [bang_append_left hlt, bang_append_left (by rw [← h.1]; exact hlt)]
    exact h.2 i hlt (by omega)
  · rw [bang_append_right (by omega), bang_append_right (by rw [← h.1]; omega), h.1]

theorem AgreeTail.push {w : Nat} {a b : ByteArray} (h : AgreeTail w a b) (x : UInt8) : AgreeTail w (a.push x) (b.push x) := by
  rw [← ByteArray.append_toByteArray_singleton, ← ByteArray.append_toByteArray_singleton]
  exact h.append _

theorem copyMatch_window (dict : ByteArray) (w fs off : Nat) (ml : Nat) (a b : ByteArray) (h : AgreeTail w a b) (hfs : fs ≤ a.size)
    (h1 : 1 ≤ off) (hw : off ≤ w ∨ a.size + ml - fs ≤ w) :
    AgreeTail w (copyMatch dict a fs off ml) (copyMatch dict b fs off ml) := by
  induction ml generalizing a b with
  | zero => exact h
  | succ n ih =>
    -- the source byte is the same for both: in the output it lies inside the agreed tail, else it comes from the dictionary
    have hsrc : matchByte dict a fs off = matchByte dict b fs off := by
      unfold matchByte
      rw [← h.1]
      split
      · exact h.2 (a.size - off) (by omega) (by omega)
      · rfl
    rw [copyMatch_succ, copyMatch_succ, hsrc]
    exact ih _ _ (h.push _) (by rw [ByteArray.size_push]; omega) (by rw [ByteArray.size_push]; omega)

/-- One sequence (`ZSTD_execSequence`): the verdict depends on sizes only -/
theorem step_window (dict lits : ByteArray) (w fs cap lp : Nat) (s : Seq) (a b : ByteArray) (h : AgreeTail w a b) (hfs : fs ≤ a.size)
    (h1 : 1 ≤ s.offset) (hw : s.offset ≤ w ∨ a.size + s.ll + s.ml - fs ≤ w) :
    match step dict fs cap lits a lp s, step dict fs cap lits b lp s with
    | .ok (a', p), .ok (b', q) => AgreeTail w a' b' ∧ p = q ∧ a.size ≤ a'.size
    | .error e, .error f => e = f
    | _, _ => False := by
  unfold step
  rw [← h.1]
  by_cases c1 : s.ll + s.ml > cap - a.size
  · simp only [c1, if_true]
  by_cases c2 : s.ll > lits.size - lp
  · simp only [c1, c2, if_true, if_false]
  by_cases c3 : s.offset > a.size + s.ll - fs + dict.size
  · simp only [c1, c2, c3, if_true, if_false]
  simp only [c1, c2, c3, if_false]
  have hsa : (a ++ lits.extract lp (lp + s.ll)).size = a.size + s.ll := by
    rw [ByteArray.size_append, ByteArray.size_extract]; omega
  refine ⟨copyMatch_window dict w fs s.offset s.ml _ _ (h.append _) (by omega) h1 (hw.imp_right fun hw => by omega), trivial, ?_⟩
  rw [copyMatch_size, hsa]; omega

/-- the window rule for a sequence section that starts at output size `n`: each sequence's distance is at most `w`, or the frame
content up to the end of that sequence still fits in `w` bytes -/
def WindowOk (w fs : Nat) : Nat → List Seq → Prop
  | _, [] => True
  | n, s :: rest => 1 ≤ s.offset ∧ (s.offset ≤ w ∨ n + s.ll + s.ml - fs ≤ w) ∧ WindowOk w fs (n + s.ll + s.ml) rest

theorem runSeqs_window (dict lits : ByteArray) (w fs cap : Nat) (seqs : List Seq) (a b : ByteArray) (lp : Nat) (h : AgreeTail w a b)
    (hfs : fs ≤ a.size) (hok : WindowOk w fs a.size seqs) :
    match runSeqs dict fs cap lits a lp seqs, runSeqs dict fs cap lits b lp seqs with
    | .ok (a', p), .ok (b', q) => AgreeTail w a' b' ∧ p = q
    | .error e, .error f => e = f
    | _, _ => False := by
  induction seqs generalizing a b lp with
  | nil => exact ⟨h, rfl⟩
  | cons s rest ih =>
    obtain ⟨h1, hw, hrest⟩ := hok
    have hs := step_window dict lits w fs cap lp s a b h hfs h1 hw
    simp only [runSeqs]
    split at hs
    · rename_i a' p b' q ha hb
      obtain ⟨hag, rfl, hge⟩ := hs
      rw [ha, hb]
      obtain ⟨_, _, _, _, t, ht, rfl⟩ := step_ok _ ha
      refine ih _ b' p hag (by omega) ?_
      rw [ByteArray.size_append, ht, ← Nat.add_assoc]
      exact hrest
    · rename_i ha hb
      rw [ha, hb]
      exact hs
    · exact hs.elim

/-- `Exec.run` (the sequences, the verdict on the bit stream, the last literals): a decoder that kept only the last `w` bytes (`b`)
reaches the same verdict as the one that kept everything (`a`); in particular every byte regenerated by this block is the same
whenever the block is no longer than `w` -/
theorem run_window (dict lits : ByteArray) (w fs cap : Nat) (seqs : List Seq) (chk : R Unit) (a b : ByteArray) (h : AgreeTail w a b)
    (hfs : fs ≤ a.size) (hok : WindowOk w fs a.size seqs) :
    match run dict { out := a, frameStart := fs, cap := cap } lits seqs chk, run dict { out := b, frameStart := fs, cap := cap } lits seqs chk with
    | .ok a', .ok b' => AgreeTail w a' b'
    | .error e, .error f => e = f
    | _, _ => False := by
  have hr := runSeqs_window dict lits w fs cap seqs a b 0 h hfs hok
  unfold run
  split at hr
  · rename_i a' p b' q ha hb
    obtain ⟨hag, rfl⟩ := hr
    simp only [ha, hb]
    cases chk with
    | error e => rfl
    | ok u =>
      -- the capacity check of the last literals looks at the size only
      simp only [lastLiterals]
      rw [← hag.1]
      by_cases c : lits.size - p > cap - a'.size
      · simp only [c, if_true]
      · simp only [c, if_false]
        exact hag.append _
  · rename_i ha hb
    simp only [ha, hb]
    exact hr
  · exact hr.elim

end ZstdVerif.Exec
