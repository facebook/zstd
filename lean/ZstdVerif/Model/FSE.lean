/-
FSE: normalised-count header (entropy_common.c: FSE_readNCount_body, transcribed literally: ip / bitCount /
32-bit bitStream), decoding-table construction (fse_decompress.c: FSE_buildDTable_internal and
zstd_decompress_block.c: ZSTD_buildFSETable_body) and the two-state weight decoder
(FSE_decompress_usingDTable_generic).
-/
import ZstdVerif.Model.Bits
import ZstdVerif.Gen.Tables
import ZstdVerif.Gen.Consts
namespace ZstdVerif.FSE

/-- result of FSE_readNCount: normalised counts (length = maxSymbolValue+1), tableLog, bytes read -/
structure NCount where
  norm : Array Int
  tableLog : Nat
  used : Nat
deriving Inhabited

def ctz (x : Nat) : Nat := Id.run do     -- ZSTD_countTrailingZeros32 (x ≠ 0)
  let mut n := 0
  for k in [0:32] do
    if (x >>> k) &&& 1 == 1 then return n
    n := n + 1
  return n

structure RS where        -- loop state of FSE_readNCount_body
  ip : Nat
  bitCount : Int
  bitStream : Nat
  remaining : Int
  threshold : Int
  nbBits : Nat
  charnum : Nat
  previous0 : Bool
  norm : Array Int
  done : Bool

@[inline] def mask32 (x : Nat) : Nat := x &&& 0xFFFFFFFF

/-- the refill of the header reader: `iend` = buffer size (≥ 8) -/
@[inline] def refill (b : Bytes) (iend : Nat) (ip : Nat) (bitCount : Int) : Nat × Int × Nat :=
  -- returns (ip', bitCount', bitStream')
  let bc := bitCount.toNat
  if ip + 7 ≤ iend ∨ ip + (bc >>> 3) + 4 ≤ iend then
    let ip' := ip + (bc >>> 3)
    let bc' := bc &&& 7
    (ip', (bc' : Int), (b.le32 ip') >>> bc')
  else
    let bc1 : Int := bitCount - (8 * ((iend - 4 - ip : Nat) : Int))
    let bc' := (bc1.toNat) &&& 31
    (iend - 4, (bc' : Int), (b.le32 (iend - 4)) >>> bc')

/-- FSE_readNCount_body, the `if (previous0)` part of one turn of the main loop: runs of zero counts are skipped 2 bits at a time
(`repeats`), `charnum` moves past them; `charnum >= maxSV1` is the C `break` out of the main loop (here: `done := true`),
otherwise the bit container is refilled.  The counts of the skipped symbols stay 0 (the array starts zeroed). -/
def skipZeros (b : Bytes) (iend maxSV1 : Nat) (s : RS) : RS := Id.run do
  let mut repeats := (ctz (mask32 (0xFFFFFFFF - s.bitStream) ||| 0x80000000)) >>> 1
  let mut ip := s.ip
  let mut bitCount := s.bitCount
  let mut bitStream := s.bitStream
  let mut charnum := s.charnum
  -- `while (repeats >= 12)`: bounded by the symbol budget
  for _ in [0:maxSV1 / 36 + 2] do
    if repeats < 12 then break
    charnum := charnum + 36
    if ip + 7 ≤ iend then
      ip := ip + 3
    else
      bitCount := bitCount - (8 * (((iend - 7 : Nat) : Int) - (ip : Int)))
      bitCount := ((bitCount.toNat) &&& 31 : Nat)
      ip := iend - 4
    bitStream := (b.le32 ip) >>> bitCount.toNat
    repeats := (ctz (mask32 (0xFFFFFFFF - bitStream) ||| 0x80000000)) >>> 1
  charnum := charnum + 3 * repeats
  bitStream := bitStream >>> (2 * repeats)
  bitCount := bitCount + 2 * repeats
  charnum := charnum + (bitStream &&& 3)
  bitCount := bitCount + 2
  if charnum ≥ maxSV1 then
    return { s with ip := ip, bitCount := bitCount, bitStream := bitStream, charnum := charnum, done := true }
  let (ip', bc', bs') := refill b iend ip bitCount
  return { s with ip := ip', bitCount := bc', bitStream := bs', charnum := charnum }

/-- FSE_readNCount_body, the variable-length field of one count: `max = (2*threshold-1) - remaining`; a value below `max` takes
`nbBits-1` bits, otherwise `nbBits` bits (values `>= threshold` are shifted down by `max`); then `count--` ("extra accuracy": the
stored value is count+1, so -1 = "less than one").  Returns (count, new bitCount). -/
def countField (s : RS) : Int × Int := Id.run do
  let thr := s.threshold.toNat
  let max : Int := (2 * s.threshold - 1) - s.remaining
  let low := s.bitStream &&& (thr - 1)
  let mut count : Int := 0
  let mut bitCount := s.bitCount
  if (low : Int) < max then
    count := low
    bitCount := bitCount + (s.nbBits - 1 : Nat)
  else
    count := ((s.bitStream &&& (2 * thr - 1) : Nat) : Int)
    if count ≥ s.threshold then count := count - max
    bitCount := bitCount + s.nbBits
  count := count - 1
  return (count, bitCount)

/-- FSE_readNCount_body, the second part of one turn of the main loop: read one count (`countField`), book it
(`remaining -= abs(count)`, `normalizedCounter[charnum++] = count`, `previous0 = !count`), shrink `nbBits` / `threshold` while
`remaining < threshold`, stop (`done`) when `remaining <= 1` or `charnum >= maxSV1`, else refill the bit container -/
def readCount (b : Bytes) (iend maxSV1 : Nat) (s : RS) : RS := Id.run do
  let (count, bitCount) := countField s
  let remaining := if count ≥ 0 then s.remaining - count else s.remaining + count
  let norm := if s.charnum < s.norm.size then s.norm.set! s.charnum count else s.norm
  let charnum := s.charnum + 1
  let mut nbBits := s.nbBits
  let mut threshold := s.threshold
  let mut done := false
  if remaining < threshold then
    if remaining ≤ 1 then done := true
    else
      nbBits := highbit remaining.toNat + 1
      threshold := ((1 <<< (nbBits - 1) : Nat) : Int)
  if !done && charnum ≥ maxSV1 then done := true
  if done then
    return { s with bitCount := bitCount, remaining := remaining, norm := norm, charnum := charnum, previous0 := count == 0,
                    nbBits := nbBits, threshold := threshold, done := true }
  else
    let (ip', bc', bs') := refill b iend s.ip bitCount
    return { s with ip := ip', bitCount := bc', bitStream := bs', remaining := remaining, norm := norm, charnum := charnum,
                    previous0 := count == 0, nbBits := nbBits, threshold := threshold }

/-- FSE_readNCount on a buffer of at least 8 bytes (FSE_readNCount_body; one turn of its main loop = `skipZeros` when the previous
count was 0, then `readCount`) -/
def readNCount8 (b : Bytes) (hbSize : Nat) (maxSV : Nat) : R NCount := Id.run do
  let iend := hbSize
  let maxSV1 := maxSV + 1
  let bs0 := b.le32 0
  let tl := (bs0 &&& 0xF) + Gen.FSE_MIN_TABLELOG
  if tl > Gen.FSE_TABLELOG_ABSOLUTE_MAX then return .error .tableLogTooLarge
  let mut s : RS := { ip := 0, bitCount := 4, bitStream := bs0 >>> 4, remaining := ((1 <<< tl) + 1 : Nat), threshold := ((1 <<< tl) : Nat),
                      nbBits := tl + 1, charnum := 0, previous0 := false, norm := Array.replicate maxSV1 0, done := false }
  -- at most maxSV1 symbols are produced, each iteration produces one (or stops)
  for _ in [0:maxSV1 + 2] do
    if s.done then break
    if s.previous0 then
      s := skipZeros b iend maxSV1 s
      if s.done then break
    s := readCount b iend maxSV1 s
  if s.remaining != 1 then return .error (.corruptionAt "FSE:126")
  if s.charnum > maxSV1 then return .error (.corruptionAt "FSE:127")      -- maxSymbolValue_tooSmall
  if s.bitCount > 32 then return .error (.corruptionAt "FSE:128")
  let used := s.ip + ((s.bitCount.toNat + 7) >>> 3)
  return .ok { norm := s.norm.extract 0 s.charnum, tableLog := tl, used := used }

/-- FSE_readNCount(src[start, start+hbSize)) with the < 8 bytes padding rule -/
def readNCount (src : Bytes) (start hbSize : Nat) (maxSV : Nat) : R NCount :=
  if hbSize < 8 then
    let buf := (src.extract start (start + hbSize)) ++ ByteArray.mk (Array.replicate (8 - hbSize) 0)
    match readNCount8 buf 8 maxSV with
    | .error e => .error e
    | .ok r => if r.used > hbSize then .error (.corruptionAt "FSE:138") else .ok r
  else
    readNCount8 (src.extract start (start + hbSize)) hbSize maxSV

/-- one cell of a decoding table -/
structure Cell where
  sym : Nat
  nbBits : Nat
  newState : Nat
deriving Inhabited, DecidableEq, Repr

@[inline] def tableStep (size : Nat) : Nat := (size >>> 1) + (size >>> 3) + 3

/-- number of table cells owned by symbol `s`: its normalised count, 1 for a "less than one" count (-1), 0 for absent (or out-of-range) symbols -/
@[inline] def cnt (norm : Array Int) (s : Nat) : Nat := if norm[s]! == -1 then 1 else norm[s]!.toNat

/-- symbol spreading shared by FSE_buildDTable_internal (fse_decompress.c) and ZSTD_buildFSETable_body (zstd_decompress_block.c)
(the generic branch; `FSE.spreadEnc_eq_spread`, Lemmas/SpreadRT.lean, states that the two-stage fast branch, as `FSE.spreadEnc` has it,
lays down the same symbols):
the symbol held by each of the `1 <<< tableLog` positions.  Low-probability symbols (`norm = -1`) go to the top of the table,
the others are laid down by the `step` walk that skips the low-probability area. -/
def spread (norm : Array Int) (tableLog : Nat) : Array Nat := Id.run do
  let size := 1 <<< tableLog
  let mask := size - 1
  let step := tableStep size
  let mut syms : Array Nat := Array.replicate size 0
  let mut high := size - 1
  for s in [0:norm.size] do
    let c := norm[s]!
    if c == -1 then
      syms := syms.set! high s
      high := high - 1
  let mut pos := 0
  for s in [0:norm.size] do
    let c := norm[s]!
    if c > 0 then
      for _ in [0:c.toNat] do
        syms := syms.set! pos s
        pos := (pos + step) &&& mask
        -- `while (position > highThreshold)`: at most `size` skips
        for _ in [0:size] do
          if pos ≤ high then break
          pos := (pos + step) &&& mask
  return syms

/-- `symbolNext[s]` at the start of the state-assignment loop: `normalizedCounter[s]`, 1 for -1 -/
def nextInit (norm : Array Int) : Array Nat := norm.map fun c => if c == -1 then 1 else c.toNat

/-- one iteration of the state-assignment loop (`for u < tableSize`): `nextState = symbolNext[symbol]++`,
`nbBits = tableLog - highbit(nextState)`, `newState = (nextState << nbBits) - tableSize`; the cell of position `u` is pushed -/
@[inline] def cellStep (tableLog : Nat) (st : Array Nat × Array Cell) (sym : Nat) : Array Nat × Array Cell :=
  let ns := st.1[sym]!
  let nb := tableLog - highbit ns
  (st.1.set! sym (ns + 1), st.2.push { sym := sym, nbBits := nb, newState := (ns <<< nb) - (1 <<< tableLog) })

/-- state assignment of FSE_buildDTable_internal / ZSTD_buildFSETable_body given the symbol of every position:
a left-to-right pass over the positions carrying the `symbolNext` counters -/
def cellsOf (syms : Array Nat) (norm : Array Int) (tableLog : Nat) : Array Cell :=
  (syms.foldl (cellStep tableLog) (nextInit norm, Array.mkEmpty syms.size)).2

/-- FSE_buildDTable_internal / ZSTD_buildFSETable_body: symbol spreading, then state assignment -/
def buildCells (norm : Array Int) (tableLog : Nat) : Array Cell := cellsOf (spread norm tableLog) norm tableLog

/-- FSE_decompress_wksp for Huffman weights: header + two interleaved states; at most `maxOut` symbols -/
def decompressWeights (src : Bytes) (start len : Nat) (maxOut : Nat) : R (Array Nat) := do
  let nc ← readNCount src start len 255
  if nc.tableLog > 6 then throw .tableLogTooLarge
  let cells := buildCells nc.norm nc.tableLog
  let r0 ← match BitR.init src (start + nc.used) (len - nc.used) with
    | .ok r => pure r
    | .error _ => throw (.corruptionAt "FSE:195")
  if nc.used > len then throw (.srcSizeWrongAt "FSE:196")
  let (s1, r1) := r0.read nc.tableLog
  let (s2, r2) := r1.read nc.tableLog
  let mut st1 := s1
  let mut st2 := s2
  let mut r := r2
  let mut out : Array Nat := #[]
  -- tail loop of FSE_decompress_usingDTable_generic (the 4-symbols loop is the same function unrolled)
  for _ in [0:maxOut + 2] do
    if out.size + 2 > maxOut then throw .dstTooSmall
    let c1 := cells[st1]!
    out := out.push c1.sym
    let (lo, r') := r.read c1.nbBits
    r := r'
    st1 := c1.newState + lo
    if r.over then
      out := out.push (cells[st2]!).sym
      return out
    if out.size + 2 > maxOut then throw .dstTooSmall
    let c2 := cells[st2]!
    out := out.push c2.sym
    let (lo2, r'') := r.read c2.nbBits
    r := r''
    st2 := c2.newState + lo2
    if r.over then
      out := out.push (cells[st1]!).sym
      return out
  throw .dstTooSmall

/-- ZSTD_buildFSETable: cells carry (nextState, nbAdditionalBits, nbBits, baseValue) -/
def buildSeqTable (norm : Array Int) (tableLog : Nat) (base bits : List Nat) : Array Gen.SeqCell :=
  (buildCells norm tableLog).map fun c =>
    { nextState := c.newState, nbAddBits := bits.getD c.sym 0, nbBits := c.nbBits, baseValue := base.getD c.sym 0 }

/-- ZSTD_buildSeqTable_rle -/
def rleSeqTable (sym : Nat) (base bits : List Nat) : Array Gen.SeqCell :=
  #[{ nextState := 0, nbAddBits := bits.getD sym 0, nbBits := 0, baseValue := base.getD sym 0 }]

end ZstdVerif.FSE
