/-
FSE (tANS) ENCODER side: compression-table construction (lib/compress/fse_compress.c: FSE_buildCTable_wksp) and the encoder state
machine (lib/common/fse.h: FSE_initCState, FSE_initCState2, FSE_encodeSymbol, FSE_flushCState).

The encoder walks the symbols in REVERSE order and pushes bit fields; the decoder pops them in forward order: the bit stream is a stack.
`encodeAll` is the way ZSTD_encodeSequences (lib/compress/zstd_compress_sequences.c) drives ONE table (no extra bits).
`Lemmas/FSERT.lean` proves that the decoding table `FSE.cellsOf` (Model/FSE.lean) inverts this encoder.

Integer types.  `deltaNbBits` is a U32 in C: it is kept here as the (non-negative) value of that U32 (`u32` reduces modulo 2^32 where the C
arithmetic is unsigned 32-bit).  `deltaFindState` is an `int`, the encoder state `value` a `ptrdiff_t` (64-bit): plain integers.
`tableU16[]` entries are U16 (`% 65536`).  `cumul[]` is U16 in C; its entries are at most `tableSize + 1 ≤ 2^15 + 1` (the C code asserts
`tableLog < 16` and "no overflow"), so no reduction is applied to them.  Symbols are `FSE_FUNCTION_TYPE = BYTE` in `tableSymbol[]`: the
model takes alphabets of at most 256 symbols.  Counts below -1 are excluded by a C `assert`; the model reads them as 0 occurrences.
-/
import ZstdVerif.Model.FSE
namespace ZstdVerif.FSE

/-- value of a C expression computed in unsigned 32-bit arithmetic -/
@[inline] def u32 (x : Int) : Int := x % 4294967296

/-- FSE_symbolCompressionTransform (fse.h): `{ int deltaFindState; U32 deltaNbBits; }` -/
structure SymTT where
  deltaFindState : Int
  deltaNbBits : Int
deriving Inhabited, DecidableEq, Repr

/-- FSE_CTable: header (tableLog), `tableU16[tableSize]` (next-state values sorted by symbol), `symbolTT[maxSymbolValue+1]` -/
structure CTable where
  tableLog : Nat
  stateTable : Array Nat
  symbolTT : Array SymTT
deriving Inhabited, DecidableEq, Repr

/-- FSE_buildCTable_wksp, "symbol start positions": `cumul[0] = 0; cumul[u] = cumul[u-1] + (normalizedCounter[u-1] == -1 ? 1 : normalizedCounter[u-1])`
for `u = 1..maxSV1`, then `cumul[maxSV1] = tableSize + 1` -/
def cumulOf (norm : Array Int) (tableLog : Nat) : Array Nat :=
  let cum := (List.range norm.size).foldl (fun (cum : Array Nat) u => cum.push (cum[u]! + cnt norm u)) #[0]
  cum.set! norm.size ((1 <<< tableLog) + 1)

/-- FSE_buildCTable_wksp, "Spread symbols" (the ENCODER's own copy of the spreading code): the symbol of every table position.
* low-probability symbols (count -1) are laid down from the top (`tableSymbol[highThreshold--] = u-1`, in the `cumul` loop);
* no low-probability symbol (`highThreshold == tableSize-1`): the symbols are first laid down consecutively in `spread[]` by 8-byte writes
  (`MEM_write64(spread + pos + i, sv)` for `i = 0, 8, .. < n`, at least once; `spread[]` has `tableSize + 8` bytes), then dealt to
  `tableSymbol[(position + u*step) & tableMask]`, two per iteration;
* otherwise: the `position = (position + step) & tableMask` walk that skips the low-probability area. -/
def spreadEnc (norm : Array Int) (tableLog : Nat) : Array Nat := Id.run do
  let tableSize := 1 <<< tableLog
  let tableMask := tableSize - 1
  let step := tableStep tableSize
  let mut tableSymbol : Array Nat := Array.replicate tableSize 0
  let mut highThreshold := tableSize - 1
  for s in [0:norm.size] do
    if norm[s]! == -1 then
      tableSymbol := tableSymbol.set! highThreshold s
      highThreshold := highThreshold - 1
  if highThreshold == tableSize - 1 then
    let mut spread : Array Nat := Array.replicate (tableSize + 8) 0
    let mut pos := 0
    for s in [0:norm.size] do
      let n := norm[s]!.toNat
      for j in [0:8] do
        spread := spread.set! (pos + j) s
      for i in [8:n:8] do
        for j in [0:8] do
          spread := spread.set! (pos + i + j) s
      pos := pos + n
    let mut position := 0
    for s in [0:tableSize:2] do
      for u in [0:2] do
        let uPosition := (position + u * step) &&& tableMask
        tableSymbol := tableSymbol.set! uPosition spread[s + u]!
      position := (position + 2 * step) &&& tableMask
  else
    let mut position := 0
    for symbol in [0:norm.size] do
      let freq := norm[symbol]!
      for _ in [0:freq.toNat] do
        tableSymbol := tableSymbol.set! position symbol
        position := (position + step) &&& tableMask
        -- `while (position > highThreshold)`: at most `tableSize` skips
        for _ in [0:tableSize] do
          if position ≤ highThreshold then break
          position := (position + step) &&& tableMask
  return tableSymbol

/-- occurrences of every symbol `< n` among the table positions -/
def histOf (n : Nat) (syms : Array Nat) : Array Nat :=
  syms.foldl (fun (h : Array Nat) s => h.set! s (h[s]! + 1)) (Array.replicate n 0)

/-- run-time check of `SpreadOK` (Lemmas/SpreadRT.lean: `spreadOK_iff`): `syms` has `2^tableLog` positions, every position holds a symbol
of the alphabet, and every symbol occurs exactly as often as its normalised count says (once for -1, never for 0) -/
def spreadOK (syms : Array Nat) (norm : Array Int) (tableLog : Nat) : Bool :=
  syms.size == 2 ^ tableLog && syms.all (· < norm.size) && histOf norm.size syms == nextInit norm

/-- FSE_buildCTable_wksp, one iteration of "Build table": `s = tableSymbol[u]; tableU16[cumul[s]++] = (U16)(tableSize + u)`.
State: (u, cumul, tableU16). -/
@[inline] def stStep (tableSize : Nat) (st : Nat × Array Nat × Array Nat) (s : Nat) : Nat × Array Nat × Array Nat :=
  let c := st.2.1[s]!
  (st.1 + 1, st.2.1.set! s (c + 1), st.2.2.set! c ((tableSize + st.1) % 65536))

/-- FSE_buildCTable_wksp, "Build table": `tableU16[]`, sorted by symbol order; gives the next state value -/
def stateTableOf (syms : Array Nat) (cumul : Array Nat) (tableLog : Nat) : Array Nat :=
  (syms.foldl (stStep (1 <<< tableLog)) (0, cumul, Array.replicate (1 <<< tableLog) 0)).2.2

/-- FSE_buildCTable_wksp, body of "Build Symbol Transformation Table" for symbol `s` (`total` = cells of the earlier symbols):
* count 0: `deltaNbBits = ((tableLog+1) << 16) - (1 << tableLog)` (deltaFindState is left unwritten in C; 0 here)
* count -1 or 1: `deltaNbBits = (tableLog << 16) - (1 << tableLog)`, `deltaFindState = total - 1`
* default: `maxBitsOut = tableLog - highbit32(count-1)`, `minStatePlus = count << maxBitsOut`,
  `deltaNbBits = (maxBitsOut << 16) - minStatePlus`, `deltaFindState = total - count` -/
def symTTOf (norm : Array Int) (tableLog : Nat) (total : Nat) (s : Nat) : SymTT :=
  let c := norm[s]!
  if c == 0 then
    { deltaNbBits := u32 ((((tableLog + 1) <<< 16 : Nat) : Int) - ((1 <<< tableLog : Nat) : Int)), deltaFindState := 0 }
  else if c == -1 || c == 1 then
    { deltaNbBits := u32 (((tableLog <<< 16 : Nat) : Int) - ((1 <<< tableLog : Nat) : Int)), deltaFindState := (total : Int) - 1 }
  else
    let maxBitsOut := tableLog - highbit (c.toNat - 1)
    let minStatePlus := c.toNat <<< maxBitsOut
    { deltaNbBits := u32 (((maxBitsOut <<< 16 : Nat) : Int) - (minStatePlus : Int)), deltaFindState := (total : Int) - (c.toNat : Int) }

/-- one iteration of "Build Symbol Transformation Table": state (total, symbolTT so far); `total` grows by the cells of the symbol -/
@[inline] def ttStep (norm : Array Int) (tableLog : Nat) (st : Nat × Array SymTT) (s : Nat) : Nat × Array SymTT :=
  (st.1 + cnt norm s, st.2.push (symTTOf norm tableLog st.1 s))

def symbolTTOf (norm : Array Int) (tableLog : Nat) : Array SymTT :=
  ((List.range norm.size).foldl (ttStep norm tableLog) (0, Array.mkEmpty norm.size)).2

/-- FSE_buildCTable_wksp given the symbol of every table position (`tableSymbol[]`) -/
def ctableOf (syms : Array Nat) (norm : Array Int) (tableLog : Nat) : CTable :=
  { tableLog := tableLog
    stateTable := stateTableOf syms (cumulOf norm tableLog) tableLog
    symbolTT := symbolTTOf norm tableLog }

/-- FSE_buildCTable_wksp (maxSymbolValue = norm.size - 1) -/
def buildCTable (norm : Array Int) (tableLog : Nat) : CTable := ctableOf (spreadEnc norm tableLog) norm tableLog

/-- FSE_initCState: `value = 1 << tableLog` -/
def initCState (ct : CTable) : Nat := 1 <<< ct.tableLog

/-- FSE_initCState2: the first symbol to include (the last one read by the decoder) takes the smallest state value possible.
`nbBitsOut = (U32)((deltaNbBits + (1<<15)) >> 16); value = (nbBitsOut << 16) - deltaNbBits;
 value = stateTable[(value >> nbBitsOut) + deltaFindState]` -/
def initCState2 (ct : CTable) (symbol : Nat) : Nat :=
  let tt := ct.symbolTT[symbol]!
  let nbBitsOut := ((u32 (tt.deltaNbBits + ((1 <<< 15 : Nat) : Int))) >>> 16).toNat
  let value : Int := u32 (((nbBitsOut <<< 16 : Nat) : Int) - tt.deltaNbBits)
  ct.stateTable[((value >>> nbBitsOut) + tt.deltaFindState).toNat]!

/-- FSE_encodeSymbol: `nbBitsOut = (U32)((value + deltaNbBits) >> 16); BIT_addBits(bitC, value, nbBitsOut);
 value = stateTable[(value >> nbBitsOut) + deltaFindState]`.
Returns the new state and the pushed field (its value: the low `nbBitsOut` bits of the state, as BIT_addBits masks it; its width). -/
def encodeSymbol (ct : CTable) (value : Nat) (symbol : Nat) : Nat × (Nat × Nat) :=
  let tt := ct.symbolTT[symbol]!
  let nbBitsOut := (u32 (((value : Int) + tt.deltaNbBits) >>> 16)).toNat
  (ct.stateTable[(((value : Int) >>> nbBitsOut) + tt.deltaFindState).toNat]!, (value % 2 ^ nbBitsOut, nbBitsOut))

/-- FSE_flushCState: `BIT_addBits(bitC, value, stateLog)` pushes the low `tableLog` bits of the state -/
def flushCState (ct : CTable) (value : Nat) : Nat × Nat := (value % 2 ^ ct.tableLog, ct.tableLog)

/-- the encoder loop over the symbols that remain (`rev` = the symbols still to encode, in encoding order = reverse stream order):
every FSE_encodeSymbol pushes its field on top of `stack` -/
def encodeLoop (ct : CTable) : List Nat → Nat → List (Nat × Nat) → Nat × List (Nat × Nat)
  | [], value, stack => (value, stack)
  | s :: rev, value, stack =>
    let r := encodeSymbol ct value s
    encodeLoop ct rev r.1 (r.2 :: stack)

/-- One table driven as ZSTD_encodeSequences (zstd_compress_sequences.c) drives each of its three tables, without the extra bits:
`FSE_initCState2(&state, ct, codes[n-1]); for (k = n-2; k < n; k--) FSE_encodeSymbol(&bits, &state, codes[k]); FSE_flushCState(&bits, &state)`.
The result is the stack of (value, width) bit fields, top (= last pushed = first popped by the decoder) first.  `codes = []` is not a
case of the C function (nbSeq ≥ 1); the model then pushes nothing. -/
def encodeAll (ct : CTable) (codes : List Nat) : List (Nat × Nat) :=
  match codes.reverse with
  | [] => []
  | last :: rev =>
    let r := encodeLoop ct rev (initCState2 ct last) []
    flushCState ct r.1 :: r.2

/-! ### two interleaved states: FSE_compress_usingCTable (used for the Huffman weights, HUF_compressWeights) -/

/-- FSE_compress_usingCTable_generic (fse_compress.c) behind the initialisation: the symbols that remain (`rev`, in encoding order =
reverse source order; an even number of them) go alternately to CState2 and to CState1 - `FSE_encodeSymbol(&bitC, &CState2, *--ip);
FSE_encodeSymbol(&bitC, &CState1, *--ip);` is what the "join to mod 4" step does once and the main loop once or twice per turn.  The
FSE_FLUSHBITS calls in between do not change the bytes (Lemmas/BitsRT.lean `flush_irrelevant`).  Every field is pushed on top of `stack`. -/
def encodePairs (ct : CTable) : List Nat → Nat → Nat → List (Nat × Nat) → Nat × Nat × List (Nat × Nat)
  | a :: b :: rev, s1, s2, stack =>
    let r2 := encodeSymbol ct s2 a
    let r1 := encodeSymbol ct s1 b
    encodePairs ct rev r1.1 r2.1 (r1.2 :: r2.2 :: stack)
  | _, s1, s2, stack => (s1, s2, stack)

/-- FSE_compress_usingCTable_generic: the stack of (value, width) bit fields, top (= last pushed) first; `none` = the C function returns 0
(`srcSize <= 2`).  Initialisation: `if (srcSize & 1) { FSE_initCState2(&CState1, ct, *--ip); FSE_initCState2(&CState2, ct, *--ip);
FSE_encodeSymbol(&bitC, &CState1, *--ip); } else { FSE_initCState2(&CState2, ct, *--ip); FSE_initCState2(&CState1, ct, *--ip); }`;
end: `FSE_flushCState(&bitC, &CState2); FSE_flushCState(&bitC, &CState1)` (BIT_closeCStream: the end mark, added by `BitW.ofFields`). -/
def compressStack (ct : CTable) (src : List Nat) : Option (List (Nat × Nat)) :=
  if src.length ≤ 2 then none else
  match src.reverse with
  | x0 :: x1 :: rev =>
    let r :=
      if src.length % 2 = 1 then
        match rev with
        | x2 :: rev2 =>
          let e := encodeSymbol ct (initCState2 ct x0) x2
          encodePairs ct rev2 e.1 (initCState2 ct x1) [e.2]
        | [] => encodePairs ct [] (initCState2 ct x0) (initCState2 ct x1) []
      else encodePairs ct rev (initCState2 ct x1) (initCState2 ct x0) []
    some (flushCState ct r.1 :: flushCState ct r.2.1 :: r.2.2)
  | _ => none

/-- the fields in the order they are appended to the forward bit writer -/
def compressFields (ct : CTable) (src : List Nat) : Option (List (Nat × Nat)) := (compressStack ct src).map List.reverse

end ZstdVerif.FSE
