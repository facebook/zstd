/-
Model of lib/common/pool.c as a labelled transition system at the granularity of the mutex's
critical sections.  Threads: workers (POOL_thread) and clients (callers of POOL_add / POOL_tryAdd /
POOL_joinJobs / POOL_resize / POOL_free); a job's body may itself post work (add / tryAdd).
The ring buffer (queueHead / queueTail / queueEmpty) is abstracted to a FIFO list `q`; `Ring` below
models the ring itself; that the ring refines the list is not proved.

Condition variables: a waiting thread has a `woken` flag; `broadcast` sets it for every waiter of the
condition, `signal` for ONE waiter chosen by the step label (any choice is a legal pthread behaviour);
a waiter may also wake spuriously (label `.spurious`).  Safety theorems quantify over all labels;
liveness statements exclude spurious wake-ups.
-/
namespace ZstdVerif.Pool

abbrev Job := Nat

/-- what a job body may do -/
inductive JOp where
  | add (j : Job) | tryAdd (j : Job)
deriving DecidableEq, Repr

/-- client operations -/
inductive COp where
  | add (j : Job) | tryAdd (j : Job) | joinJobs | resize (n : Nat) | free
deriving DecidableEq, Repr

inductive WPc where
  | idle                                  -- at the top of the `for(;;)`/`while` : will lock (or already holds it after a wait) and test
  | waitPop (woken : Bool)                -- inside cond_wait(queuePopCond)
  | run (j : Job) (rest : List JOp)       -- executing job j outside the lock; `rest` = body still to execute
  | runWaitPush (j : Job) (rest : List JOp) (woken : Bool)  -- job body blocked in POOL_add on queuePushCond (head of rest is the add)
  | exited
deriving DecidableEq, Repr

inductive CPc where
  | ready
  | waitPush (woken : Bool)               -- POOL_add or POOL_joinJobs blocked on queuePushCond (op = head of prog)
  | freeBcastPush | freeBcastPop | joining  -- POOL_join after `shutdown = 1; unlock`
  | done
deriving DecidableEq, Repr

structure Client where
  pc : CPc
  prog : List COp
deriving DecidableEq, Repr

structure St where
  size : Nat              -- ctx->queueSize (= requested queueSize + 1)
  q : List Job            -- queued jobs, oldest first
  busy : Nat              -- numThreadsBusy
  limit : Nat             -- threadLimit
  shutdown : Bool
  ws : List WPc           -- workers; ws.length = threadCapacity
  cs : List Client
  -- ghost history
  accepted : List Job     -- every job ever enqueued, in enqueue order
  started : List Job      -- every job ever popped, in pop order
  finished : List Job     -- every job whose function returned, in completion order
  tryRefused : List Job   -- tryAdd returned 0
  tryOk : List Job        -- tryAdd returned 1
deriving DecidableEq, Repr

def init (threads queueSize : Nat) (progs : List (List COp)) : St :=
  { size := queueSize + 1, q := [], busy := 0, limit := threads, shutdown := false,
    ws := List.replicate threads .idle, cs := progs.map (fun p => ⟨.ready, p⟩),
    accepted := [], started := [], finished := [], tryRefused := [], tryOk := [] }

/-- `isQueueFull` -/
def isFull (s : St) : Bool :=
  if s.size > 1 then s.q.length + 1 == s.size
  else (s.busy == s.limit) || !s.q.isEmpty

/-- condition-variable actions performed by a critical section (observable in the trace) -/
inductive Act where
  | signalPop | bcastPop | bcastPush | waitPop | waitPush
deriving DecidableEq, Repr

/-! wake-up helpers -/
def wakeAllPushW : WPc → WPc
  | .runWaitPush j r _ => .runWaitPush j r true
  | w => w
def wakeAllPushC (c : Client) : Client :=
  match c.pc with
  | .waitPush _ => { c with pc := .waitPush true }
  | _ => c
def wakeAllPopW : WPc → WPc
  | .waitPop _ => .waitPop true
  | w => w

def bcastPush (s : St) : St := { s with ws := s.ws.map wakeAllPushW, cs := s.cs.map wakeAllPushC }
def bcastPop (s : St) : St := { s with ws := s.ws.map wakeAllPopW }

/-- `cond_signal(queuePopCond)`: wake the `k`-th worker if it is blocked there (the label carries the choice);
if nobody is blocked the signal is lost -/
def signalPop (s : St) (k : Nat) : St :=
  match s.ws[k]? with
  | some (.waitPop false) => { s with ws := s.ws.set k (.waitPop true) }
  | _ => s

/-- a legal choice for `signal`: the chosen worker is blocked, or nobody is -/
def signalChoiceOk (s : St) (k : Nat) : Bool :=
  (s.ws[k]? == some (.waitPop false)) || s.ws.all (fun w => w != .waitPop false)

/-- `POOL_add_internal` -/
def addInternal (s : St) (j : Job) (k : Nat) : St × List Act :=
  if s.shutdown then (s, [])
  else (signalPop { s with q := s.q ++ [j], accepted := s.accepted ++ [j] } k, [.signalPop])

inductive Label where
  | worker (i : Nat) (sig : Nat)       -- worker i executes its next critical section / job-body op (sig = signal choice)
  | client (i : Nat) (sig : Nat)
  | spuriousW (i : Nat) | spuriousC (i : Nat)
deriving DecidableEq, Repr

/-- one critical section of worker `i` -/
def stepWorker (body : Job → List JOp) (s : St) (i : Nat) (sig : Nat) : Option (St × List Act) :=
  match s.ws[i]? with
  | none => none
  | some .exited => none
  | some (.waitPop false) => none
  | some (.runWaitPush _ _ false) => none
  | some .idle | some (.waitPop true) =>
      if s.q.isEmpty || decide (s.busy ≥ s.limit) then
        if s.shutdown then some ({ s with ws := s.ws.set i .exited }, [])
        else some ({ s with ws := s.ws.set i (.waitPop false) }, [.waitPop])
      else
        match s.q with
        | [] => none
        | j :: rest =>
          some (bcastPush { s with q := rest, busy := s.busy + 1, started := s.started ++ [j],
                                   ws := s.ws.set i (.run j (body j)) }, [.bcastPush])
  | some (.run j []) =>
      -- job function returned: lock; numThreadsBusy--; broadcast(push); unlock
      some (bcastPush { s with busy := s.busy - 1, finished := s.finished ++ [j], ws := s.ws.set i .idle }, [.bcastPush])
  | some (.run j (.add a :: rest)) | some (.runWaitPush j (.add a :: rest) true) =>
      if isFull s && !s.shutdown then some ({ s with ws := s.ws.set i (.runWaitPush j (.add a :: rest) false) }, [.waitPush])
      else
        let (s', acts) := addInternal s a sig
        some ({ s' with ws := s'.ws.set i (.run j rest) }, acts)
  | some (.run j (.tryAdd a :: rest)) =>
      -- POOL_tryAdd: refused when the queue is full OR the pool is shutting down (the job would be dropped: not a success)
      if isFull s || s.shutdown then some ({ s with ws := s.ws.set i (.run j rest), tryRefused := s.tryRefused ++ [a] }, [])
      else
        let (s', acts) := addInternal s a sig
        some ({ s' with ws := s'.ws.set i (.run j rest), tryOk := s'.tryOk ++ [a] }, acts)
  | some (.runWaitPush _ [] true) | some (.runWaitPush _ (.tryAdd _ :: _) true) => none

def setClient (s : St) (i : Nat) (c : Client) : St := { s with cs := s.cs.set i c }

/-- `POOL_resize_internal` + broadcast(pop) + broadcast(push) -/
def resize (s : St) (n : Nat) : St :=
  let s1 :=
    if n ≤ s.ws.length then (if n = 0 then s else { s with limit := n })
    else { s with ws := s.ws ++ List.replicate (n - s.ws.length) .idle, limit := n }
  bcastPush (bcastPop s1)

/-- one critical section of client `i` -/
def stepClient (s : St) (i : Nat) (sig : Nat) : Option (St × List Act) :=
  match s.cs[i]? with
  | none => none
  | some c =>
    match c.pc, c.prog with
    | .done, _ => none
    | .waitPush false, _ => none
    | .ready, [] => some (setClient s i { c with pc := .done }, [])
    | .ready, .add j :: rest | .waitPush true, .add j :: rest =>
        if isFull s && !s.shutdown then some (setClient s i { c with pc := .waitPush false }, [.waitPush])
        else
          let (s', acts) := addInternal s j sig
          some (setClient s' i ⟨.ready, rest⟩, acts)
    | .ready, .tryAdd j :: rest =>
        if isFull s || s.shutdown then some (setClient { s with tryRefused := s.tryRefused ++ [j] } i ⟨.ready, rest⟩, [])
        else
          let (s', acts) := addInternal s j sig
          some (setClient { s' with tryOk := s'.tryOk ++ [j] } i ⟨.ready, rest⟩, acts)
    | .ready, .joinJobs :: rest | .waitPush true, .joinJobs :: rest =>
        if !s.q.isEmpty || decide (s.busy > 0) then some (setClient s i { c with pc := .waitPush false }, [.waitPush])
        else some (setClient s i ⟨.ready, rest⟩, [])
    | .ready, .resize n :: rest => some (setClient (resize s n) i ⟨.ready, rest⟩, [.bcastPop, .bcastPush])
    | .ready, .free :: _ => some (setClient { s with shutdown := true } i { c with pc := .freeBcastPush }, [])
    | .freeBcastPush, _ => some (setClient (bcastPush s) i { c with pc := .freeBcastPop }, [.bcastPush])
    | .freeBcastPop, _ => some (setClient (bcastPop s) i { c with pc := .joining }, [.bcastPop])
    | .joining, _ => if s.ws.all (· == .exited) then some (setClient s i ⟨.done, []⟩, []) else none
    | .waitPush true, _ => none

def spuriousW (s : St) (i : Nat) : Option St :=
  match s.ws[i]? with
  | some (.waitPop false) => some { s with ws := s.ws.set i (.waitPop true) }
  | some (.runWaitPush j r false) => some { s with ws := s.ws.set i (.runWaitPush j r true) }
  | _ => none

def spuriousC (s : St) (i : Nat) : Option St :=
  match s.cs[i]? with
  | some ⟨.waitPush false, p⟩ => some (setClient s i ⟨.waitPush true, p⟩)
  | _ => none

/-- the transition relation: one critical section of one thread (or one spurious wake-up) -/
def step (body : Job → List JOp) (s : St) : Label → Option (St × List Act)
  | .worker i sig => if signalChoiceOk s sig then stepWorker body s i sig else none
  | .client i sig => if signalChoiceOk s sig then stepClient s i sig else none
  | .spuriousW i => (spuriousW s i).map (·, [])
  | .spuriousC i => (spuriousC s i).map (·, [])

/-- reachability by any schedule (any label sequence) -/
inductive Reachable (body : Job → List JOp) (s0 : St) : St → Prop where
  | refl : Reachable body s0 s0
  | step {s s' : St} {l : Label} {a : List Act} : Reachable body s0 s → step body s l = some (s', a) → Reachable body s0 s'

def runLabels (body : Job → List JOp) (s : St) : List Label → Option St
  | [] => some s
  | l :: ls => match step body s l with
    | some (s', _) => runLabels body s' ls
    | none => none

/-! ### the ring buffer itself (queueHead / queueTail / queueEmpty over `queueSize` slots) -/

structure Ring where
  size : Nat
  head : Nat
  tail : Nat
  empty : Bool
  slots : List Job
deriving DecidableEq, Repr

def Ring.init (size : Nat) : Ring := { size := size, head := 0, tail := 0, empty := true, slots := List.replicate size 0 }

/-- the push of `POOL_add_internal` -/
def Ring.push (r : Ring) (j : Job) : Ring :=
  { r with empty := false, slots := r.slots.set r.tail j, tail := (r.tail + 1) % r.size }

/-- the pop of `POOL_thread` -/
def Ring.pop (r : Ring) : Job × Ring :=
  let j := r.slots.getD r.head 0
  let h := (r.head + 1) % r.size
  (j, { r with head := h, empty := (h == r.tail) })

/-- number of queued jobs the ring holds -/
def Ring.count (r : Ring) : Nat :=
  if r.empty then 0 else if r.head < r.tail then r.tail - r.head else r.size - r.head + r.tail

/-- the FIFO contents, oldest first -/
def Ring.toList (r : Ring) : List Job :=
  (List.range r.count).map (fun k => r.slots.getD ((r.head + k) % r.size) 0)

end ZstdVerif.Pool
