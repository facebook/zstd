/-
C01 — Lossless one-shot round trip.  Each theorem here is the statement of a layer of the round trip (bit stream, FSE, Huffman, literals
section, sequences section, block, frame) with its proof in the lemma file of that layer; the headline is `roundtrip` and its variants
at the end, which quantify over every valid parse and tiling the compressor's front end may choose.
-/
import ZstdVerif.Model.Frame
import ZstdVerif.Model.Rep
import ZstdVerif.Lemmas.BitsRT
import ZstdVerif.Lemmas.FSERT
import ZstdVerif.Lemmas.HufRT
import ZstdVerif.Lemmas.ExecRT
import ZstdVerif.Lemmas.LitRT
import ZstdVerif.Lemmas.SeqRT
import ZstdVerif.Lemmas.FrameRT
import ZstdVerif.Lemmas.BlockRT
import ZstdVerif.Lemmas.DictTablesRT
import ZstdVerif.Lemmas.NCountRT
import ZstdVerif.Lemmas.SpreadRT
import ZstdVerif.Lemmas.DescribedTables
import ZstdVerif.Lemmas.WeightsRT
import ZstdVerif.Lemmas.WeightsDesc
namespace ZstdVerif.Props.C01
open ZstdVerif

/-- the reader consumes exactly the bits it is asked for: `left` decreases by `n` when `n ≤ left` -/
theorem read_consumes (r : BitR) (n : Nat) (h : n ≤ r.left) : (r.read n).2.left = r.left - n ∧ (r.read n).2.over = r.over := by
  unfold BitR.read; simp [h]

/-- overflow is sticky: once a read went below the stream start, every later read leaves `over` set -/
theorem overflow_sticky (r : BitR) (n : Nat) (h : r.over = true) : (r.read n).2.over = true := by
  unfold BitR.read; split <;> simp [h]

/-- ... and with `over` set `atEnd` can never hold again -/
theorem overflow_never_atEnd (r : BitR) (h : r.over = true) : r.atEnd = false := by
  unfold BitR.atEnd; simp [h]

/-! ### repeat offsets: encoder and decoder stay in lockstep -/

open Rep in
/-- **rep_lockstep**: for every history of non-zero repeat offsets, every raw offset ≥ 1 and either literal-length case, the decoder's
resolution of the offBase the compressor stores (ZSTD_finalizeOffBase) yields exactly that raw offset, and the decoder's new history
equals the compressor's (ZSTD_updateRep): the two sides can never drift apart, whatever sequence of matches is coded. -/
theorem rep_lockstep (r : Rep.R) (raw : Nat) (ll0 : Bool) (h0 : 1 ≤ r.r0) (h1 : 1 ≤ r.r1) (h2 : 1 ≤ r.r2) (hr : 1 ≤ raw) :
    resolve r (finalizeOffBase raw r ll0) (if ll0 then 1 else 0) = (raw, updateRep r (finalizeOffBase raw r ll0) ll0) :=
  (SeqRT.rep_lockstep r raw ll0 h0 h1 h2 hr).1

/-! ### length codes: every length is representable by its code -/

open Rep Gen in
/-- what the sequence coder relies on: the code's base is at most the value and the remainder fits in the code's extra bits -/
def CodeOk (base bits : List Nat) (code v : Nat) : Prop := base.getD code 0 ≤ v ∧ v < base.getD code 0 + 2 ^ bits.getD code 0

open Rep Gen in
/-- **ll_code_roundtrip**: for every literal length below 2^17 (a block holds at most 2^17 bytes), LL_base[code] ≤ ll < LL_base[code] + 2^LL_bits[code]:
the decoder's `base + extra bits` reproduces the length -/
theorem ll_code_roundtrip (ll : Nat) (h : ll < 2 ^ 17) : CodeOk LL_base LL_bits (llCode ll) ll := by
  have e := (SeqRT.llCode_spec ll h).2
  have := Nat.mod_lt ll (Nat.two_pow_pos (LL_bits.getD (llCode ll) 0))
  exact ⟨by omega, by omega⟩

open Rep Gen in
/-- **ml_code_roundtrip**: the same for match lengths (mlBase = matchLength - 3 < 2^17) -/
theorem ml_code_roundtrip (m : Nat) (h : m < 2 ^ 17) : CodeOk ML_base ML_bits (mlCode m) (m + 3) := by
  have e := (SeqRT.mlCode_spec m h).2
  have := Nat.mod_lt m (Nat.two_pow_pos (ML_bits.getD (mlCode m) 0))
  exact ⟨by omega, by omega⟩

/-! ### entropy layer: what the encoder side writes, the decoder model reads back (DESIGN §4 C01: bits / fse / huf round trips)

The encoder-side definitions (`BitW`, `FSE.ctableOf / encodeSymbol / encodeAll`, `HufEnc.codesOf / encode1`) mirror bitstream.h,
fse_compress.c / fse.h and huf_compress.c and are tied to those functions byte for byte on every run (tools/ent_bitw.py, ent_fse.py,
ent_huf.py); the decoder-side definitions are the ones Model/Block.lean and Model/Huf.lean decode real frames with. -/

open BitW in
/-- **bits_roundtrip**: for every list of bit fields (value, width ≤ 56) the byte string produced by the forward bit writer (BIT_addBits /
BIT_flushBits / BIT_closeCStream, any flush schedule: `BitW.flush_irrelevant`) is accepted by the backward reader (BIT_initDStream), which
then reads the fields back in reverse order, value for value, without over-read, and ends exactly at the end of the stream. -/
theorem bits_roundtrip (fs : List (Nat × Nat)) (hw : ∀ f ∈ fs, f.2 ≤ 56) :
    ∃ r0, BitR.init (ofFields fs) 0 (ofFields fs).size = .ok r0 ∧ r0.left = totalBits fs ∧ r0.over = false ∧
      (BitR.readList r0 (fs.reverse.map (·.2))).1 = fs.reverse.map (fun f => f.1 % 2 ^ f.2) ∧
      (BitR.readList r0 (fs.reverse.map (·.2))).2.over = false ∧
      (BitR.readList r0 (fs.reverse.map (·.2))).2.atEnd = true :=
  BitR.bits_roundtrip fs hw

open BitW in
/-- the same for a stream that sits anywhere inside a larger input (a block inside a frame), whatever bytes follow it -/
theorem bits_roundtrip_at (fs : List (Nat × Nat)) (hw : ∀ f ∈ fs, f.2 ≤ 56) (src : Bytes) (start : Nat)
    (hsrc : src.extract start (start + (ofFields fs).size) = ofFields fs) :
    ∃ r0, BitR.init src start (ofFields fs).size = .ok r0 ∧ r0.left = totalBits fs ∧ r0.over = false ∧
      (BitR.readList r0 (fs.reverse.map (·.2))).1 = fs.reverse.map (fun f => f.1 % 2 ^ f.2) ∧
      (BitR.readList r0 (fs.reverse.map (·.2))).2.over = false ∧
      (BitR.readList r0 (fs.reverse.map (·.2))).2.atEnd = true :=
  BitR.bits_roundtrip_at fs hw src start hsrc

/-- a decoder that asks for more bits than the encoder wrote can never end cleanly -/
theorem read_underflow_never_clean (r : BitR) (n : Nat) (h : r.left < n) : (r.read n).2.over = true ∧ (r.read n).2.atEnd = false :=
  BitR.read_underflow_sets_over r n h

open FSE in
/-- **fse_step_inverse** (the heart of tANS): for EVERY normalised distribution and EVERY symbol spreading that respects the counts, one
FSE_encodeSymbol step from state S with symbol s lands on a state whose decoding cell (the table Model/Block.lean decodes with) carries
exactly s, asks for exactly the number of bits the encoder flushed, and restores S from them. -/
theorem fse_step_inverse {syms : Array Nat} {norm : Array Int} {L S s S2 v nb : Nat} (hN : NormOK norm L) (hS : SpreadOK syms norm L)
    (hL : L ≤ 15) (hs : s < norm.size) (h0 : norm[s]! ≠ 0) (hS1 : 2 ^ L ≤ S) (hS2 : S < 2 ^ (L + 1))
    (h : encodeSymbol (ctableOf syms norm L) S s = (S2, (v, nb))) :
    2 ^ L ≤ S2 ∧ S2 < 2 ^ (L + 1) ∧
      ((cellsOf syms norm L)[S2 - 2 ^ L]!).sym = s ∧ ((cellsOf syms norm L)[S2 - 2 ^ L]!).nbBits = nb ∧
      ((cellsOf syms norm L)[S2 - 2 ^ L]!).newState + v = S - 2 ^ L :=
  step_inverse hN hS hL hs h0 hS1 hS2 h

open FSE in
/-- **fse_roundtrip**: a whole symbol sequence driven the way ZSTD_encodeSequences drives one table (FSE_initCState2 for the last symbol,
FSE_encodeSymbol backwards, FSE_flushCState) is decoded, the way ZSTD_decodeSequence drives one table, to exactly that sequence, and
the bit-field stack is exactly used up.  The two spreading hypotheses hold for every normalised distribution (`fse_spread_agree`,
`fse_spread_complete`): `fse_roundtrip_any_distribution` is this theorem without them. -/
theorem fse_roundtrip {norm : Array Int} {L : Nat} (hN : NormOK norm L) (hL : L ≤ 14)
    (hS : spreadOK (spreadEnc norm L) norm L = true) (hE : spreadEnc norm L = spread norm L)
    (σ : List Nat) (hne : σ ≠ []) (hσ : ∀ s, s ∈ σ → s < norm.size ∧ norm[s]! ≠ 0) :
    decodeAll (buildCells norm L) L σ.length (encodeAll (buildCTable norm L) σ) = some (σ, []) :=
  build_roundtrip hN hL hS hE σ hne hσ

open FSE in
/-- **fse_spread_agree** (FSE_buildCTable_wksp, lib/compress/fse_compress.c, vs FSE_buildDTable_internal, lib/common/fse_decompress.c /
ZSTD_buildFSETable_body, lib/decompress/zstd_decompress_block.c): for EVERY normalised distribution (counts ≥ -1, a "less than one" count
taking one cell, the cells adding up to `2^L`) the encoder's own copy of the spreading code - low-probability symbols from the top, then
either its fast path (8-byte writes into `spread[]`, two cells dealt per turn) or the `step` walk that skips the low-probability area -
lays down exactly the table of the decoder-side spreading.  (The correspondence run still evaluates it per table as a cross-check:
`spreadEncEqDec=true`.) -/
theorem fse_spread_agree {norm : Array Int} {L : Nat} (hN : NormOK norm L) : spreadEnc norm L = spread norm L :=
  spreadEnc_eq_spread hN

open FSE in
/-- **fse_spread_complete**: for EVERY normalised distribution and every table of at least 16 cells (`4 ≤ L`; the format has
`FSE_MIN_TABLELOG = 5 ≤ L`) the spreading respects the counts - `2^L` positions, each holding a symbol of the alphabet, every symbol as
often as its normalised count says (once for -1, never for 0).  Reason: `step = (size>>1) + (size>>3) + 3` is odd and `size` a power
of two, so the first `size` positions of the walk are a rearrangement of all positions (`FSE.walk_perm`); the walk therefore meets each
free position exactly once, and the `while (position > highThreshold)` loop never runs out of its budget.  Stated for both procedures
(the correspondence run evaluates `spreadOK=true` per table as a cross-check). -/
theorem fse_spread_complete {norm : Array Int} {L : Nat} (hN : NormOK norm L) (hL : 4 ≤ L) :
    spreadOK (spread norm L) norm L = true ∧ spreadOK (spreadEnc norm L) norm L = true := by
  have h := (spreadOK_iff _ _ _).2 (spread_ok hN hL)
  exact ⟨h, by rw [spreadEnc_eq_spread hN]; exact h⟩

open FSE in
/-- **fse_roundtrip_any_distribution**: `fse_roundtrip` with the two spreading facts proved instead of assumed -/
theorem fse_roundtrip_any_distribution {norm : Array Int} {L : Nat} (hN : NormOK norm L) (hL4 : 4 ≤ L) (hL : L ≤ 14)
    (σ : List Nat) (hne : σ ≠ []) (hσ : ∀ s, s ∈ σ → s < norm.size ∧ norm[s]! ≠ 0) :
    decodeAll (buildCells norm L) L σ.length (encodeAll (buildCTable norm L) σ) = some (σ, []) :=
  build_roundtrip hN hL (fse_spread_complete hN hL4).2 (spreadEnc_eq_spread hN) σ hne hσ

open FSE in
/-- the three predefined distributions of the format (dumped from the source each run): unconditional round trip -/
theorem fse_default_tables_roundtrip (σ : List Nat) (hne : σ ≠ []) :
    ((∀ s, s ∈ σ → s < 36) → decodeAll (buildCells Gen.LL_defaultNorm.toArray 6) 6 σ.length (encodeAll (buildCTable Gen.LL_defaultNorm.toArray 6) σ) = some (σ, [])) ∧
    ((∀ s, s ∈ σ → s < 29) → decodeAll (buildCells Gen.OF_defaultNorm.toArray 5) 5 σ.length (encodeAll (buildCTable Gen.OF_defaultNorm.toArray 5) σ) = some (σ, [])) ∧
    ((∀ s, s ∈ σ → s < 53) → decodeAll (buildCells Gen.ML_defaultNorm.toArray 6) 6 σ.length (encodeAll (buildCTable Gen.ML_defaultNorm.toArray 6) σ) = some (σ, [])) :=
  default_tables_roundtrip σ hne

open HufRT HufEnc Huf in
/-- **huf_table_inverts_code**: for every valid weight vector (Kraft sum = 2^log) and every symbol with a non-zero weight, the code the
compressor assigns (valPerRank rule of HUF_buildCTableFromTree / HUF_readCTable) followed by ANY further bits indexes a cell of the
decoding table (HUF_readDTableX1_wksp, the table Model/Huf.lean decodes with) that names that symbol and that code length. -/
theorem huf_table_inverts_code {weights : Array Nat} {log : Nat} (ok : WeightsOK weights log) (used : Nat) (s : Nat) (hs : s < weights.size) (hw : 0 < weights[s]) :
    ∃ val nb, (codesOf weights log)[s]? = some (val, nb) ∧ nb = log + 1 - weights[s] ∧ 1 ≤ nb ∧ nb ≤ log ∧ val < 2 ^ nb ∧
      ∀ x, x < 2 ^ (log - nb) → (buildTable ⟨weights, log, used⟩).cells[val * 2 ^ (log - nb) + x]? = some (s, nb) :=
  table_inverts_code ok used s hs hw

open HufRT HufEnc Huf in
/-- **huf_roundtrip**: whatever weight description the decoder accepts (`Huf.readStats` succeeds), literals coded with the codes those
weights define are decoded back exactly, consuming the stream exactly. -/
theorem huf_roundtrip (src : Bytes) (start n hmax : Nat) (st : Stats) (h : readStats src start n hmax = .ok st)
    (lits : List Nat) (hl : ∀ s ∈ lits, ∃ hs : s < st.weights.size, 0 < st.weights[s]) :
    decodeFields (buildTable st) lits.length (encode1 (codesOf st.weights st.tableLog) lits) = (lits, { bits := [], over := false }) :=
  stream_roundtrip_readStats src start n hmax st h lits hl

/-! ### literals section, at the level of bytes: what the literals writer emits, `Block.decodeLiterals` reads back -/

open HufEnc Huf HufRT BitW HufBytes in
/-- **huf_decode1_bytes**: one Huffman stream as BYTES - the codes of `lits` appended with the forward bit writer (HUF_compress1X_usingCTable),
read by `Huf.decode1` (HUF_decompress1X1 on the backward reader): exactly `lits`, stream exactly exhausted, no tolerated-laxity verdict -/
theorem huf_decode1_bytes (hsrc : Bytes) (hstart hn : Nat) (st : Stats)
    (hst : readStats hsrc hstart hn = .ok st) (lits : List Nat) (h : ∀ s ∈ lits, ∃ hs : s < st.weights.size, 0 < st.weights[s])
    (hlog : st.tableLog ≤ 56) (out : ByteArray) :
    decode1 (buildTable st) (ofFields (encode1 (codesOf st.weights st.tableLog) lits)) 0
      (ofFields (encode1 (codesOf st.weights st.tableLog) lits)).size lits.length out false = .ok (out ++ litBytes lits) :=
  huf_decode1_bytes_readStats hsrc hstart hn st hst lits h hlog out

open HufEnc Huf HufRT BitW HufBytes in
/-- **huf_decode4_bytes**: the four-stream layout (6-byte jump table, segments of (n+3)/4 symbols, HUF_compress4X_usingCTable) read by `Huf.decode4` -/
theorem huf_decode4_bytes {weights : Array Nat} {log : Nat} (ok : WeightsOK weights log) (hlog : log ≤ 56) (used : Nat)
    (lits : List Nat) (h : ∀ s ∈ lits, ∃ hs : s < weights.size, 0 < weights[s]) (blob : ByteArray)
    (hc : compress4 ofFields (codesOf weights log) lits = some blob) (out : ByteArray) :
    decode4 (buildTable ⟨weights, log, used⟩) blob 0 blob.size lits.length out = .ok (out ++ litBytes lits) :=
  HufBytes.huf_decode4_bytes ok hlog used lits h blob hc out

open LitEnc Block LitRT in
/-- **literals_roundtrip_raw**: a Raw literals section (ZSTD_noCompressLiterals, all three header formats) followed by any bytes -/
theorem literals_roundtrip_raw (lits : ByteArray) (src : Bytes) (start srcSize : Nat) (ent : Entropy) (bsm dstCap : Nat)
    (hsec : src.extract start (start + (rawLiterals lits).size) = rawLiterals lits)
    (h20 : lits.size < 2 ^ 20) (hbsm : lits.size ≤ bsm) (hcap : lits.size ≤ dstCap)
    (hsz : (rawLiterals lits).size ≤ srcSize) (hmin : Gen.MIN_CBLOCK_SIZE ≤ srcSize) :
    decodeLiterals src start srcSize ent bsm dstCap
      = .ok { lits := lits, used := (rawLiterals lits).size, ent := ent, mode := .raw, streams := 1 } :=
  LitRT.literals_roundtrip_raw lits src start srcSize ent bsm dstCap hsec h20 hbsm hcap hsz hmin

open LitEnc Block LitRT in
/-- **literals_roundtrip_rle**: an RLE literals section (ZSTD_compressRleLiteralsBlock) -/
theorem literals_roundtrip_rle (n : Nat) (b : UInt8) (src : Bytes) (start srcSize : Nat) (ent : Entropy) (bsm dstCap : Nat)
    (hsec : src.extract start (start + (rleLiterals (rleBytes n b)).size) = rleLiterals (rleBytes n b))
    (h20 : n < 2 ^ 20) (hbsm : n ≤ bsm) (hcap : n ≤ dstCap)
    (hsz : (rleLiterals (rleBytes n b)).size ≤ srcSize) (hmin : Gen.MIN_CBLOCK_SIZE ≤ srcSize) :
    decodeLiterals src start srcSize ent bsm dstCap
      = .ok { lits := rleBytes n b, used := (rleLiterals (rleBytes n b)).size, ent := ent, mode := .rle, streams := 1 } :=
  LitRT.literals_roundtrip_rle n b src start srcSize ent bsm dstCap hsec h20 hbsm hcap hsz hmin

open LitEnc Block LitRT HufRT HufEnc Huf HufBytes in
/-- **literals_roundtrip_compressed**: a Huffman-compressed literals section as ZSTD_compressLiterals lays it out (3/4/5-byte header, tree
description in the direct 4-bit form of HUF_writeCTable, one or four streams) is read back by `Block.decodeLiterals` as exactly the
literals, the section size, and the decoding table of those weights (`literals_roundtrip_huf` in Lemmas/LitRT covers any
tree description that `Huf.readStats` reads back, the FSE-compressed form included) -/
theorem literals_roundtrip_compressed (ws : List Nat) (last log : Nat) (ok : WeightsOK (ws.toArray.push last) log)
    (hlast : 0 < last) (hlog : log ≤ 12) (hr1 : 2 ≤ (ws ++ [last]).count 1) (hws : 1 ≤ ws.length)
    (single : Bool) (wh streams : ByteArray) (syms : List Nat) (hwh : directWeights ws = some wh)
    (hstreams : hufStreams single (codesOf (ws.toArray.push last) log) syms = some streams)
    (hsyms : ∀ s ∈ syms, ∃ hs : s < (ws.toArray.push last).size, 0 < (ws.toArray.push last)[s])
    (src : Bytes) (start srcSize : Nat) (ent : Entropy) (bsm dstCap : Nat)
    (hsec : src.extract start (start + (compressedLiterals single wh streams syms.length).size)
      = compressedLiterals single wh streams syms.length)
    (hsingle : single = true → syms.length < 1024)
    (hc : wh.size + streams.size < syms.length) (hn : syms.length ≤ 2 ^ 17)
    (hbsm : syms.length ≤ bsm) (hcap : syms.length ≤ dstCap)
    (hsz : (compressedLiterals single wh streams syms.length).size ≤ srcSize) :
    decodeLiterals src start srcSize ent bsm dstCap
      = .ok { lits := litBytes syms, used := (compressedLiterals single wh streams syms.length).size,
              ent := { ent with huf := some (buildTable ⟨ws.toArray.push last, log, wh.size⟩) }, mode := .compressed,
              streams := if single then 1 else 4 } :=
  LitRT.literals_roundtrip_compressed ws last log ok hlast hlog hr1 hws single wh streams syms hwh hstreams hsyms src start srcSize ent bsm dstCap
    hsec hsingle hc hn hbsm hcap hsz

open LitEnc Block LitRT HufRT HufEnc Huf HufBytes in
/-- **literals_roundtrip_treeless**: a TREELESS literals section as ZSTD_compressLiterals lays it out when HUF_compress{1,4}X_repeat re-used
the table of an earlier block (`hType = set_repeat`: 3/4/5-byte header, NO tree description, one or four streams under the codes of that
table's weights) is read back by `Block.decodeLiterals` as exactly the literals and the section size, in mode `treeless`, PROVIDED the decoder
holds the table built from those weights (`ent.huf`: installed by the block that described it, `literals_roundtrip_compressed`); the table
stays.  (Without a table the decoder refuses the section: dictionary_corrupted.) -/
theorem literals_roundtrip_treeless (single : Bool) (streams : ByteArray) (syms : List Nat) (weights : Array Nat)
    (log used : Nat) (ok : WeightsOK weights log) (hlog : log ≤ 56)
    (src : Bytes) (start srcSize : Nat) (ent : Entropy) (bsm dstCap : Nat)
    (hent : ent.huf = some (buildTable ⟨weights, log, used⟩))
    (hsec : src.extract start (start + (compressedLiterals single ByteArray.empty streams syms.length set_repeat).size)
      = compressedLiterals single ByteArray.empty streams syms.length set_repeat)
    (hsyms : ∀ s ∈ syms, ∃ hs : s < weights.size, 0 < weights[s])
    (hstreams : hufStreams single (codesOf weights log) syms = some streams)
    (hsingle : single = true → syms.length < 1024)
    (hc : streams.size < syms.length) (hn : syms.length ≤ 2 ^ 17)
    (hbsm : syms.length ≤ bsm) (hcap : syms.length ≤ dstCap)
    (hsz : (compressedLiterals single ByteArray.empty streams syms.length set_repeat).size ≤ srcSize) (h5 : 5 ≤ srcSize) :
    decodeLiterals src start srcSize ent bsm dstCap
      = .ok { lits := litBytes syms, used := (compressedLiterals single ByteArray.empty streams syms.length set_repeat).size,
              ent := { ent with huf := some (buildTable ⟨weights, log, used⟩) }, mode := .treeless,
              streams := if single then 1 else 4 } :=
  LitRT.literals_roundtrip_treeless single streams syms weights log used ok hlog src start srcSize ent bsm dstCap hent hsec hsyms hstreams
    hsingle hc hn hbsm hcap hsz h5

open LitEnc HufRT HufEnc Huf in
/-- **readStats_fse**: the FSE-COMPRESSED Huffman tree description - what HUF_writeCTable_wksp writes when HUF_compressWeights pays
(`LitEnc.fseWeights`: size byte < 128, FSE_writeNCount of the normalised counts of the weight values, the two-state FSE stream of
FSE_compress_usingCTable; tied byte for byte to the C functions by tools/ent_huf.py) - is read back by HUF_readStats (`Huf.readStats`,
through FSE_decompress_wksp = `FSE.decompressWeights`) as exactly the weights, the implied last weight, the table depth and the size.
The normalised counts are a decision (FSE_normalizeCount is not modelled): any counts `WeightsRT.WeightsFseOK` accepts. -/
theorem readStats_fse (ws : List Nat) (last log : Nat) (ok : WeightsOK (ws.toArray.push last) log) (hlast : 0 < last)
    (hlog : log ≤ 12) (hr1 : 2 ≤ (ws ++ [last]).count 1) (hws : ws.length ≤ 255) (norm : Array Int) (L : Nat)
    (hF : WeightsRT.WeightsFseOK norm L ws) (wh : ByteArray) (hwh : fseWeights norm L ws = some wh) (src : Bytes) (pos n : Nat)
    (hsrc : src.extract pos (pos + wh.size) = wh) (hn : wh.size ≤ n) :
    readStats src pos n = .ok ⟨ws.toArray.push last, log, wh.size⟩ :=
  WeightsRT.readStats_fse ws last log ok hlast hlog hr1 hws norm L hF wh hwh src pos n hsrc hn

open LitEnc HufRT Huf in
/-- **readStats_fse_any_distribution**: `readStats_fse` with side conditions on the normalised counts that speak about the distribution
only (`WeightsRT.WeightsDescOK`): the two spreading facts are theorems (Lemmas/SpreadRT.lean), not hypotheses -/
theorem readStats_fse_any_distribution (ws : List Nat) (last log : Nat) (ok : WeightsOK (ws.toArray.push last) log) (hlast : 0 < last)
    (hlog : log ≤ 12) (hr1 : 2 ≤ (ws ++ [last]).count 1) (hws : ws.length ≤ 255) (norm : Array Int) (L : Nat)
    (hF : WeightsRT.WeightsDescOK norm L ws) (wh : ByteArray) (hwh : fseWeights norm L ws = some wh) (src : Bytes) (pos n : Nat)
    (hsrc : src.extract pos (pos + wh.size) = wh) (hn : wh.size ≤ n) :
    readStats src pos n = .ok ⟨ws.toArray.push last, log, wh.size⟩ :=
  WeightsRT.readStats_fse ws last log ok hlast hlog hr1 hws norm L (WeightsRT.weightsFseOK_of_distribution hF) wh hwh src pos n hsrc hn

open LitEnc Block LitRT HufRT HufEnc Huf HufBytes in
/-- **literals_roundtrip_compressed_fse**: `literals_roundtrip_compressed` with the tree description the whole of HUF_writeCTable_wksp
writes (`LitEnc.treeDescr`): the weights FSE-compressed when that is smaller than the direct form, else direct -/
theorem literals_roundtrip_compressed_fse (ws : List Nat) (last log : Nat) (ok : WeightsOK (ws.toArray.push last) log)
    (hlast : 0 < last) (hlog : log ≤ 12) (hr1 : 2 ≤ (ws ++ [last]).count 1) (hws1 : 1 ≤ ws.length) (hws : ws.length ≤ 255)
    (norm : Array Int) (L : Nat) (hF : WeightsRT.WeightsFseOK norm L ws)
    (single : Bool) (wh streams : ByteArray) (syms : List Nat) (hwh : treeDescr norm L ws = some wh)
    (hstreams : hufStreams single (codesOf (ws.toArray.push last) log) syms = some streams)
    (hsyms : ∀ s ∈ syms, ∃ hs : s < (ws.toArray.push last).size, 0 < (ws.toArray.push last)[s])
    (src : Bytes) (start srcSize : Nat) (ent : Entropy) (bsm dstCap : Nat)
    (hsec : src.extract start (start + (compressedLiterals single wh streams syms.length).size)
      = compressedLiterals single wh streams syms.length)
    (hsingle : single = true → syms.length < 1024)
    (hc : wh.size + streams.size < syms.length) (hn : syms.length ≤ 2 ^ 17)
    (hbsm : syms.length ≤ bsm) (hcap : syms.length ≤ dstCap)
    (hsz : (compressedLiterals single wh streams syms.length).size ≤ srcSize) (h5 : 5 ≤ srcSize) :
    decodeLiterals src start srcSize ent bsm dstCap
      = .ok { lits := litBytes syms, used := (compressedLiterals single wh streams syms.length).size,
              ent := { ent with huf := some (buildTable ⟨ws.toArray.push last, log, wh.size⟩) }, mode := .compressed,
              streams := if single then 1 else 4 } :=
  WeightsRT.literals_roundtrip_compressed_fse ws last log ok hlast hlog hr1 hws1 hws norm L hF single wh streams syms hwh hstreams hsyms src
    start srcSize ent bsm dstCap hsec hsingle hc hn hbsm hcap hsz h5

/-! ### sequences section, at the level of bytes: what ZSTD_encodeSequences writes, `Block.decodeSeqs` reads back -/

section
open Gen FSE SeqEnc Rep SeqRT
variable {ctLL ctOF ctML : CTable} {llT ofT mlT : Array SeqCell} {okLL okOF okML : Nat → Prop}

/-- **seq_section_roundtrip**: for ANY three (encoding table, decoding table) pairs that invert each other (`SeqRT.Inverts`: established for
FSE-described tables by `inverts_build`, for the predefined tables by `inverts_default`, for RLE tables by `inverts_rle`; a repeated table is
the previous block's pair) and every non-empty sequence list within the format's ranges, the BYTES written by the model of
ZSTD_encodeSequences (three interleaved FSE states + extra bits through the forward bit writer) are read back by the decoder model's
`Block.decodeSeqs` - initialised exactly as `Block.prepare` does - as the same (literal length, match length, offset value) triples in
order; the stream ends exactly (`atEnd`, no over-read), and offsets / final repeat-offset history are those of `Rep.resolve`. -/
theorem seq_section_roundtrip (hLL : Inverts ctLL llT LL_base LL_bits okLL) (hOF : Inverts ctOF ofT OF_base OF_bits okOF)
    (hML : Inverts ctML mlT ML_base ML_bits okML) (seqs : List SeqIn) (hne : seqs ≠ [])
    (hok : ∀ s ∈ seqs, okLL (codesOf s).ll ∧ okOF (codesOf s).of ∧ okML (codesOf s).ml) (hrng : ∀ s ∈ seqs, InRange s)
    (rep0 : Array Nat) :
    ∃ r0, BitR.init (encodeSeqBytes ctLL ctOF ctML seqs) 0 (encodeSeqBytes ctLL ctOF ctML seqs).size = .ok r0 ∧
      let a := r0.read ctLL.tableLog
      let b := a.2.read ctOF.tableLog
      let c := b.2.read ctML.tableLog
      let sd := Block.decodeSeqs llT ofT mlT seqs.length a.1 b.1 c.1 c.2 rep0
      sd.seqs.toList.map (fun q => (q.ll, q.ml, q.ofValue)) = seqs.map (fun s => (s.litLength, s.mlBase + 3, s.offBase)) ∧
      sd.r.atEnd = true ∧ sd.r.over = false ∧
      sd.seqs.toList = (resolveAll (repOf rep0) (seqs.map triIn)).1 ∧
      sd.rep = repArr (resolveAll (repOf rep0) (seqs.map triIn)).2 :=
  SeqRT.seq_section_roundtrip hLL hOF hML seqs hne hok hrng rep0

/-- **seq_offsets_roundtrip**: composed with the repeat-offset lock step - when the compressor stores `offBase = ZSTD_finalizeOffBase(raw
offset)` along its own history (ZSTD_updateRep), the decoder recovers the RAW offsets, lengths and the same final history -/
theorem seq_offsets_roundtrip (hLL : Inverts ctLL llT LL_base LL_bits okLL) (hOF : Inverts ctOF ofT OF_base OF_bits okOF)
    (hML : Inverts ctML mlT ML_base ML_bits okML) (qs : List RawSeq) (hne : qs ≠ []) (rep0 : Array Nat)
    (h0 : 1 ≤ rep0[0]!) (h1 : 1 ≤ rep0[1]!) (h2 : 1 ≤ rep0[2]!)
    (hq : ∀ q ∈ qs, q.litLength < 2 ^ 17 ∧ q.mlBase < 2 ^ 17 ∧ 1 ≤ q.rawOffset ∧ q.rawOffset + 3 < 2 ^ 32)
    (hok : ∀ s ∈ (storeAll (repOf rep0) qs).1, okLL (codesOf s).ll ∧ okOF (codesOf s).of ∧ okML (codesOf s).ml) :
    ∃ r0, BitR.init (encodeSeqBytes ctLL ctOF ctML (storeAll (repOf rep0) qs).1) 0
        (encodeSeqBytes ctLL ctOF ctML (storeAll (repOf rep0) qs).1).size = .ok r0 ∧
      let a := r0.read ctLL.tableLog
      let b := a.2.read ctOF.tableLog
      let c := b.2.read ctML.tableLog
      let sd := Block.decodeSeqs llT ofT mlT qs.length a.1 b.1 c.1 c.2 rep0
      sd.seqs.toList.map (fun s => (s.ll, s.ml, s.offset)) = qs.map (fun q => (q.litLength, q.mlBase + 3, q.rawOffset)) ∧
      sd.r.atEnd = true ∧ sd.r.over = false ∧ sd.rep = repArr (storeAll (repOf rep0) qs).2 :=
  SeqRT.seq_offsets_roundtrip hLL hOF hML qs hne rep0 h0 h1 h2 hq hok
end

open Gen FSE SeqEnc Rep SeqRT in
/-- **seq_section_roundtrip_predefined**: blocks that use the three predefined tables - no hypothesis about tables left -/
theorem seq_section_roundtrip_predefined (seqs : List SeqIn) (hne : seqs ≠ [])
    (hrng : ∀ s ∈ seqs, s.litLength < 2 ^ 17 ∧ s.mlBase < 2 ^ 17 ∧ 1 ≤ s.offBase ∧ s.offBase < 2 ^ 29) (rep0 : Array Nat) :
    ∃ r0, BitR.init (encodeSeqBytes (buildCTable LL_defaultNorm.toArray LL_DEFAULTNORMLOG) (buildCTable OF_defaultNorm.toArray OF_DEFAULTNORMLOG)
          (buildCTable ML_defaultNorm.toArray ML_DEFAULTNORMLOG) seqs) 0
        (encodeSeqBytes (buildCTable LL_defaultNorm.toArray LL_DEFAULTNORMLOG) (buildCTable OF_defaultNorm.toArray OF_DEFAULTNORMLOG)
          (buildCTable ML_defaultNorm.toArray ML_DEFAULTNORMLOG) seqs).size = .ok r0 ∧
      let a := r0.read LL_DEFAULTNORMLOG
      let b := a.2.read OF_DEFAULTNORMLOG
      let c := b.2.read ML_DEFAULTNORMLOG
      let sd := Block.decodeSeqs LL_defaultDTable.toArray OF_defaultDTable.toArray ML_defaultDTable.toArray seqs.length a.1 b.1 c.1 c.2 rep0
      sd.seqs.toList.map (fun q => (q.ll, q.ml, q.ofValue)) = seqs.map (fun s => (s.litLength, s.mlBase + 3, s.offBase)) ∧
      sd.r.atEnd = true ∧ sd.r.over = false ∧
      sd.seqs.toList = (resolveAll (repOf rep0) (seqs.map triIn)).1 ∧
      sd.rep = repArr (resolveAll (repOf rep0) (seqs.map triIn)).2 :=
  SeqRT.seq_section_roundtrip_predefined seqs hne hrng rep0

/-! ### whole frames: the total fallback of the compressor round-trips, for EVERY input -/

open HeaderW Serialize FrameRT in
/-- **frame_roundtrip_raw** (`decode(compress(x)) = x` for the raw-block compressor): for every input `x` and every accepted frame-parameter tuple
(window log, content-size flag, checksum flag), the frame made of ZSTD_writeFrameHeader, raw blocks cut the way ZSTD_compress_frameChunk cuts them
(ZSTD_noCompressBlock) and ZSTD_writeEpilogue (XXH64 checksum) is decoded by the FULL decoder model (`Frame.decompressAll` = ZSTD_decompress:
header parse, block loop, content-size check, checksum verification) to exactly `x`, in any capacity ≥ |x|.  Every block of every frame may
always be emitted raw, so this is the compressor's total fallback; the serializer is tied byte for byte to those C functions and its frames
are decoded by the real ZSTD_decompress on every run (tools/ent_frame.py). -/
theorem frame_roundtrip_raw (a : HArgs) (ha : a.wf) (hnd : a.noDictID = true ∨ a.dictID = 0) (hm : a.magicless = false)
    (x : ByteArray) (hp : a.contentSizeFlag = true → a.pledged = x.size)
    (dict : Frame.Dict) (cap : Nat) (hcap : x.size ≤ cap) (o : Frame.Opts) (hml : o.magicless = false) (hmb : o.maxBlockSize = 0) :
    ∃ traces, Frame.decompressAll (rawFrame a x) dict cap o = .ok (x, traces) :=
  FrameRT.frame_roundtrip_raw a ha hnd hm x hp dict cap hcap o hml hmb

open HeaderW Serialize FrameRT in
/-- **frame_roundtrip_blocks**: the same for ANY tiling of `x` into raw and RLE blocks within the block-size limit -/
theorem frame_roundtrip_blocks (a : HArgs) (bs : List BlockChoice) (x : ByteArray) (hok : FrameOK a bs x)
    (dict : Frame.Dict) (cap : Nat) (hcap : x.size ≤ cap) (o : Frame.Opts) (hml : o.magicless = false) (hmb : o.maxBlockSize = 0) :
    ∃ traces, Frame.decompressAll (serializeFrame a bs x) dict cap o = .ok (x, traces) :=
  FrameRT.frame_roundtrip_blocks a bs x hok dict cap hcap o hml hmb

open HeaderW Serialize FrameRT in
/-- **multi_frame_roundtrip**: concatenations of such frames and skippable frames decode to the concatenation of the contents -/
theorem multi_frame_roundtrip (segs : List Segment) (hok : ∀ s ∈ segs, SegOK s) (dict : Frame.Dict) (cap : Nat)
    (hcap : (contentOf segs).size ≤ cap) (o : Frame.Opts) (hml : o.magicless = false) (hmb : o.maxBlockSize = 0) :
    ∃ traces, Frame.decompressAll (serializeSegs segs) dict cap o = .ok (contentOf segs, traces) :=
  FrameRT.multi_frame_roundtrip segs hok dict cap hcap o hml hmb

/-! ### the round trip of compressed blocks and of whole frames containing them: decode(serialize(ANY valid parse)) = x -/

open Gen FSE SeqEnc LitEnc BlockEnc Rep BlockRT in
/-- **block_roundtrip**: let `x` be a block's content, `prev` the frame content before it, `dict` the dictionary content, and `(lits, raws)` ANY
parse of `x` that is valid against that history (`Exec.ValidParse`: what a match finder may legally output - overlapping matches, repeat
offsets, dictionary matches included).  Store the offsets the way the compressor does (ZSTD_finalizeOffBase / ZSTD_updateRep along its history),
write the block body the way ZSTD_entropyCompressSeqStore_internal does (literals section raw / RLE / Huffman with a new table, described
directly or by FSE-compressed weights (treeless: `block_roundtrip_treeless`), nbSeq field, modes byte, RLE
symbols and FSE_writeNCount table descriptions, the three-state FSE bit stream; each sequence table predefined (`set_basic`), RLE (`set_rle`),
described in the block (`set_compressed`) or repeated from the previous block with sequences (`set_repeat`); `pt` = the resolved decisions of
that previous block, `none` if there is none).  Then `Block.decodeBlock` (ZSTD_decompressBlock_internal) on those bytes returns exactly the
content, leaves the decoder's repeat-offset history equal to the compressor's, and leaves the decoder carrying the sequence tables of
`nextTables pt t ..` (`EntMatch`) - so the next block starts in lock step.  Table hypotheses: `set_repeat` only when a previous block with
sequences exists (`hrp`), the decoder carries its tables (`hent`), the resolved decisions are acceptable to the decoder (`TablesOK`: for a
described table a normalised distribution with `5 ≤ tableLog ≤` LLFSELog / OffFSELog / MLFSELog, alphabet within MaxLL / MaxOff / MaxML, last
symbol present, and the two spreading facts, which follow from the rest: `tableOK_of_distribution`) and express the codes of the
sequences (`CodesOK`).  With `pt = none` and `t` made of predefined / RLE tables the table hypotheses are trivially true
(`block_roundtrip_basic`). -/
theorem block_roundtrip (dict pre prev x lits : ByteArray) (raws : List SeqRT.RawSeq) (c : LitChoice) (t : Tables)
    (src : Bytes) (start : Nat) (ent : Block.Entropy) (bsm cap : Nat) (pt : Option Tables)
    (hv : Exec.ValidParse dict prev x lits (raws.map toSeq))
    (hx : x.size ≤ bsm) (hb17 : bsm ≤ 2 ^ 17) (hoff : ∀ q ∈ raws, q.rawOffset + 3 < 2 ^ 32)
    (hrep : RepPos (SeqRT.repOf ent.rep)) (hent : EntMatch pt ent)
    (hc : LitOK c lits) (hrp : usesRepeat t = true → pt.isSome = true) (hT : TablesOK (Tables.resolve (pt.getD {}) t))
    (hok : CodesOK (Tables.resolve (pt.getD {}) t) (SeqRT.storeAll (SeqRT.repOf ent.rep) raws).1)
    (H : FrameRT.Holds src start (serializeBlockBody c lits t (SeqRT.storeAll (SeqRT.repOf ent.rep) raws).1 (pt.getD {})))
    (hsize : (serializeBlockBody c lits t (SeqRT.storeAll (SeqRT.repOf ent.rep) raws).1 (pt.getD {})).size ≤ bsm)
    (hcap : pre.size + prev.size + x.size ≤ cap) :
    ∃ ent2 tr, Block.decodeBlock src start (serializeBlockBody c lits t (SeqRT.storeAll (SeqRT.repOf ent.rep) raws).1 (pt.getD {})).size
        ent dict { out := pre ++ prev, frameStart := pre.size, cap := cap } bsm = .ok (pre ++ prev ++ x, ent2, tr) ∧
      SeqRT.repOf ent2.rep = (SeqRT.storeAll (SeqRT.repOf ent.rep) raws).2 ∧ RepPos (SeqRT.repOf ent2.rep) ∧ tr.nbSeq = raws.length ∧
      EntMatch (nextTables pt t (SeqRT.storeAll (SeqRT.repOf ent.rep) raws).1) ent2 :=
  BlockRT.block_roundtrip dict pre prev x lits raws c t src start ent bsm cap pt hv hx hb17 hoff hrep hent hc hrp hT hok H hsize hcap

open Gen FSE SeqEnc LitEnc BlockEnc Rep BlockRT in
/-- **block_roundtrip_basic**: `block_roundtrip` for a block on its own (no `set_repeat`, nothing known about earlier blocks); `TablesOK t`
is `True` for predefined / RLE tables (`BlockRT.tablesOK_default`). -/
theorem block_roundtrip_basic (dict pre prev x lits : ByteArray) (raws : List SeqRT.RawSeq) (c : LitChoice) (t : Tables)
    (src : Bytes) (start : Nat) (ent : Block.Entropy) (bsm cap : Nat)
    (hv : Exec.ValidParse dict prev x lits (raws.map toSeq))
    (hx : x.size ≤ bsm) (hb17 : bsm ≤ 2 ^ 17) (hoff : ∀ q ∈ raws, q.rawOffset + 3 < 2 ^ 32)
    (hrep : RepPos (SeqRT.repOf ent.rep))
    (hc : LitOK c lits) (hnr : usesRepeat t = false) (hT : TablesOK t) (hok : CodesOK t (SeqRT.storeAll (SeqRT.repOf ent.rep) raws).1)
    (H : FrameRT.Holds src start (serializeBlockBody c lits t (SeqRT.storeAll (SeqRT.repOf ent.rep) raws).1))
    (hsize : (serializeBlockBody c lits t (SeqRT.storeAll (SeqRT.repOf ent.rep) raws).1).size ≤ bsm)
    (hcap : pre.size + prev.size + x.size ≤ cap) :
    ∃ ent2 tr, Block.decodeBlock src start (serializeBlockBody c lits t (SeqRT.storeAll (SeqRT.repOf ent.rep) raws).1).size ent dict
        { out := pre ++ prev, frameStart := pre.size, cap := cap } bsm = .ok (pre ++ prev ++ x, ent2, tr) ∧
      SeqRT.repOf ent2.rep = (SeqRT.storeAll (SeqRT.repOf ent.rep) raws).2 ∧ RepPos (SeqRT.repOf ent2.rep) ∧ tr.nbSeq = raws.length :=
  BlockRT.block_roundtrip_basic dict pre prev x lits raws c t src start ent bsm cap hv hx hb17 hoff hrep hc hnr hT hok H hsize hcap

open Gen FSE SeqEnc LitEnc BlockEnc Rep BlockRT in
/-- **block_roundtrip_treeless**: `block_roundtrip` with the fourth literals mode.  `hp` = the Huffman table (weights, depth) written by the
last earlier block of the frame whose literals section wrote one (`BlockEnc.nextHuf`; `none` if there is none).  The literals may then also
be TREELESS (`LitChoice.treeless`, `hType = set_repeat`: coded with that table, no tree description): `LitOK .treeless lits hp` asks that
such a table exists, that every literal has a code in it, and that the section is smaller than the literals; the decoder must carry the
table (`HufMatch hp ent`).  Afterwards it carries the table of `nextHuf hp c lits` (a block with a new table replaces it, every other block
keeps it) - the next block starts in lock step on the Huffman side too.  With `hp = none` this is `block_roundtrip`. -/
theorem block_roundtrip_treeless (dict pre prev x lits : ByteArray) (raws : List SeqRT.RawSeq) (c : LitChoice) (t : Tables)
    (src : Bytes) (start : Nat) (ent : Block.Entropy) (bsm cap : Nat) (pt : Option Tables) (hp : Option HufTab)
    (hv : Exec.ValidParse dict prev x lits (raws.map toSeq))
    (hx : x.size ≤ bsm) (hb17 : bsm ≤ 2 ^ 17) (hoff : ∀ q ∈ raws, q.rawOffset + 3 < 2 ^ 32)
    (hrep : RepPos (SeqRT.repOf ent.rep)) (hent : EntMatch pt ent) (hm : HufMatch hp ent)
    (hc : LitOK c lits hp) (hrp : usesRepeat t = true → pt.isSome = true) (hT : TablesOK (Tables.resolve (pt.getD {}) t))
    (hok : CodesOK (Tables.resolve (pt.getD {}) t) (SeqRT.storeAll (SeqRT.repOf ent.rep) raws).1)
    (H : FrameRT.Holds src start (serializeBlockBody c lits t (SeqRT.storeAll (SeqRT.repOf ent.rep) raws).1 (pt.getD {}) hp))
    (hsize : (serializeBlockBody c lits t (SeqRT.storeAll (SeqRT.repOf ent.rep) raws).1 (pt.getD {}) hp).size ≤ bsm)
    (hcap : pre.size + prev.size + x.size ≤ cap) :
    ∃ ent2 tr, Block.decodeBlock src start (serializeBlockBody c lits t (SeqRT.storeAll (SeqRT.repOf ent.rep) raws).1 (pt.getD {}) hp).size
        ent dict { out := pre ++ prev, frameStart := pre.size, cap := cap } bsm = .ok (pre ++ prev ++ x, ent2, tr) ∧
      SeqRT.repOf ent2.rep = (SeqRT.storeAll (SeqRT.repOf ent.rep) raws).2 ∧ RepPos (SeqRT.repOf ent2.rep) ∧ tr.nbSeq = raws.length ∧
      EntMatch (nextTables pt t (SeqRT.storeAll (SeqRT.repOf ent.rep) raws).1) ent2 ∧ HufMatch (nextHuf hp c lits) ent2 :=
  BlockRT.block_roundtrip_treeless dict pre prev x lits raws c t src start ent bsm cap pt hp hv hx hb17 hoff hrep hent hm hc hrp hT hok H hsize
    hcap

open HeaderW BlockEnc BlockRT in
/-- **roundtrip** (the headline statement of this property, for the modelled back end): for every input `x`, every accepted frame-parameter
tuple, and EVERY tiling of `x` into raw blocks, RLE blocks and compressed blocks each carrying ANY valid parse of its stretch (`FrameOK2`), the
frame written the way the compressor's back end writes it is decoded by the full decoder model (ZSTD_decompress) to exactly `x`.  The match
finders, the optimal parser, the block splitter and the mode heuristics only ever choose WHICH valid parse and tiling to emit; the theorem
quantifies over all of them.  Scope: sequence tables in all four modes of `symbolEncodingType_e` - predefined, RLE, described by
FSE_writeNCount (`set_compressed`; the normalised counts are a decision, any distribution `BlockRT.TableOK` accepts) and repeated from the
previous compressed block with sequences of the same frame (`set_repeat`; a dictionary's tables are not offered for repetition) - and
literals raw, RLE, or Huffman-compressed with a new table whose tree description is in direct form (`LitChoice.huffman`) or whatever
the whole of HUF_writeCTable_wksp writes, i.e. the weights FSE-COMPRESSED by HUF_compressWeights when that is smaller
(`LitChoice.huffmanFse`; the normalised counts of the weight values are a decision, any counts `WeightsRT.WeightsFseOK` accepts; the
description is read back by `readStats_fse`).  TREELESS literals (`set_repeat` of the Huffman table of an earlier block of the same frame)
are in the serializer too and covered by `roundtrip_treeless` below, which is this statement for the wider class of tilings `FrameOKT`
(`FrameOK2` = the tilings without treeless literals; `BlockRT.frameOKT_of_frameOK2`).  Not offered to the writer: the sequence tables
and the Huffman table of a DICTIONARY (`set_repeat` / treeless in the first block that could use them). -/
theorem roundtrip (a : HArgs) (bs : List BlockChoice2) (x : ByteArray) (dict : Frame.Dict)
    (hok : FrameOK2 dict.content a bs x) (hrep0 : SeqRT.repOf dict.ent.rep = repStart)
    (cap : Nat) (hcap : x.size ≤ cap) (o : Frame.Opts) (hml : o.magicless = false) (hmb : o.maxBlockSize = 0) :
    ∃ traces, Frame.decompressAll (serializeFrame2 a bs x) dict cap o = .ok (x, traces) :=
  BlockRT.frame_roundtrip_compressed a bs x dict hok hrep0 cap hcap o hml hmb

open HeaderW BlockEnc BlockRT in
/-- **roundtrip_treeless**: `roundtrip` for frames in which any compressed block may, in addition, use TREELESS literals
(`LitChoice.treeless`; ZSTD_compressLiterals with `hType = set_repeat`: the literals are Huffman-coded with the table of the last earlier
block OF THE SAME FRAME whose literals section wrote one - raw / RLE blocks and blocks with raw / RLE literals in between leave it in place -
and the section carries no tree description).  `FrameOKT` threads that table through the block list (`BlockEnc.nextHuf`) exactly as
`serializeBlocks2` does, starting from "none": a treeless block is allowed only behind a block that wrote a table, and only if every one of
its literals has a code in that table and the section is smaller than the literals (`BlockRT.TreelessOK`); that is also exactly when the
decoder accepts such a section (it fails with dictionary_corrupted when it holds no table).  The table re-used may have been described
in either form (direct or FSE-compressed weights).  Not offered to the writer: re-using a DICTIONARY's Huffman table in the first block. -/
theorem roundtrip_treeless (a : HArgs) (bs : List BlockChoice2) (x : ByteArray) (dict : Frame.Dict)
    (hok : FrameOKT dict.content a bs x) (hrep0 : SeqRT.repOf dict.ent.rep = repStart)
    (cap : Nat) (hcap : x.size ≤ cap) (o : Frame.Opts) (hml : o.magicless = false) (hmb : o.maxBlockSize = 0) :
    ∃ traces, Frame.decompressAll (serializeFrame2 a bs x) dict cap o = .ok (x, traces) :=
  BlockRT.frame_roundtrip_compressed_treeless a bs x dict hok hrep0 cap hcap o hml hmb

open BlockEnc BlockRT in
/-- **tableOK_of_distribution**: the table hypothesis of `block_roundtrip` / `roundtrip` (`BlockRT.TableOK`) follows from its distribution
part alone (`BlockRT.TableDescOK`: normalised distribution, `5 ≤ L ≤ maxLog`, alphabet within the limit, last symbol present) -/
theorem tableOK_of_distribution {maxSym maxLog : Nat} {c : SeqTableChoice} (h : TableDescOK maxSym maxLog c) : TableOK maxSym maxLog c :=
  BlockRT.tableOK_of_distribution h

open Gen FSE SeqEnc LitEnc BlockEnc Rep BlockRT in
/-- **block_roundtrip_described_tables**: `block_roundtrip` with a table hypothesis that does not mention the spreading of symbols:
`TablesDescOK` asks of a described table (`set_compressed`) only a normalised distribution with `5 ≤ tableLog ≤` LLFSELog / OffFSELog /
MLFSELog, an alphabet within MaxLL / MaxOff / MaxML and its last symbol present -/
theorem block_roundtrip_described_tables (dict pre prev x lits : ByteArray) (raws : List SeqRT.RawSeq) (c : LitChoice) (t : Tables)
    (src : Bytes) (start : Nat) (ent : Block.Entropy) (bsm cap : Nat) (pt : Option Tables)
    (hv : Exec.ValidParse dict prev x lits (raws.map toSeq))
    (hx : x.size ≤ bsm) (hb17 : bsm ≤ 2 ^ 17) (hoff : ∀ q ∈ raws, q.rawOffset + 3 < 2 ^ 32)
    (hrep : RepPos (SeqRT.repOf ent.rep)) (hent : EntMatch pt ent)
    (hc : LitOK c lits) (hrp : usesRepeat t = true → pt.isSome = true) (hT : TablesDescOK (Tables.resolve (pt.getD {}) t))
    (hok : CodesOK (Tables.resolve (pt.getD {}) t) (SeqRT.storeAll (SeqRT.repOf ent.rep) raws).1)
    (H : FrameRT.Holds src start (serializeBlockBody c lits t (SeqRT.storeAll (SeqRT.repOf ent.rep) raws).1 (pt.getD {})))
    (hsize : (serializeBlockBody c lits t (SeqRT.storeAll (SeqRT.repOf ent.rep) raws).1 (pt.getD {})).size ≤ bsm)
    (hcap : pre.size + prev.size + x.size ≤ cap) :
    ∃ ent2 tr, Block.decodeBlock src start (serializeBlockBody c lits t (SeqRT.storeAll (SeqRT.repOf ent.rep) raws).1 (pt.getD {})).size
        ent dict { out := pre ++ prev, frameStart := pre.size, cap := cap } bsm = .ok (pre ++ prev ++ x, ent2, tr) ∧
      SeqRT.repOf ent2.rep = (SeqRT.storeAll (SeqRT.repOf ent.rep) raws).2 ∧ RepPos (SeqRT.repOf ent2.rep) ∧ tr.nbSeq = raws.length ∧
      EntMatch (nextTables pt t (SeqRT.storeAll (SeqRT.repOf ent.rep) raws).1) ent2 :=
  BlockRT.block_roundtrip_described_tables dict pre prev x lits raws c t src start ent bsm cap pt hv hx hb17 hoff hrep hent hc hrp hT hok H
    hsize hcap

open HeaderW BlockEnc BlockRT in
/-- **roundtrip_described_tables**: `roundtrip` under `FrameOK2D` = `FrameOK2` with `TablesDescOK` in place of `TablesOK`: no hypothesis on
the spreading of symbols is left; whatever normalised distribution the compressor decides to describe, the frame decodes to `x` -/
theorem roundtrip_described_tables (a : HArgs) (bs : List BlockChoice2) (x : ByteArray) (dict : Frame.Dict)
    (hok : FrameOK2D dict.content a bs x) (hrep0 : SeqRT.repOf dict.ent.rep = repStart)
    (cap : Nat) (hcap : x.size ≤ cap) (o : Frame.Opts) (hml : o.magicless = false) (hmb : o.maxBlockSize = 0) :
    ∃ traces, Frame.decompressAll (serializeFrame2 a bs x) dict cap o = .ok (x, traces) :=
  BlockRT.frame_roundtrip_described_tables a bs x dict hok hrep0 cap hcap o hml hmb

open BlockEnc BlockRT in
/-- the predefined tables accept every sequence of the format's usual ranges (offsets below 2^29 - 3): no table hypothesis is left for them -/
theorem codesOK_predefined (rep : Rep.R) (raws : List SeqRT.RawSeq)
    (h : ∀ q ∈ raws, q.litLength < 2 ^ 17 ∧ q.mlBase < 2 ^ 17 ∧ 1 ≤ q.rawOffset ∧ q.rawOffset + 3 < 2 ^ 29) :
    CodesOK {} (SeqRT.storeAll rep raws).1 :=
  BlockRT.codesOK_predefined rep raws h

/-! ### FSE table descriptions: FSE_writeNCount is read back by FSE_readNCount -/

open FSE NCountW NCountRT in
/-- **ncount_roundtrip**: for EVERY normalised distribution (counts >= -1 summing to 2^L, 5 <= L <= 12, last count non-zero - what ZSTD_buildCTable
passes) the description written by the model of FSE_writeNCount (variable-length count fields, zero-run codes in groups of 24 and 3, 16-bit flushes)
is read back by the decoder model's `FSE.readNCount` as exactly that distribution, that table log and that many bytes, whatever bytes follow it and
through both the >= 8 bytes and the padded < 8 bytes paths -/
theorem ncount_roundtrip (norm : Array Int) (L : Nat) (hN : NormOK norm L) (hL5 : 5 ≤ L) (hL12 : L ≤ 12)
    (hlast : norm[norm.size - 1]! ≠ 0) (maxSV : Nat) (hsz : norm.size ≤ maxSV + 1)
    (src : Bytes) (start n : Nat) (hn : (writeNCount norm L).size ≤ n)
    (hsrc : src.extract start (start + (writeNCount norm L).size) = writeNCount norm L) :
    FSE.readNCount src start n maxSV = .ok { norm := norm, tableLog := L, used := (writeNCount norm L).size } :=
  NCountRT.ncount_roundtrip norm L hN hL5 hL12 hlast maxSV hsz src start n hn hsrc

/-! ### sequence execution: any valid parse regenerates its source -/

open Exec in
/-- **exec_of_validParse**: let `lits`, `seqs` be ANY parse of the block content `x` that is valid against the history `dict ++ prev`
(`Exec.ValidParse`: literal runs equal the source bytes, every match has `1 ≤ offset ≤ position + |dict|` and repeats the bytes `offset`
behind it - overlapping matches and matches reaching into the dictionary included - and the trailing literals are the rest of `x`).
Then the sequence executor the decoder model runs (`Exec.run` = ZSTD_execSequence loop + last literals of ZSTD_decompressSequences_body)
returns exactly `prev ++ x` whenever the capacity admits it.  Whatever the match finders choose, validity of the parse is all the
round trip needs; `Exec.ValidParse` is decidable and is what the conformance predicate evaluates on every emitted frame. -/
theorem exec_of_validParse (dict prev x lits : ByteArray) (seqs : List Seq) (cap : Nat)
    (hv : ValidParse dict prev x lits seqs) (hcap : prev.size + x.size ≤ cap) :
    run dict { out := prev, frameStart := 0, cap := cap } lits seqs = .ok (prev ++ x) :=
  Exec.exec_of_validParse dict prev x lits seqs cap hv hcap

open Exec in
/-- the same inside a multi-frame output (`pre` = earlier frames' content, not part of this frame's history) -/
theorem exec_of_validParse_frame (dict pre prev x lits : ByteArray) (seqs : List Seq) (cap : Nat)
    (hv : ValidParse dict prev x lits seqs) (hcap : pre.size + prev.size + x.size ≤ cap) :
    run dict { out := pre ++ prev, frameStart := pre.size, cap := cap } lits seqs = .ok (pre ++ prev ++ x) :=
  Exec.exec_of_validParse_frame dict pre prev x lits seqs cap hv hcap

example : Rep.resolve ⟨1, 4, 8⟩ (Rep.finalizeOffBase 4 ⟨1, 4, 8⟩ false) 0 = (4, ⟨4, 1, 8⟩) := by decide

example : (BitR.init (ByteArray.mk #[0x05]) 0 1).toOption.map (·.left) = some 2 := by decide

/-! ### frames started from tables both sides already hold (a dictionary's): Lemmas/DictTablesRT.lean -/

/-- **roundtrip_from_tables**: `roundtrip_treeless` for a block loop started from ANY entropy state the encoder and the decoder share:
a positive repeat-offset history `rep0`, previous sequence-table decisions `pt0` and a previous Huffman table `hp0` whose decoding tables
the decoder's loaded dictionary carries (`BlockRT.EntMatch`, `BlockRT.HufMatch`).  The FIRST block with sequences may then say
`set_repeat`, the first block with literals may be treeless.  `roundtrip_treeless` is the instance `repStart`, `none`, `none`; with
the tables of a formatted dictionary (`Props.C08.loadD_tables_match`) this is `Props.C08.dict_tables_roundtrip`: the restriction "a
dictionary's tables are not offered for repetition" of `roundtrip` / `roundtrip_treeless` is lifted there. -/
theorem roundtrip_from_tables (rep0 : Rep.R) (hpos : BlockRT.RepPos rep0) (pt0 : Option BlockEnc.Tables) (hp0 : Option BlockEnc.HufTab)
    (a : HeaderW.HArgs) (bs : List BlockEnc.BlockChoice2) (x : ByteArray) (dict : Frame.Dict)
    (hok : DictTablesRT.FrameOKFromT dict.content dict.id rep0 pt0 hp0 a bs x) (hrep0 : SeqRT.repOf dict.ent.rep = rep0)
    (hem : BlockRT.EntMatch pt0 dict.ent) (hhm : BlockRT.HufMatch hp0 dict.ent)
    (cap : Nat) (hcap : x.size ≤ cap) (o : Frame.Opts) (hml : o.magicless = false) (hmb : o.maxBlockSize = 0) :
    ∃ traces, Frame.decompressAll (DictEnc.serializeFrameFromT rep0 pt0 hp0 a bs x) dict cap o = .ok (x, traces) :=
  DictTablesRT.frame_roundtrip_fromT rep0 hpos pt0 hp0 a bs x dict hok hrep0 hem hhm cap hcap o hml hmb

/-- the frames of `roundtrip` / `roundtrip_treeless` are the frames started from `repStart` and no tables -/
theorem serializeFrame2_eq_fromT (a : HeaderW.HArgs) (bs : List BlockEnc.BlockChoice2) (x : ByteArray) :
    BlockEnc.serializeFrame2 a bs x = DictEnc.serializeFrameFromT BlockEnc.repStart none none a bs x :=
  DictTablesRT.serializeFrame2_eq_fromT a bs x

end ZstdVerif.Props.C01
