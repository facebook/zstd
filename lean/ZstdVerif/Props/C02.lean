/-
C02 — streaming round trip under any call history and buffer segmentation.
(1) the specification LTS of streaming decoding (Model/Stream.lean) and what every legal history satisfies;
(2) the deterministic model of ZSTD_decompressStream / ZSTD_decompressContinue (Model/DStream.lean, tied call by call to the real code:
    consumed, produced and the exact return value of every call of every history) refines that specification;
(3) compression side, model of ZSTD_compressStream2 (Model/CStream.lean, proofs in Lemmas/CStreamRT.lean): nothing is lost, duplicated
    or reordered between the caller's input, the chunks and the caller's output, under any history;
(4) multithreaded compression under back-pressure: the job ring (Model/MTBack.lean, which also holds the proofs).
-/
import ZstdVerif.Lemmas.StreamSpec
import ZstdVerif.Lemmas.DStreamRT
import ZstdVerif.Lemmas.DStreamTotal
import ZstdVerif.Lemmas.CStreamRT
import ZstdVerif.Model.MTBack
namespace ZstdVerif.Props.C02
open ZstdVerif.Stream

/-- invariant of every legal run: the output so far is exactly the first `produced` bytes of the specified content -/
theorem output_is_content_prefix (sp : DSpec) (s : DState) (cs : List DCall)
    (hinv : s.output = sp.content.take s.produced ∧ s.produced ≤ sp.content.length ∧ s.output.length = s.produced)
    (h : DLegalRun sp s cs) :
    (s.run cs).output = sp.content.take (s.run cs).produced ∧ (s.run cs).produced ≤ sp.content.length :=
  StreamSpec.output_is_content_prefix sp s cs hinv h

/-- **any segmentation = one-shot**: a legal history that has produced as many bytes as the content holds has produced
exactly the content single-call decoding yields — whatever the chunk sizes were -/
theorem any_segmentation_eq_oneShot (sp : DSpec) (cs : List DCall) (h : DLegalRun sp {} cs)
    (hdone : (({} : DState).run cs).produced = sp.content.length) : (({} : DState).run cs).output = sp.content :=
  StreamSpec.any_segmentation_eq_oneShot sp cs h hdone

/-- **completion is reported exactly at frame ends**: in a legal history, a call returns 0 iff right after it the
consumed / produced totals sit on a frame boundary -/
theorem zero_iff_frameEnd (sp : DSpec) (s : DState) (c : DCall) (h : DLegal sp s c) :
    c.retZero = true ↔ (((s.step c).consumed, (s.step c).produced) ∈ sp.frameEnds ∧ (0 < c.consumed ∨ 0 < c.produced.length)) :=
  StreamSpec.zero_iff_frameEnd sp s c h

/-! ### the model of the real decoder refines the specification -/

open DStream in
/-- for every well-formed parsed stream `all` (frames, blocks, skippable frames), every reachable state of the model of
ZSTD_decompressStream and every call `(inAvail, outCap)` within the stream, the call the model makes is a LEGAL step of the specification:
within its buffers, emitting exactly the next bytes of the one-shot content, returning 0 exactly when this call completes a frame;
and unless it reports an error the invariant is re-established (so the statement holds along every history) -/
theorem dstream_step_legal (all : List FrameD) (content : List Nat) (hok : AllOk all) (hlen : content.length = regenAll all)
    (s : State) (hinv : Inv all s) (inAvail outCap : Nat) (hlim : s.totalIn + inAvail ≤ sizeAll all)
    (ds : DState) (hds : ds.consumed = s.totalIn ∧ ds.produced = s.totalOut) :
    DLegal (specOf all content) ds ((step s inAvail outCap).2.toDCall content inAvail outCap) ∧
    ((∀ e, (step s inAvail outCap).2.ret ≠ .err e) →
      Inv all (step s inAvail outCap).1 ∧
      (ds.step ((step s inAvail outCap).2.toDCall content inAvail outCap)).consumed = (step s inAvail outCap).1.totalIn ∧
      (ds.step ((step s inAvail outCap).2.toDCall content inAvail outCap)).produced = (step s inAvail outCap).1.totalOut) :=
  DStream.step_legal all content hok hlen s hinv inAvail outCap hlim ds hds

open DStream in
/-- under ANY segmentation of input and output (one `(input size, output room)` pair per call, sizes down
to 0 or 1 byte), a history of the model that has produced as many bytes as the content holds has produced exactly the one-shot content -/
theorem dstream_any_segmentation_eq_oneShot (all : List FrameD) (content : List Nat) (hok : AllOk all)
    (hlen : content.length = regenAll all) (io : List (Nat × Nat)) (hf : Feasible all (State.start all) io)
    (hdone : (({} : DState).run (calls content (State.start all) io)).produced = content.length) :
    (({} : DState).run (calls content (State.start all) io)).output = content :=
  DStream.model_any_segmentation_eq_oneShot all content hok hlen io hf hdone

open DStream in
/-- the same without any hypothesis on the calls' outcomes.  On a well-formed stream whose
windows the decoder accepts (`WindowsOk`: (clamped) window ≤ ZSTD_MAXWINDOWSIZE_DEFAULT), under ANY segmentation that offers at least one byte
of input (within the stream: `Within`) and one byte of output room per call, NO call of the model reports an error (`Feasible`), and a history
that has produced as many bytes as the content holds has produced exactly the one-shot content -/
theorem dstream_any_offered_segmentation_eq_oneShot (all : List FrameD) (content : List Nat) (hok : AllOk all)
    (hwin : WindowsOk all ZSTD_MAXWINDOWSIZE_DEFAULT) (hlen : content.length = regenAll all) (io : List (Nat × Nat))
    (hw : Within all (State.start all) io) (hoff : Offered io)
    (hdone : (({} : DState).run (calls content (State.start all) io)).produced = content.length) :
    Feasible all (State.start all) io ∧ (({} : DState).run (calls content (State.start all) io)).output = content :=
  DStream.model_any_offered_segmentation_eq_oneShot all content hok hwin hlen io hw hoff hdone

open DStream in
/-- the model's return value is 0 exactly when the totals after the call sit on a frame end and the call made
progress (so 0 is never returned in the middle of a frame, and a truncated stream never ends with 0) -/
theorem dstream_zero_iff_frame_end (all : List FrameD) (hok : AllOk all) (s : State) (hinv : Inv all s) (inAvail outCap : Nat)
    (hlim : s.totalIn + inAvail ≤ sizeAll all) :
    (step s inAvail outCap).2.ret = .hint 0 ↔
      ((s.totalIn + (step s inAvail outCap).2.consumed, s.totalOut + (step s inAvail outCap).2.produced) ∈ endsFrom 0 0 all ∧
       (0 < (step s inAvail outCap).2.consumed ∨ 0 < (step s inAvail outCap).2.produced)) :=
  DStream.zero_iff_frame_end all hok s hinv inAvail outCap hlim

/-! ### compression side: the model of ZSTD_compressStream2 / ZSTD_compressStream_generic (Model/CStream.lean, tied call by call to the real code)

The per-chunk compressor is an oracle (`co i` = size of what ZSTD_compressContinue / ZSTD_compressEnd returns for the i-th chunk); byte
POSITIONS are exact: `emittedAll` = positions of the output stream handed to the caller, `chunkOutAll` = positions written by the chunk
compressor, `chunkSrcAll` = source positions handed to it. -/

open CStream in
/-- for EVERY call history `cs` (input size, output room, directive per call) from a fresh context nothing is lost, duplicated or
reordered between the caller's input, the chunks and the caller's output, whatever the segmentation.  Composed with the per-chunk
round trip this is `decode(stream) = consumed input`. -/
theorem cstream_output_eq_chunks (co : Nat → Nat) (w m : Nat) (p : Option Nat) (cs : List (Nat × Nat × EndOp)) :
    let r := run co (State.start w m p) cs
    emittedAll r.2 ++ pendingOut r.1 = chunkOutAll r.2 ∧ chunkSrcAll r.2 ++ pendingIn r.1 = List.range' 0 r.1.totalIn ∧
    emittedAll r.2 = List.range' 0 r.1.totalOut ∧ chunkOutAll r.2 = List.range' 0 r.1.outDone :=
  CStream.output_eq_chunks co w m p cs

open CStream in
/-- the invariant behind it holds initially and is preserved by every call -/
theorem cstream_inv (co : Nat → Nat) (w m : Nat) (p : Option Nat) (s : State) (inSize outSize : Nat) (endOp : EndOp) (h : Inv s) :
    Inv (State.start w m p) ∧ Inv (step co s inSize outSize endOp).1 :=
  ⟨CStream.inv_start w m p, CStream.step_inv co s inSize outSize endOp h⟩

example : DLegalRun ⟨[1, 2, 3], [(9, 3)]⟩ {} [⟨4, 2, 4, [1, 2], false⟩, ⟨5, 8, 5, [3], true⟩] := by
  simp [DLegalRun, DLegal, DState.step]

/-! ### multithreaded compression under back-pressure (Model/MTBack.lean; tied to the real code by the withheld-output histories of tools/props/c02.py:
bytes accepted while nothing was emitted = `Back.offer`, and the emitted stream round-trips) -/

open MT in
/-- whenever ZSTDMT_createCompressionJob is allowed to prepare a job (`canCreate`), the descriptor it writes
(`nextJobID & jobIDMask`) is not the descriptor of any job created and not yet entirely flushed (`doneJobID ≤ j < nextJobID`): a producer
running ahead of a slow consumer can never overwrite output that is still to be handed to the caller -/
theorem mt_job_slot_never_in_use (r : Ring) (hc : canCreate r = true) (j : Nat) (hj : r.done ≤ j ∧ j < r.next) :
    j % (r.mask + 1) ≠ r.next % (r.mask + 1) :=
  MT.create_slot_free r hc j hj

open MT in
/-- however the caller slices its input (`n` bytes offered `fuel` times), as long as no job has been retired
the bytes accepted are at most (descriptors + 1) sections: the ring invariant holds along the whole history and a full ring refuses the job -/
theorem mt_withheld_input_bounded (T mask n fuel : Nat) :
    (Back.offer T (Back.start mask) n fuel).accepted ≤ (mask + 2) * T ∧ BackInv T (Back.offer T (Back.start mask) n fuel) := by
  have hi := MT.offer_inv T n fuel (Back.start mask) (MT.backInv_start T mask)
  have hb := MT.withheld_bounded T _ hi
  rw [MT.offer_mask] at hb
  exact ⟨hb, hi⟩

open MT in
theorem mt_full_ring_refuses (r : Ring) (h : r.next = r.done + r.mask + 1) : create r = r := MT.full_ring_refuses r h

example : MT.ringSlots 1 = 4 ∧ MT.ringSlots 2 = 8 ∧ MT.ringSlots 5 = 8 ∧ MT.ringSlots 6 = 16 := by decide

end ZstdVerif.Props.C02
