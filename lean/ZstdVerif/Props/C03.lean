/-
C03 — decoding untrusted bytes is memory-safe, bounded and terminating.
The pieces whose safety is an arithmetic fact of the code (regenerated from the source): the DDict hash-set probe (the frame header's
dictID is attacker-controlled) and the bit reader.  The decoder model on any bytes: output within the capacity, no out-of-range access
of the sequence executor (Lemmas/ExecRT).  The entropy tables: no FSE state or Huffman lookup leaves its table (Lemmas/TableSafe,
Lemmas/SpreadRT).  `Props/C04.described_tables_closed` is `block_tables_closed_any_bytes` of this file.
-/
import ZstdVerif.Model.DDictHS
import ZstdVerif.Model.Bits
import ZstdVerif.Lemmas.ExecRT
import ZstdVerif.Lemmas.TableSafe
import ZstdVerif.Lemmas.SpreadRT
namespace ZstdVerif.Props.C03
open ZstdVerif ZstdVerif.DDictHS ZstdVerif.Gen.DDictHS

/-- **the probe never leaves the table**: whatever the current index, the next index of either probe loop is < size
(a step `(idx &&& mask) + 1` would reach `size`). -/
theorem probe_inbounds (k idx : Nat) :
    probeNextGet idx (2 ^ k - 1) < 2 ^ k ∧ probeNextEmplace idx (2 ^ k - 1) < 2 ^ k := by
  have hp : 0 < 2 ^ k := Nat.two_pow_pos k
  unfold probeNextGet probeNextEmplace
  constructor <;> (have := @Nat.and_le_right (idx + 1) (2 ^ k - 1); omega)

theorem probe_is_cyclic (k idx : Nat) : probeNextGet idx (2 ^ k - 1) = (idx + 1) % 2 ^ k := by
  unfold probeNextGet
  exact Nat.and_two_pow_sub_one_eq_mod (idx + 1) k

/-- **the table never fills**: at most half of the slots used before an insertion, at most half after it (the table is expanded first
whenever the regenerated load-factor condition holds); hence there is always an empty slot -/
theorem add_keeps_half_empty (count size : Nat) (hs : 2 ≤ size) (hinv : count * 2 ≤ size) :
    (afterAdd count size).1 * 2 ≤ (afterAdd count size).2 := by
  unfold afterAdd expandCond DDICT_HASHSET_RESIZE_FACTOR
  split
  · show (count + 1) * 2 ≤ size * 2
    omega
  · next hc =>
    -- no expansion: the quotient `count * 4 / size` is 0, so less than a quarter of the slots is in use
    have hq : count * 4 / size = 0 := by
      rw [decide_eq_true_eq, Decidable.not_not] at hc
      exact (Nat.mul_eq_zero.mp hc).resolve_right (by decide)
    have hlt : count * 4 < size := (Nat.div_eq_zero_iff.mp hq).resolve_left (by omega)
    show (count + 1) * 2 ≤ size
    omega

/-- **the lookup terminates**: a cyclic probe from any start index reaches any given empty slot within `size` steps,
so `ZSTD_DDictHashSet_getDDict` returns for every (attacker-chosen) dictID as long as one slot is empty. -/
theorem cyclic_probe_reaches (size idx0 e : Nat) (hi : idx0 < size) (he : e < size) :
    ∃ j, j < size ∧ (idx0 + j) % size = e := by
  refine ⟨(e + size - idx0) % size, Nat.mod_lt _ (by omega), ?_⟩
  rw [Nat.add_mod_mod, show idx0 + (e + size - idx0) = e + size by omega, Nat.add_mod_right, Nat.mod_eq_of_lt he]

/-! bit reader: an over-read is sticky and is never reported as a clean end -/
theorem bitreader_overread_is_error (r : BitR) (n : Nat) (h : r.left < n) : ((r.read n).2).atEnd = false := by
  unfold BitR.read BitR.atEnd
  rw [if_neg (by omega)]
  simp

example : (afterAdd 16 64) = (17, 128) := by decide
example : probeGet { k := 2, slots := [some 5, some 9, none, some 1], count := 3 } 7 4 0 = some 2 := by decide


/-! ### the decoder model, on ANY bytes: result within the capacity, earlier output never rewritten, no out-of-range access in the executor

`Frame.decompressAll` is the model of ZSTD_decompress / ZSTD_decompressDCtx / _usingDict (tied to them on every mutant of every run).
The theorems below hold for every byte string, dictionary and capacity - no validity hypothesis. -/

/-- **decompress_within_capacity** -/
theorem decompress_within_capacity {src : Bytes} {dict : Frame.Dict} {cap : Nat} {o : Frame.Opts} {res : ByteArray × Array Frame.FrameTrace}
    (h : Frame.decompressAll src dict cap o = .ok res) : res.1.size ≤ cap :=
  Frame.decompressAll_within_capacity h

/-- one frame: nothing behind the write position of an earlier frame is rewritten -/
theorem decompressFrame_within_capacity {src : Bytes} {ip0 rem : Nat} {dict : Frame.Dict} {out0 : ByteArray} {cap : Nat} {o : Frame.Opts}
    {res : ByteArray × Nat × Frame.FrameTrace}
    (h : Frame.decompressFrame src ip0 rem dict out0 cap o = .ok res) (h0 : out0.size ≤ cap) :
    res.1.size ≤ cap ∧ ∃ t : ByteArray, res.1 = out0 ++ t :=
  Frame.decompressFrame_within_capacity h h0

/-- one compressed block (ZSTD_decompressBlock_internal), any bytes, any entropy state -/
theorem decodeBlock_within_capacity {src : Bytes} {start cSize : Nat} {ent : Block.Entropy} {dict : Bytes} {o : Block.Out} {bsm : Nat}
    {out : ByteArray} {e : Block.Entropy} {tr : Block.Trace}
    (h : Block.decodeBlock src start cSize ent dict o bsm = .ok (out, e, tr)) :
    out.size ≤ max o.cap o.out.size ∧ ∃ t : ByteArray, out = o.out ++ t :=
  Block.decodeBlock_within_capacity h

/-- a decodable prefix of a frame (what a completed flush exposes) likewise -/
theorem decompressPrefix_within_capacity {src : Bytes} {dict : Frame.Dict} {cap : Nat} {o : Frame.Opts} {out : ByteArray}
    (h : Frame.decompressPrefix src dict cap o = .ok out) : out.size ≤ cap :=
  Frame.decompressPrefix_within_capacity h

/-- **exec_no_oob**: the three checks of ZSTD_execSequence (room for literals + match, literals available, offset within history +
dictionary) are sufficient: the executor that FAILS on any out-of-range read of the output, the dictionary or the literals computes
what the unchecked executor computes, for every sequence list with non-zero offsets ... -/
theorem exec_no_oob (dict lits : ByteArray) (o : Exec.Out) (seqs : List Exec.Seq) (chk : R Unit) (h1 : ∀ s ∈ seqs, 1 ≤ s.offset) :
    Exec.runChecked dict o lits seqs chk = some (Exec.run dict o lits seqs chk) :=
  Exec.exec_no_oob dict lits o seqs chk h1

/-- ... and the sequence decoder only ever produces non-zero offsets from a non-zero repeat-offset history (a zero taken from a
corrupted history becomes 2^64-1, which the executor's offset check refuses), so the hypothesis of `exec_no_oob` is met by
whatever bit stream and tables the block carries -/
theorem exec_decoded_no_oob (dict lits : ByteArray) (o : Exec.Out) (chk : R Unit)
    (llT ofT mlT : Array Gen.SeqCell) (nbSeq sLL0 sOF0 sML0 : Nat) (r0 : BitR) (rep0 : Array Nat)
    (h0 : 1 ≤ rep0[0]!) (h1 : 1 ≤ rep0[1]!) (h2 : 1 ≤ rep0[2]!) :
    Exec.runChecked dict o lits (Block.decodeSeqs llT ofT mlT nbSeq sLL0 sOF0 sML0 r0 rep0).seqs.toList chk =
      some (Exec.run dict o lits (Block.decodeSeqs llT ofT mlT nbSeq sLL0 sOF0 sML0 r0 rep0).seqs.toList chk) :=
  Block.exec_decoded_no_oob dict lits o chk llT ofT mlT nbSeq sLL0 sOF0 sML0 r0 rep0 h0 h1 h2


/-! ### entropy tables: no index leaves its table, whatever the bit stream says

The model writes every table access `t[i]!`; each theorem below says that the twin which FAILS on an out-of-range index never fails. -/

open TableSafe FSE in
/-- **readNCount_normOK** (FSE_readNCount): whatever the bytes, an ACCEPTED table description is a normalised distribution -/
theorem readNCount_normOK (src : Bytes) (start n maxSV : Nat) (nc : NCount) (h : FSE.readNCount src start n maxSV = .ok nc) :
    NormOK nc.norm nc.tableLog ∧ nc.norm.size ≤ maxSV + 1 ∧ 5 ≤ nc.tableLog ∧ nc.tableLog ≤ 15 :=
  TableSafe.readNCount_normOK src start n maxSV nc h

open TableSafe FSE in
/-- **fse_cells_closed** (FSE_buildDTable / ZSTD_buildFSETable): for a normalised distribution and a spreading that respects its counts,
every cell keeps the state inside the table -/
theorem fse_cells_closed {syms : Array Nat} {norm : Array Int} {L : Nat} (hN : NormOK norm L) (hS : SpreadOK syms norm L) :
    (cellsOf syms norm L).size = 2 ^ L ∧ ∀ u, u < 2 ^ L →
      ((cellsOf syms norm L)[u]!).nbBits ≤ L ∧
      ((cellsOf syms norm L)[u]!).newState + 2 ^ ((cellsOf syms norm L)[u]!).nbBits ≤ 2 ^ L ∧
      ((cellsOf syms norm L)[u]!).sym < norm.size :=
  TableSafe.cell_closed hN hS

open TableSafe in
theorem default_and_rle_tables_closed (sym : Nat) (base bits : List Nat) :
    SeqClosed Gen.LL_defaultDTable.toArray Gen.LL_DEFAULTNORMLOG ∧ SeqClosed Gen.OF_defaultDTable.toArray Gen.OF_DEFAULTNORMLOG ∧
    SeqClosed Gen.ML_defaultDTable.toArray Gen.ML_DEFAULTNORMLOG ∧ SeqClosed (FSE.rleSeqTable sym base bits) 0 :=
  ⟨default_tables_closed.1, default_tables_closed.2.1, default_tables_closed.2.2, rleSeqTable_closed sym base bits⟩

open TableSafe in
/-- every table `Block.buildSeqTable` (ZSTD_buildSeqTable: predefined / RLE / FSE-described / repeat) hands to the sequence decoder is closed,
given that the previous block's table was and that the spreading of an accepted description respects its counts (`hspread`, which
`block_tables_closed_any_bytes` below discharges by `FSE.spread_ok`) -/
theorem block_tables_closed {mode : Nat} {src : Bytes} {ip iend maxSym maxLog : Nat} {base bits : List Nat}
    {dflt : List Gen.SeqCell} {dfltLog : Nat} {prev : Array Gen.SeqCell} {prevLog : Nat} {fseValid : Bool}
    {T : Array Gen.SeqCell} {log used : Nat}
    (h : Block.buildSeqTable mode src ip iend maxSym maxLog base bits dflt dfltLog prev prevLog fseValid = .ok (T, log, used))
    (hd : SeqClosed dflt.toArray dfltLog) (hp : fseValid = true → SeqClosed prev prevLog)
    (hspread : ∀ nc, FSE.readNCount src ip (iend - ip) maxSym = .ok nc → FSE.SpreadOK (FSE.spread nc.norm nc.tableLog) nc.norm nc.tableLog) :
    SeqClosed T log :=
  TableSafe.block_buildSeqTable_closed h hd hp hspread

open TableSafe in
/-- **block_tables_closed_any_bytes**: whatever the bytes, every table ZSTD_buildSeqTable hands to the sequence decoder keeps the FSE
states inside the table, given only that the previous block's did (`FSE.spread_ok` on what `readNCount_normOK` says FSE_readNCount
accepts: normalised, `5 ≤ tableLog`) -/
theorem block_tables_closed_any_bytes {mode : Nat} {src : Bytes} {ip iend maxSym maxLog : Nat} {base bits : List Nat}
    {dflt : List Gen.SeqCell} {dfltLog : Nat} {prev : Array Gen.SeqCell} {prevLog : Nat} {fseValid : Bool}
    {T : Array Gen.SeqCell} {log used : Nat}
    (h : Block.buildSeqTable mode src ip iend maxSym maxLog base bits dflt dfltLog prev prevLog fseValid = .ok (T, log, used))
    (hd : SeqClosed dflt.toArray dfltLog) (hp : fseValid = true → SeqClosed prev prevLog) : SeqClosed T log :=
  TableSafe.block_buildSeqTable_closed h hd hp (fun nc hr => by
    obtain ⟨hN, _, h5, _⟩ := TableSafe.readNCount_normOK _ _ _ _ nc hr
    exact FSE.spread_ok hN (by omega))

open TableSafe in
/-- **seq_states_inbounds** (ZSTD_decodeSequence / ZSTD_updateFseStateWithDInfo): with closed tables, for ANY reader state and number of
sequences, the three FSE state indices stay inside their tables in every iteration - the initial states read as `Block.prepare` reads them -/
theorem seq_states_inbounds (llT ofT mlT : Array Gen.SeqCell) (llLog ofLog mlLog : Nat) (hLL : SeqClosed llT llLog)
    (hOF : SeqClosed ofT ofLog) (hML : SeqClosed mlT mlLog) (nbSeq : Nat) (r0 : BitR) (rep0 : Array Nat) :
    decodeSeqsChecked llT ofT mlT nbSeq (r0.read llLog).1 ((r0.read llLog).2.read ofLog).1
        (((r0.read llLog).2.read ofLog).2.read mlLog).1 (((r0.read llLog).2.read ofLog).2.read mlLog).2 rep0 =
      some (Block.decodeSeqs llT ofT mlT nbSeq (r0.read llLog).1 ((r0.read llLog).2.read ofLog).1
        (((r0.read llLog).2.read ofLog).2.read mlLog).1 (((r0.read llLog).2.read ofLog).2.read mlLog).2 rep0) :=
  TableSafe.decodeSeqs_from_stream_inbounds llT ofT mlT llLog ofLog mlLog hLL hOF hML nbSeq r0 rep0

open TableSafe Huf HufRT in
/-- **huf_lookup_inbounds** (HUF_readStats → HUF_readDTableX1 → HUF_decodeSymbolX1): an ACCEPTED Huffman tree description has complete
weights (Kraft) and a table of 2^tableLog cells, and every lookup of the one-stream and four-stream decoders is inside it, for any bytes -/
theorem huf_lookup_inbounds (src : Bytes) (start n hmax : Nat) (st : Stats) (h : readStats src start n hmax = .ok st) :
    WeightsOK st.weights st.tableLog ∧
    (tableCells st.weights.toList st.tableLog).length = 2 ^ st.tableLog ∧
    (buildTable st).cells = (tableCells st.weights.toList st.tableLog).toArray ∧
    (∀ (src2 : Bytes) (start2 len k : Nat) (out : ByteArray) (fp : Bool),
      decode1Checked (buildTable st) src2 start2 len k out fp = lift (decode1 (buildTable st) src2 start2 len k out fp)) ∧
    (∀ (src2 : Bytes) (start2 len k : Nat) (out : ByteArray),
      decode4Checked (buildTable st) src2 start2 len k out = lift (decode4 (buildTable st) src2 start2 len k out)) :=
  TableSafe.huf_lookup_inbounds_readStats src start n hmax st h

open TableSafe in
/-- over-reads included -/
theorem read_lt (r : BitR) (n : Nat) : (r.read n).1 < 2 ^ n := TableSafe.read_lt r n

end ZstdVerif.Props.C03
