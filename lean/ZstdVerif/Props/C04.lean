/-
C04 — every decoding path yields the specified output for every valid frame.
The hard-coded default sequence decoding tables of zstd_decompress_block.c (regenerated into Gen/Tables.lean) are what the generic
table builder produces from the default distributions (the evaluation is `SeqRT.defaultDTables_eq`).  The streaming path yields what
the one-shot path yields (Lemmas/DStreamRT).  Tables built from a description: the spreading is complete, encoder and decoder spread
alike, every such table keeps the FSE states inside (Lemmas/SpreadRT, Lemmas/TableSafe).
-/
import ZstdVerif.Model.FSE
import ZstdVerif.Lemmas.DStreamRT
import ZstdVerif.Lemmas.TableSafe
import ZstdVerif.Lemmas.SpreadRT
import ZstdVerif.Props.C03
namespace ZstdVerif.Props.C04
open ZstdVerif ZstdVerif.Gen

theorem default_LL_table_eq :
    (FSE.buildSeqTable LL_defaultNorm.toArray LL_DEFAULTNORMLOG LL_base LL_bits).toList = LL_defaultDTable :=
  Array.toList_map.trans SeqRT.defaultDTables_eq.1

theorem default_OF_table_eq :
    (FSE.buildSeqTable OF_defaultNorm.toArray OF_DEFAULTNORMLOG OF_base OF_bits).toList = OF_defaultDTable :=
  Array.toList_map.trans SeqRT.defaultDTables_eq.2.1

theorem default_ML_table_eq :
    (FSE.buildSeqTable ML_defaultNorm.toArray ML_DEFAULTNORMLOG ML_base ML_bits).toList = ML_defaultDTable :=
  Array.toList_map.trans SeqRT.defaultDTables_eq.2.2

/-- −1 counts as one cell -/
theorem default_norms_sum :
    (LL_defaultNorm.map (fun c => if c = -1 then 1 else c)).sum = 2 ^ LL_DEFAULTNORMLOG ∧
    (OF_defaultNorm.map (fun c => if c = -1 then 1 else c)).sum = 2 ^ OF_DEFAULTNORMLOG ∧
    (ML_defaultNorm.map (fun c => if c = -1 then 1 else c)).sum = 2 ^ ML_DEFAULTNORMLOG := by decide

theorem default_tables_state_inbounds :
    LL_defaultDTable.all (fun c => c.nextState + 2 ^ c.nbBits ≤ 2 ^ LL_DEFAULTNORMLOG) = true ∧
    OF_defaultDTable.all (fun c => c.nextState + 2 ^ c.nbBits ≤ 2 ^ OF_DEFAULTNORMLOG) = true ∧
    ML_defaultDTable.all (fun c => c.nextState + 2 ^ c.nbBits ≤ 2 ^ ML_DEFAULTNORMLOG) = true := by decide


/-! ### decoding paths -/

open DStream Stream in
/-- **streaming_path_eq_oneShot**: the streaming decoding path (model of ZSTD_decompressStream over ZSTD_decompressContinue: internal
buffers, output ring with restarts, single-pass shortcut, hostage byte) yields, under ANY segmentation of input and output, the content
the one-shot path yields; the model is compared with the real code on every call of every generated history -/
theorem streaming_path_eq_oneShot (all : List FrameD) (content : List Nat) (hok : AllOk all)
    (hlen : content.length = regenAll all) (io : List (Nat × Nat)) (hf : Feasible all (State.start all) io)
    (hdone : (({} : DState).run (calls content (State.start all) io)).produced = content.length) :
    (({} : DState).run (calls content (State.start all) io)).output = content :=
  DStream.model_any_segmentation_eq_oneShot all content hok hlen io hf hdone

open TableSafe in
/-- the predefined decoding tables (dumped from the source on every run) keep every FSE state inside the table -/
theorem default_tables_closed :
    SeqClosed Gen.LL_defaultDTable.toArray Gen.LL_DEFAULTNORMLOG ∧ SeqClosed Gen.OF_defaultDTable.toArray Gen.OF_DEFAULTNORMLOG ∧
    SeqClosed Gen.ML_defaultDTable.toArray Gen.ML_DEFAULTNORMLOG :=
  TableSafe.default_tables_closed

/-! ### decoding tables built from a description -/

/-- **fse_spread_complete** (the symbol spreading of FSE_buildDTable_internal, lib/common/fse_decompress.c / ZSTD_buildFSETable_body,
lib/decompress/zstd_decompress_block.c): for EVERY normalised distribution and `4 ≤ tableLog` every symbol occupies as many of the `2^L`
positions as its normalised count says (once for "less than one") - the `step` walk visits every free position exactly once -/
theorem fse_spread_complete {norm : Array Int} {L : Nat} (hN : FSE.NormOK norm L) (hL : 4 ≤ L) : FSE.SpreadOK (FSE.spread norm L) norm L :=
  FSE.spread_ok hN hL

/-- **fse_spread_agree**: the table construction of the compressor (FSE_buildCTable_wksp, lib/compress/fse_compress.c) spreads the
symbols exactly as the decoder's does, for EVERY normalised distribution -/
theorem fse_spread_agree {norm : Array Int} {L : Nat} (hN : FSE.NormOK norm L) : FSE.spreadEnc norm L = FSE.spread norm L :=
  FSE.spreadEnc_eq_spread hN

open TableSafe in
/-- **described_tables_closed** (ZSTD_buildSeqTable, all four modes): whatever the bytes, a table `Block.buildSeqTable` returns keeps every
FSE state inside the table -/
theorem described_tables_closed {mode : Nat} {src : Bytes} {ip iend maxSym maxLog : Nat} {base bits : List Nat}
    {dflt : List Gen.SeqCell} {dfltLog : Nat} {prev : Array Gen.SeqCell} {prevLog : Nat} {fseValid : Bool}
    {T : Array Gen.SeqCell} {log used : Nat}
    (h : Block.buildSeqTable mode src ip iend maxSym maxLog base bits dflt dfltLog prev prevLog fseValid = .ok (T, log, used))
    (hd : SeqClosed dflt.toArray dfltLog) (hp : fseValid = true → SeqClosed prev prevLog) : SeqClosed T log :=
  C03.block_tables_closed_any_bytes h hd hp

end ZstdVerif.Props.C04
