/-
C05 — everything the compressor emits is a conformant, truthful frame.
What the window rule of the conformance predicate guarantees per sequence (`offsetOk_sound`, `window_enforced`) and what it buys
(`window_sufficient`: a decoder that kept only the last Window_Size bytes regenerates the same content; proof in Lemmas/WindowExec),
and the truthful header (`header_roundtrip`; proof in Lemmas/HeaderW).
-/
import ZstdVerif.Model.Conform
import ZstdVerif.Lemmas.HeaderW
import ZstdVerif.Lemmas.WindowExec
namespace ZstdVerif.Props.C05
open ZstdVerif ZstdVerif.Conform

/-- a sequence accepted by the window rule never reaches before the start of dictionary ++ content, has a non-zero
offset, and either stays within Window_Size or occurs in a block that ends inside the first Window_Size bytes -/
theorem offsetOk_sound (w d pos be off : Nat) (h : offsetOk w d pos be off = true) :
    1 ≤ off ∧ off ≤ pos + d ∧ (off ≤ w ∨ be ≤ w) := by
  unfold offsetOk at h
  simp only [Bool.and_eq_true, Bool.or_eq_true, decide_eq_true_eq] at h
  exact ⟨h.1.1, h.1.2, h.2⟩

/-- once the position has moved past the window (block end beyond Window_Size), an accepted offset is at most Window_Size:
no match reaches further back than the declared window -/
theorem window_enforced (w d pos be off : Nat) (h : offsetOk w d pos be off = true) (hbe : w < be) : off ≤ w := by
  obtain ⟨_, _, h3⟩ := offsetOk_sound w d pos be off h
  omega

/-- without a dictionary an accepted offset always points inside the content regenerated so far -/
theorem no_dict_offset_in_content (w pos be off : Nat) (h : offsetOk w 0 pos be off = true) : off ≤ pos := by
  obtain ⟨_, h2, _⟩ := offsetOk_sound w 0 pos be off h
  omega

/-- bytes regenerated by a list of sequences (literal runs and matches) -/
def seqsLen : List Exec.Seq → Nat
  | [] => 0
  | s :: rest => s.ll + s.ml + seqsLen rest

/-- a block whose sequences pass the window rule of the conformance predicate (`Conform.seqViolations`, the function `checkFrame`
evaluates on every block of every emitted frame) satisfies the hypothesis of the window-sufficiency theorems: every match distance is
at most Window_Size, or the content up to the end of that sequence still lies within the first Window_Size bytes -/
theorem conform_gives_windowOk (bi w d be fs : Nat) (seqs : List Exec.Seq) (p : Nat)
    (hv : seqViolations bi w d be p seqs = []) (hbe : p + seqsLen seqs ≤ be) : Exec.WindowOk w fs (fs + p) seqs := by
  induction seqs generalizing p with
  | nil => trivial
  | cons sq rest ih =>
    simp only [seqViolations, List.append_eq_nil_iff] at hv
    obtain ⟨h1, h2⟩ := hv
    have hok : offsetOk w d (p + sq.ll) be sq.offset = true := by
      by_cases c : offsetOk w d (p + sq.ll) be sq.offset = true
      · exact c
      · simp [c] at h1
    obtain ⟨ho1, _, ho3⟩ := offsetOk_sound _ _ _ _ _ hok
    simp only [seqsLen] at hbe
    refine ⟨ho1, ?_, ?_⟩
    · rcases ho3 with ho3 | ho3
      · exact Or.inl ho3
      · exact Or.inr (by omega)
    · have := ih (p + sq.ll + sq.ml) h2 (by omega)
      rw [show fs + p + sq.ll + sq.ml = fs + (p + sq.ll + sq.ml) by omega]
      exact this

/-- **window_sufficient** (what "no match reaches further back than the declared window" buys): take a block whose sequences pass the
window rule of the conformance predicate, and two decoders about to execute it - one that kept everything it has regenerated (`a`) and one
that kept only the last Window_Size bytes (`b`: same length, same last `w` bytes, anything before).  Then sequence execution
(`Exec.run` = `ZSTD_execSequence` over the block + last literals) reaches the same verdict for both, and on success the two outputs again
agree on their last `w` bytes: every byte a conformant frame regenerates is determined by the last Window_Size bytes (and the
dictionary), so a decoder that allocates exactly the window its header declares regenerates the same content -/
theorem window_sufficient (dict lits : ByteArray) (bi w d be fs cap : Nat) (seqs : List Exec.Seq) (chk : R Unit) (a b : ByteArray)
    (h : Exec.AgreeTail w a b) (hfs : fs ≤ a.size)
    (hv : seqViolations bi w d be (a.size - fs) seqs = []) (hbe : a.size - fs + seqsLen seqs ≤ be) :
    match Exec.run dict { out := a, frameStart := fs, cap := cap } lits seqs chk,
          Exec.run dict { out := b, frameStart := fs, cap := cap } lits seqs chk with
    | .ok a', .ok b' => Exec.AgreeTail w a' b'
    | .error e, .error f => e = f
    | _, _ => False := by
  have hw := conform_gives_windowOk bi w d be fs seqs (a.size - fs) hv hbe
  rw [show fs + (a.size - fs) = a.size by omega] at hw
  exact Exec.run_window dict lits w fs cap seqs chk a b h hfs hw

/-- non-vacuity: a two-sequence block (a literal run with a match at distance 3, then an overlapping match at distance 1) passes the
window rule for Window_Size 4 at position 5 of a frame, and the limited decoder's history may differ from the real one before the window -/
example : seqViolations 0 4 0 100 5 [{ ll := 2, ml := 3, offset := 3, ofValue := 6 }, { ll := 0, ml := 4, offset := 1, ofValue := 4 }] = [] ∧
    Exec.AgreeTail 4 ⟨#[1, 2, 3, 4, 5]⟩ ⟨#[9, 2, 3, 4, 5]⟩ := by
  refine ⟨by decide, by decide, ?_⟩
  intro i hi hw
  have : i = 1 ∨ i = 2 ∨ i = 3 ∨ i = 4 := by
    have h5 : (⟨#[1, 2, 3, 4, 5]⟩ : ByteArray).size = 5 := by decide
    omega
  rcases this with rfl | rfl | rfl | rfl <;> decide

/-- **header_roundtrip** (truthful header): for every accepted argument tuple of ZSTD_writeFrameHeader - window log 10..31, any
pledged size below 2^64, any 32-bit dictionary ID, every combination of the content-size / no-dictID / checksum flags, with or
without magic number - the decoder-side header parser applied to the bytes the writer model emits, followed by ANY bytes, succeeds,
consumes exactly the header, and reports: the pledged size as frame content size (iff the content-size flag is on), the window
(the pledged size for single-segment frames, 2^windowLog otherwise), the dictionary ID (0 iff suppressed), the checksum flag.
The writer model is tied to ZSTD_writeFrameHeader function-level on every run (tools/props/c05.py: tie_header). -/
theorem header_roundtrip (a : HeaderW.HArgs) (ha : a.wf) (rest : List UInt8) :
    ∃ hd, Frame.getHeader (ByteArray.mk (HeaderW.writeHeader a ++ rest).toArray) 0 ((HeaderW.writeHeader a ++ rest).length) a.magicless = .ok hd ∧
      hd.headerSize = (HeaderW.writeHeader a).length ∧
      hd.fcs = (if a.contentSizeFlag then some a.pledged else none) ∧
      hd.windowSize = (if HeaderW.single a then a.pledged else 2 ^ a.windowLog) ∧
      hd.dictID = (if a.noDictID then 0 else a.dictID) ∧ hd.checksum = a.checksum ∧ hd.singleSegment = HeaderW.single a :=
  HeaderW.getHeader_writeHeader a ha rest

/-- a single-segment frame announces a window equal to its content size, and only when that size fits the requested window -/
theorem single_segment_window (a : HeaderW.HArgs) (hs : HeaderW.single a = true) : a.contentSizeFlag = true ∧ a.pledged ≤ 2 ^ a.windowLog := by
  unfold HeaderW.single at hs
  simp only [Bool.and_eq_true, decide_eq_true_eq] at hs
  exact ⟨hs.1, hs.2⟩

example : (⟨17, 100000, true, 0x12345, false, true, false⟩ : HeaderW.HArgs).wf := by
  unfold HeaderW.HArgs.wf; decide

example : offsetOk 1024 0 5000 6000 1024 = true ∧ offsetOk 1024 0 5000 6000 1025 = false := by decide

end ZstdVerif.Props.C05
