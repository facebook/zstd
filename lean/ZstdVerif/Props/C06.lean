/-
C06 — capacity discipline and size bounds.
-/
import ZstdVerif.Model.Bound
import ZstdVerif.Model.Walker
import ZstdVerif.Props.C09
import ZstdVerif.Lemmas.ExecRT
import ZstdVerif.Lemmas.BoundRT
namespace ZstdVerif.Props.C06
open ZstdVerif ZstdVerif.Bound ZstdVerif.Gen

/-- the hand-written formula agrees with what the C compiler computes from the CURRENT macro on every boundary value
of the regenerated grid (a changed macro breaks this by `decide`) -/
theorem bound_matches_source : compressBoundGrid.all (fun p => compressBound p.1 = p.2) = true := by decide

/-- below the limit the bound is `n + n / 256 + (128 KiB - n) / 2048`: the margin of small inputs vanishes by itself from one block on,
the subtraction being truncated -/
theorem compressBound_eq (n : Nat) (h : n < ZSTD_MAX_INPUT_SIZE) : compressBound n = n + n / 256 + (131072 - n) / 2048 := by
  unfold compressBound BLK
  rw [if_neg (Nat.not_le.mpr h)]
  split <;> omega

/-- **the all-raw fallback always fits**: a frame made of a maximal header, raw 128 KiB blocks and a checksum is no larger than
ZSTD_compressBound — so single-pass compression can always succeed by falling back to raw blocks -/
theorem raw_fallback_fits (n : Nat) (h : n < ZSTD_MAX_INPUT_SIZE) : rawFrameSize n ≤ compressBound n := by
  rw [compressBound_eq n h]
  unfold rawFrameSize nbBlocks BLK
  unfold ZSTD_MAX_INPUT_SIZE at h
  split <;> omega

/-- not strictly: bound 0 = bound 1 = 64 -/
theorem bound_monotone (a b : Nat) (hab : a ≤ b) (hb : b < ZSTD_MAX_INPUT_SIZE) : compressBound a ≤ compressBound b := by
  rw [compressBound_eq a (Nat.lt_of_le_of_lt hab hb), compressBound_eq b hb]
  omega

/-- the bound of a concatenation covers the bounds of the parts, up to one byte (`+ 1`: the two divisions by 256 may each round down),
when each part is at least one block (documented use: compress several inputs into one buffer) -/
theorem bound_superadditive (a b : Nat) (ha : BLK ≤ a) (hb : BLK ≤ b) (h : a + b < ZSTD_MAX_INPUT_SIZE) :
    compressBound a + compressBound b ≤ compressBound (a + b) + 1 := by
  unfold BLK at ha hb
  have hz : ∀ n, 131072 ≤ n → (131072 - n) / 2048 = 0 := fun n hn => by rw [Nat.sub_eq_zero_of_le hn]
  rw [compressBound_eq a (by omega), compressBound_eq b (by omega), compressBound_eq _ h, hz a ha, hz b hb, hz _ (by omega)]
  omega

/-- every block start leaves the 6 bytes `ZSTD_compress_frameChunk` demands, when what was consumed so far is
exactly the `k` full blocks already emitted, stored raw -/
theorem per_block_guard (n done k : Nat) (h : n < ZSTD_MAX_INPUT_SIZE) (hk : k < nbBlocks n) (hd : done ≤ n)
    (hfull : done = k * BLK) : 18 + 3 * k + done + 6 ≤ compressBound n := by
  have := raw_fallback_fits n h
  unfold rawFrameSize at this
  have hb : k + 1 ≤ nbBlocks n := hk
  omega

/-- **frame inspectors**: the size reported for a frame does not depend on what follows it, and it never exceeds the
bytes available (so `findFrameCompressedSize` = what a decoder consumes) — restated from C09.frameSize_exact -/
theorem frameSize_indep_of_suffix (g : Walker.Get) (ip rem n extra : Nat) (h : Walker.frameSize g ip rem = .ok n) :
    Walker.frameSize g ip (rem + extra) = .ok n ∧ n ≤ rem :=
  let ⟨hle, _, hge, _⟩ := C09.frameSize_exact g ip rem n h
  ⟨hge (rem + extra) (by omega), hle⟩

example : compressBound 0 = 64 ∧ compressBound 131072 = 131584 := by decide


/-! ### decoding side of the capacity discipline -/

/-- **decode_never_exceeds_capacity**: for every input, valid or not; the model's verdict and size are compared with ZSTD_decompress on
every capacity of the decode sweeps, which run in exact-size sanitizer-guarded destinations -/
theorem decode_never_exceeds_capacity {src : Bytes} {dict : Frame.Dict} {cap : Nat} {o : Frame.Opts} {res : ByteArray × Array Frame.FrameTrace}
    (h : Frame.decompressAll src dict cap o = .ok res) : res.1.size ≤ cap :=
  Frame.decompressAll_within_capacity h

/-! ### the bound against the bytes of the proved serializer (Lemmas/BoundRT.lean) -/

/-- **rawFrame_within_bound**: the total fallback the serializer really emits (`Serialize.rawFrame`: ZSTD_writeFrameHeader, one
ZSTD_noCompressBlock per block of ZSTD_compress_frameChunk, ZSTD_writeEpilogue - the bytes `C01.frame_roundtrip_raw` decodes back) fits
ZSTD_compressBound for every accepted parameter tuple (window log 10..31, hence block sizes from 1 KiB up) -/
theorem rawFrame_within_bound (a : HeaderW.HArgs) (ha : a.wf) (x : ByteArray) (hp : a.contentSizeFlag = true → a.pledged = x.size)
    (hx : x.size < ZSTD_MAX_INPUT_SIZE) : (Serialize.rawFrame a x).size ≤ compressBound x.size :=
  BoundRT.rawFrame_within_bound a ha x hp hx

theorem rawFrame_size (a : HeaderW.HArgs) (x : ByteArray) :
    (Serialize.rawFrame a x).size = (HeaderW.writeHeader a).length + x.size +
      3 * max 1 ((x.size + Serialize.blockSize a - 1) / Serialize.blockSize a) + (if a.checksum then 4 else 0) :=
  BoundRT.rawFrame_size a x

/-- any block size ≥ 808 (the library: ≥ 1024), or a single block: the all-raw frame fits; 808 is sharp (`BoundRT.bound_fails_below_808`) -/
theorem rawFrameWith_within_bound (a : HeaderW.HArgs) (bsz : Nat) (h1 : 1 ≤ bsz) (x : ByteArray)
    (hb : 808 ≤ bsz ∨ x.size ≤ bsz) (hx : x.size < ZSTD_MAX_INPUT_SIZE) :
    (Serialize.rawFrameWith a bsz x).size ≤ compressBound x.size :=
  BoundRT.rawFrameWith_within_bound a bsz h1 x hb hx

/-- frames with RLE / compressed blocks (`BlockEnc.serializeFrame2`) fit the bound when no block is stored larger than raw and all
blocks but the last are full blocks of at least 808 bytes -/
theorem serialized_within_bound (a : HeaderW.HArgs) (bs : List BlockEnc.BlockChoice2) (x : ByteArray) (bsz : Nat) (hb : 808 ≤ bsz)
    (hsum : BoundRT.contentLen bs = x.size) (hs : BoundRT.Shrinks bs BlockEnc.repStart) (hfull : BoundRT.FullBlocks bsz bs)
    (hx : x.size < ZSTD_MAX_INPUT_SIZE) : (BlockEnc.serializeFrame2 a bs x).size ≤ compressBound x.size :=
  BoundRT.serialized_within_bound a bs x bsz hb hsum hs hfull hx

end ZstdVerif.Props.C06
