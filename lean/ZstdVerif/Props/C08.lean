/-
C08 — dictionaries: what an accepted dictionary guarantees, agreement of the two loaders, the table-reuse verdict, the ID rule
(on Model/Dict alone); then, from Lemmas/DictRT and Lemmas/DictTablesRT, the round trip of frames compressed with a dictionary through
the full decoder model, first blocks that repeat the dictionary's entropy tables included.
-/
import ZstdVerif.Model.Dict
import ZstdVerif.Lemmas.DictRT
import ZstdVerif.Lemmas.DictTablesRT
namespace ZstdVerif.Props.C08
open ZstdVerif ZstdVerif.Dict ZstdVerif.Gen

/-- **repeat_valid_sound**: with the loop of the CURRENT source (Gen.DictRepeat.inspected is translated from it), a table marked
`valid` has a non-zero probability for EVERY symbol up to the required maximum: the block coder, which skips the per-symbol check for
`valid` tables, can never be asked to encode a zero-probability symbol -/
theorem repeat_valid_sound (norm : List Int) (dmax need : Nat) (h : dictNCountRepeat norm dmax need = .valid) :
    need ≤ dmax ∧ ∀ s, s ≤ need → norm.getD s 0 ≠ 0 := by
  unfold dictNCountRepeat at h
  split at h
  · cases h
  · rename_i hlt
    split at h
    · rename_i hall
      refine ⟨by omega, ?_⟩
      intro s hs
      have hm : s ∈ DictRepeat.inspected need := by
        simp [DictRepeat.inspected]; omega
      have := List.all_eq_true.mp hall s hm
      simpa using this
    · cases h

/-- the converse direction used by the compressor: a missing needed symbol forces `check` -/
theorem missing_symbol_forces_check (norm : List Int) (dmax need s : Nat) (hs : s ≤ need) (h0 : norm.getD s 0 = 0) :
    dictNCountRepeat norm dmax need = .check := by
  cases h : dictNCountRepeat norm dmax need with
  | check => rfl
  | valid => exact absurd h0 ((repeat_valid_sound norm dmax need h).2 s hs)

/-- **loaders_agree**: the compressor-side and decoder-side loaders accept exactly the same byte strings … -/
theorem loaders_agree (d : Bytes) : (acceptC d).isSome = (loadD d).toOption.isSome := by
  unfold acceptC loadD
  cases classify d <;> simp [Except.toOption]

/-- … and record the same dictionary ID, which is the one ZSTD_getDictID_fromDict reports -/
theorem loaders_same_id (d : Bytes) (D : Frame.Dict) (h : loadD d = .ok D) : acceptC d = some D.id ∧ D.id = dictIDFromDict d := by
  unfold loadD at h
  unfold acceptC dictIDFromDict
  unfold classify at *
  by_cases hr : isRaw d
  · simp only [hr, if_true] at h ⊢
    have hD := Except.ok.inj h
    rw [← hD]; exact ⟨rfl, rfl⟩
  · simp only [hr] at h ⊢
    generalize parseEntropy d = pe at h ⊢
    cases pe with
    | error w => simp at h
    | ok p =>
      simp only at h ⊢
      by_cases hq : repsOk p
      · simp only [hq, if_true] at h ⊢
        have hD := Except.ok.inj h
        rw [← hD, fullDict_id]; exact ⟨rfl, rfl⟩
      · simp [hq] at h

/-- **reps_in_content**: the first sequences of a frame can use the dictionary's repeat offsets without reaching before the dictionary -/
theorem reps_in_content (d : Bytes) (p : Parsed) (h : classify d = .full p) : ∀ r ∈ p.reps, 1 ≤ r ∧ r ≤ p.contentSize := by
  unfold classify at h
  by_cases hr : isRaw d
  · simp [hr] at h
  · simp only [hr] at h
    generalize parseEntropy d = pe at h
    cases pe with
    | error w => simp at h
    | ok q =>
      simp only at h
      by_cases hq : repsOk q
      · simp only [hq, if_true] at h
        cases h
        intro r hr'
        have := List.all_eq_true.mp hq r hr'
        simp at this
        omega
      · simp [hq] at h

/-- **wrong_dict_refused**: dictionary_wrong exactly when the frame names an ID and the dictionary carries another (or none) -/
theorem wrong_dict_refused (fid did : Nat) : dictIDCheck fid did = some .dictWrong ↔ (fid ≠ 0 ∧ did ≠ fid) := by
  unfold dictIDCheck
  by_cases h1 : fid = 0 <;> by_cases h2 : did = fid <;> simp [h1, h2]

example : dictNCountRepeat [1, 2, 0, 5] 3 2 = .check ∧ dictNCountRepeat [1, 2, 3, 0, 5] 4 2 = .valid := by decide
example : dictIDCheck 7 8 = some .dictWrong ∧ dictIDCheck 0 8 = none ∧ dictIDCheck 7 7 = none := by decide

/-! ### the dictionary round trip through the full decoder model (Lemmas/DictRT.lean) -/

/-- **dict_roundtrip**: for every dictionary the decoder-side loader accepts (raw-content or formatted), every input and every valid
tiling of it into raw / RLE / compressed blocks whose matches may reach into the dictionary and whose first sequences may use its
repeat offsets, the frame written with the dictionary loaded (header dictID absent, 0 or the dictionary's) is decoded by
ZSTD_decompress_usingDict (`Frame.decompressAll`) with that dictionary to the input -/
theorem dict_roundtrip (d : Bytes) (D : Frame.Dict) (hload : loadD d = .ok D)
    (a : HeaderW.HArgs) (bs : List BlockEnc.BlockChoice2) (x : ByteArray)
    (hok : DictRT.FrameOKFrom D.content D.id (DictEnc.dictRep D) a bs x)
    (cap : Nat) (hcap : x.size ≤ cap) (o : Frame.Opts) (hml : o.magicless = false) (hmb : o.maxBlockSize = 0) :
    ∃ traces, Frame.decompressAll (DictEnc.serializeFrameDict D a bs x) D cap o = .ok (x, traces) :=
  DictRT.dict_roundtrip d D hload a bs x hok cap hcap o hml hmb

/-- the repeat offsets the loader installs: {1, 4, 8} for raw content, within the content for formatted dictionaries -/
theorem loadD_reps_ok {d : Bytes} {D : Frame.Dict} (h : loadD d = .ok D) :
    BlockRT.RepPos (DictEnc.dictRep D) ∧
    ((isRaw d = true ∧ D.id = 0 ∧ D.content = d ∧ DictEnc.dictRep D = BlockEnc.repStart) ∨
     (isRaw d = false ∧ D.id = d.le32 4 ∧ (DictEnc.dictRep D).r0 ≤ D.content.size ∧ (DictEnc.dictRep D).r1 ≤ D.content.size ∧
       (DictEnc.dictRep D).r2 ≤ D.content.size)) :=
  DictRT.loadD_reps_ok h

/-- **wrong_dict_refused_full**: `wrong_dict_refused` as the verdict of the full decoder model on a serialized frame, whatever its blocks -/
theorem wrong_dict_refused_full (rep0 : Rep.R) (a : HeaderW.HArgs) (ha : a.wf) (hnd : a.noDictID = false) (hid : a.dictID ≠ 0)
    (hm : a.magicless = false) (dict : Frame.Dict) (hne : dict.id ≠ a.dictID) (bs : List BlockEnc.BlockChoice2) (x : ByteArray)
    (cap : Nat) (o : Frame.Opts) (hml : o.magicless = false) :
    Frame.decompressAll (DictEnc.serializeFrameFrom rep0 a bs x) dict cap o = .error .dictWrong :=
  DictRT.wrong_dict_refused_full rep0 a ha hnd hid hm dict hne bs x cap o hml

/-! ### first blocks that REPEAT the dictionary's entropy tables (Lemmas/DictTablesRT.lean) -/

/-- **loadD_tables_match**: the entropy state the decoder-side loader installs (ZSTD_loadDEntropy: `litEntropy = fseEntropy = 1`) carries
exactly the tables the compressor starts from after ZSTD_loadCEntropy (`DictEnc.dictStart d`: for a formatted dictionary the three
sequence tables built from the counts FSE_readNCount returned and the Huffman table of the weights HUF_readStats returned - which are
PROVED acceptable: Kraft equality, depth ≤ 12 -; nothing for raw content), in the sense of the carrier relations of the block round trip -/
theorem loadD_tables_match {d : Bytes} {D : Frame.Dict} (h : loadD d = .ok D) :
    BlockRT.EntMatch (DictEnc.dictStart d).1 D.ent ∧ BlockRT.HufMatch (DictEnc.dictStart d).2 D.ent :=
  DictTablesRT.loadD_tables_match h

/-- for a formatted dictionary the start state is the dictionary's own tables (`set_repeat` / treeless literals in the first block
resolve to them) -/
theorem dictStart_full {d : Bytes} {p : Parsed} (h : classify d = .full p) :
    DictEnc.dictStart d = (some (DictEnc.dictTables p), some (DictEnc.dictHuf p)) :=
  DictTablesRT.dictStart_full h

/-- **dict_tables_roundtrip**: `dict_roundtrip` with the dictionary's ENTROPY TABLES on offer: the tiling need only be valid when the
block loop starts from the dictionary's tables (`DictTablesRT.FrameOKFromT`: the FIRST block(s) with sequences may say `set_repeat` for
LL / OF / ML = the dictionary's tables, the first block(s) with literals may be TREELESS = Huffman-coded with the dictionary's table;
afterwards tables are repeated from block to block as in `C01.roundtrip_treeless`); the frame is the one written by
`DictEnc.serializeFrameDictTables`.  `dict_roundtrip` is the special case of tilings that never look at the starting tables
(`DictTablesRT.frameOKFromT_of_frameOKFrom`, `DictTablesRT.frame_roundtrip_from_inst`). -/
theorem dict_tables_roundtrip (d : Bytes) (D : Frame.Dict) (hload : loadD d = .ok D)
    (a : HeaderW.HArgs) (bs : List BlockEnc.BlockChoice2) (x : ByteArray)
    (hok : DictTablesRT.FrameOKFromT D.content D.id (DictEnc.dictRep D) (DictEnc.dictStart d).1 (DictEnc.dictStart d).2 a bs x)
    (cap : Nat) (hcap : x.size ≤ cap) (o : Frame.Opts) (hml : o.magicless = false) (hmb : o.maxBlockSize = 0) :
    ∃ traces, Frame.decompressAll (DictEnc.serializeFrameDictTables d D a bs x) D cap o = .ok (x, traces) :=
  DictTablesRT.frame_roundtrip_compressed_dict_tables d D hload a bs x hok cap hcap o hml hmb

/-- the general form: ANY starting state (repeat offsets, previous sequence-table decisions, previous Huffman table) that the encoder
starts from and the decoder's loaded entropy state carries -/
theorem roundtrip_from_tables (rep0 : Rep.R) (hpos : BlockRT.RepPos rep0) (pt0 : Option BlockEnc.Tables) (hp0 : Option BlockEnc.HufTab)
    (a : HeaderW.HArgs) (bs : List BlockEnc.BlockChoice2) (x : ByteArray) (dict : Frame.Dict)
    (hok : DictTablesRT.FrameOKFromT dict.content dict.id rep0 pt0 hp0 a bs x) (hrep0 : SeqRT.repOf dict.ent.rep = rep0)
    (hem : BlockRT.EntMatch pt0 dict.ent) (hhm : BlockRT.HufMatch hp0 dict.ent)
    (cap : Nat) (hcap : x.size ≤ cap) (o : Frame.Opts) (hml : o.magicless = false) (hmb : o.maxBlockSize = 0) :
    ∃ traces, Frame.decompressAll (DictEnc.serializeFrameFromT rep0 pt0 hp0 a bs x) dict cap o = .ok (x, traces) :=
  DictTablesRT.frame_roundtrip_fromT rep0 hpos pt0 hp0 a bs x dict hok hrep0 hem hhm cap hcap o hml hmb

end ZstdVerif.Props.C08
