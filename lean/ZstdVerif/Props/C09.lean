/-
C09 — truncation, size lies and checksum damage are reported, never accepted.
The frame walker and the pledged-size bookkeeping are in Lemmas/WalkerRT.lean (same namespace `Props.C09`, audited with this file).
Here: the full decoder model accepts only what the walker accepts, so the truncation theorems hold of the decoder itself (Lemmas/TruncRT);
and the decoder parameters: what a ZSTD_DCtx decodes with after a reset (`dval`, `dOpts`, Model/Params.lean).
-/
-- audit-parts: ZstdVerif/Lemmas/WalkerRT.lean
import ZstdVerif.Lemmas.WalkerRT
import ZstdVerif.Lemmas.TruncRT
import ZstdVerif.Model.Params
namespace ZstdVerif.Props.C09
open ZstdVerif

/-! ### the FULL decoder model (Frame.decompressAll = ZSTD_decompress): truncation, trailing bytes and header lies are refused

`Lemmas/TruncRT.lean` proves that whatever the full decoder accepts, the frame walker accepts with the same extents
(`decompressFrame_walks`, `decompressAll_walks`); the walker theorems of Lemmas/WalkerRT.lean therefore transfer to the decoder itself. -/

open Frame TruncRT in
/-- **decoder_rejects_truncation**: a prefix of an accepted input cut anywhere but at a frame boundary is rejected - with ANY
dictionary, capacity and options: never a (shorter) success -/
theorem decoder_rejects_truncation {src : Bytes} {dict : Dict} {cap : Nat} {o : Opts} {out : ByteArray} {traces : Array FrameTrace}
    (hml : o.magicless = false) (h : decompressAll src dict cap o = .ok (out, traces))
    {k : Nat} (hk : k ≤ src.size) (hnb : ¬ FrameBoundary traces k) (dict2 : Dict) (cap2 : Nat) (o2 : Opts) (hml2 : o2.magicless = false) :
    ∃ e, decompressAll (src.extract 0 k) dict2 cap2 o2 = .error e :=
  TruncRT.decoder_rejects_truncation hml h hk hnb dict2 cap2 o2 hml2

open Frame TruncRT in
/-- a single accepted frame: EVERY proper non-empty prefix is rejected -/
theorem decoder_rejects_truncation_single {src : Bytes} {dict : Dict} {cap : Nat} {o : Opts} {out : ByteArray} {traces : Array FrameTrace}
    (hml : o.magicless = false) (h : decompressAll src dict cap o = .ok (out, traces)) (h1 : traces.size = 1)
    {k : Nat} (hk0 : 0 < k) (hk : k < src.size) (dict2 : Dict) (cap2 : Nat) (o2 : Opts) (hml2 : o2.magicless = false) :
    ∃ e, decompressAll (src.extract 0 k) dict2 cap2 o2 = .error e :=
  TruncRT.decoder_rejects_truncation_single hml h h1 hk0 hk dict2 cap2 o2 hml2

open Frame TruncRT in
/-- **decoder_rejects_trailing_garbage**: bytes appended to an accepted input are accepted only if they are themselves a whole number of frames -/
theorem decoder_rejects_trailing_garbage {src junk : Bytes} {dict0 : Dict} {cap0 : Nat} {o0 : Opts} {out0 : ByteArray} {traces0 : Array FrameTrace}
    (hml0 : o0.magicless = false) (h0 : decompressAll src dict0 cap0 o0 = .ok (out0, traces0))
    (hj : 0 < junk.size) (hg : ∀ rem2, ∃ e, Walker.frameSize (oracle junk) 0 rem2 = .error e)
    (dict : Dict) (cap : Nat) (o : Opts) (hml : o.magicless = false) :
    ∃ e, decompressAll (src ++ junk) dict cap o = .error e :=
  TruncRT.decoder_rejects_non_frame_tail hml0 h0 hj hg dict cap o hml

open Frame TruncRT in
/-- **decoder_header_truthful**: an accepted frame regenerated the content size its header announces, carries the XXH64-derived checksum
of what was regenerated (unless verification is switched off), and names the dictionary that was supplied -/
theorem decoder_header_truthful {src : Bytes} {ip0 rem : Nat} {dict : Dict} {out0 : ByteArray} {cap : Nat} {o : Opts}
    {out : ByteArray} {used : Nat} {tr : FrameTrace}
    (h : decompressFrame src ip0 rem dict out0 cap o = .ok (out, used, tr)) {hd : Header} (hh : getHeader src ip0 rem o.magicless = .ok hd) :
    (∀ n, hd.fcs = some n → out.size - out0.size = n) ∧
    (hd.checksum = true → o.ignoreChecksum = false →
      src.le32 (ip0 + used - 4) = (XXH64.hashRange out out0.size (out.size - out0.size)).toNat &&& 0xFFFFFFFF) ∧
    (hd.dictID ≠ 0 → dict.id = hd.dictID) :=
  ⟨fun _ hn => TruncRT.decoder_fcs_enforced h hh hn, fun hc hi => (TruncRT.decoder_checksum_enforced h hh hc hi).2.2,
   fun hn => TruncRT.decoder_dictID_enforced h hh hn⟩

/-! ### decoder parameters and validation: what a ZSTD_DCtx decodes with is a function of its parameter values (Model/Params.lean, rows regenerated
from the source, defaults read back from a fresh context; tied to the real ZSTD_DCtx_setParameter / ZSTD_DCtx_reset / ZSTD_DCtx_getParameter and to
the decoding verdicts by the decoder histories of tools/props/c09.py) -/

/-- 0 when the tree has no parameter `id` -/
def dval (c : Params.Ctx) (id : Nat) : Int :=
  match Gen.dparams.findIdx? (·.id == id) with
  | some k => (c.vals[k]?).getD 0
  | none => 0

/-- the options the decoder runs with: ZSTD_d_format (1000), ZSTD_d_forceIgnoreChecksum (1002), ZSTD_d_maxBlockSize (1005) -/
def dOpts (c : Params.Ctx) : Frame.Opts :=
  { magicless := dval c 1000 == 1, ignoreChecksum := dval c 1002 != 0, maxBlockSize := (dval c 1005).toNat }

/-- **dctx_reset_restores_validation**: after ZSTD_DCtx_reset with `parameters` or `session_and_parameters` - whatever was set before -
the decoder runs with the options of a fresh context: standard format, checksum VERIFIED, no block-size limit, default window limit
(ZSTD_d_windowLogMax, id 100) -/
theorem dctx_reset_restores_validation (s s' : Params.Ctx) (r : Params.Reset) (hr : r ≠ .session) (h : Params.reset Gen.dparams s r = .ok s') :
    s' = Params.fresh Gen.dparams ∧ (dOpts s').ignoreChecksum = false ∧ (dOpts s').magicless = false ∧ (dOpts s').maxBlockSize = 0 ∧
    dval s' 100 = dval (Params.fresh Gen.dparams) 100 := by
  have hs : s' = Params.fresh Gen.dparams := by
    cases r with
    | session => exact absurd rfl hr
    | parameters =>
      unfold Params.reset at h
      simp only at h
      split at h
      · cases h
      · cases h; rfl
    | sessionAndParameters =>
      unfold Params.reset at h
      cases h; rfl
  subst hs
  refine ⟨rfl, ?_, ?_, ?_, rfl⟩ <;> decide

open Frame TruncRT in
/-- hence a frame with a checksum that a context accepts after such a reset carries the XXH64-derived checksum of what was regenerated -/
theorem checksum_enforced_after_reset (s s' : Params.Ctx) (r : Params.Reset) (hr : r ≠ .session) (hreset : Params.reset Gen.dparams s r = .ok s')
    {src : Bytes} {ip0 rem : Nat} {dict : Dict} {out0 : ByteArray} {cap : Nat} {out : ByteArray} {used : Nat} {tr : FrameTrace}
    (h : decompressFrame src ip0 rem dict out0 cap (dOpts s') = .ok (out, used, tr)) {hd : Header}
    (hh : getHeader src ip0 rem (dOpts s').magicless = .ok hd) (hc : hd.checksum = true) :
    src.le32 (ip0 + used - 4) = (XXH64.hashRange out out0.size (out.size - out0.size)).toNat &&& 0xFFFFFFFF :=
  (decoder_header_truthful h hh).2.1 hc (dctx_reset_restores_validation s s' r hr hreset).2.1

end ZstdVerif.Props.C09
