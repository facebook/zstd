/-
C10 — streaming calls always progress, and a completed flush is decodable.
(a) a call that is offered something to do consumes or produces a byte, and no history runs for ever (decoder: `dstream_progress`,
    `dstream_no_livelock`, `dstream_calls_bounded`, ...; compressor: `cstream_progress`);
(b) a flush / end call that returns 0 has left nothing inside the context, and what the caller holds covers the input consumed
    (`cstream_flush_complete`, `cstream_flush_point`, `cstream_return_value`, `cstream_endStream_completion`);
(c) the decoder's input pacing: fed exactly what it asks for, it asks for exactly the frame, never beyond it
    (`hints_sum_eq_frameSize` on the pacing specification, with its local helpers `go_sum` and `take_sum_le`; `dstream_hint_exact`,
    `dstream_hint_never_beyond_frame` on the model of the real function).
The decoder and compressor theorems restate results of Lemmas/DStream*.lean and Lemmas/CStreamRT.lean.
-/
import ZstdVerif.Model.Stream
import ZstdVerif.Lemmas.DStreamRT
import ZstdVerif.Lemmas.DStreamHint
import ZstdVerif.Lemmas.DStreamRing
import ZstdVerif.Lemmas.DStreamTotal
import ZstdVerif.Lemmas.CStreamRT
namespace ZstdVerif.Props.C10
open ZstdVerif.Stream

theorem go_sum (f : FrameShape) (bs : List Nat) (h : bs ≠ []) :
    (hints.go f bs).sum = (bs.map (· + 3)).sum - 3 + (if f.checksum then 4 else 0) := by
  induction bs with
  | nil => exact absurd rfl h
  | cons c rest ih =>
    cases rest with
    | nil => cases hck : f.checksum <;> by_cases hc : c = 0 <;> simp [hints.go, hc, hck]
    | cons d rest' =>
      have := ih (by simp)
      simp only [hints.go, List.sum_cons, List.map_cons] at this ⊢
      omega

/-- **(c) following the hints consumes exactly the frame**: the requested sizes add up to the compressed size of the
frame (zstd frames with at least one block and a header of at least 5 bytes; skippable frames with their 8-byte header) -/
theorem hints_sum_eq_frameSize (f : FrameShape) (hb : f.blocks ≠ []) (hh : 5 ≤ f.headerSize) (hs : f.skippable = true → f.headerSize = 8) :
    (hints f).sum = frameSize f := by
  unfold hints frameSize
  split
  · rename_i hsk
    have := hs hsk
    split <;> simp <;> omega
  · simp only [List.sum_append, List.sum_cons, List.sum_nil]
    rw [go_sum f f.blocks hb]
    have : 3 ≤ (f.blocks.map (· + 3)).sum := by
      cases hbl : f.blocks with
      | nil => exact absurd hbl hb
      | cons c r => simp; omega
    omega

theorem take_sum_le (l : List Nat) (k : Nat) : (l.take k).sum ≤ l.sum :=
  calc (l.take k).sum ≤ (l.take k).sum + (l.drop k).sum := Nat.le_add_right _ _
    _ = l.sum := by rw [← List.sum_append, List.take_append_drop]

/-- **never beyond the frame**: every request, counted from the start of the frame, ends inside the frame — a consequence of
the sum law, stated for every prefix of the request sequence -/
theorem hints_within_frame (f : FrameShape) (hb : f.blocks ≠ []) (hh : 5 ≤ f.headerSize) (hs : f.skippable = true → f.headerSize = 8)
    (k : Nat) : ((hints f).take k).sum ≤ frameSize f := by
  rw [← hints_sum_eq_frameSize f hb hh hs]
  exact take_sum_le (hints f) k

example : hints ⟨false, 7, [845], true, 0⟩ = [5, 5, 845, 4] := by decide
example : hints ⟨true, 8, [0], false, 0⟩ = [5, 3] := by decide


/-! ### (a) every decoding call makes progress (model of ZSTD_decompressStream, tied call by call to the real code) -/

open DStream in
/-- a call that is offered input and output room, on a well-formed stream, consumes or produces at least one byte
unless it reports an error -/
theorem dstream_progress (all : List FrameD) (hok : AllOk all) (s : State) (hinv : Inv all s) (inAvail outCap : Nat)
    (hlim : s.totalIn + inAvail ≤ sizeAll all) (hi : 0 < inAvail) (ho : 0 < outCap)
    (hne : ∀ e, (step s inAvail outCap).2.ret ≠ .err e) :
    0 < (step s inAvail outCap).2.consumed ∨ 0 < (step s inAvail outCap).2.produced :=
  DStream.progress_input all hok s hinv inAvail outCap hlim hi ho hne

open DStream in
/-- such a call strictly decreases the remaining work `(input left) + (output left)` ... -/
theorem dstream_no_livelock (all : List FrameD) (hok : AllOk all) (s : State) (hinv : Inv all s) (inAvail outCap : Nat)
    (hlim : s.totalIn + inAvail ≤ sizeAll all) (hi : 0 < inAvail) (ho : 0 < outCap)
    (hne : ∀ e, (step s inAvail outCap).2.ret ≠ .err e) :
    slack all (step s inAvail outCap).1 < slack all s :=
  DStream.no_livelock all hok s hinv inAvail outCap hlim hi ho hne

open DStream in
/-- ... hence ANY history of such calls is at most `compressed size + content size` calls long: the decoder cannot be kept busy forever -/
theorem dstream_calls_bounded (all : List FrameD) (hok : AllOk all) (io : List (Nat × Nat)) (s : State) (hinv : Inv all s)
    (hf : Feasible all s io) (hoff : Offered io) : io.length ≤ slack all s :=
  DStream.calls_bounded all hok io s hinv hf hoff


open DStream in
/-- a call made while decoded output is pending (stage zdss_flush, `outStart < outEnd`) and with at least one byte
of output room hands over at least one byte unless it reports an error - even when NO input is offered (`inAvail = 0`): pending output never
waits for more input.  (With `outCap = 0` a call may report consumed = 0 although it took a byte: the last byte of a frame is withheld,
`hostageByte`, until the output is flushed - hence `0 < outCap`.) -/
theorem dstream_progress_output (all : List FrameD) (hok : AllOk all) (s : State) (hinv : Inv all s) (inAvail outCap : Nat)
    (hlim : s.totalIn + inAvail ≤ sizeAll all) (hss : s.ss = .flush) (hpend : s.outStart < s.outEnd) (ho : 0 < outCap)
    (hne : ∀ e, (step s inAvail outCap).2.ret ≠ .err e) : 0 < (step s inAvail outCap).2.produced :=
  DStream.progress_output all hok s hinv inAvail outCap hlim hss hpend ho hne

open DStream in
/-- non-vacuity: on the 35-byte stream `[exFrame]`, a first call with 3 bytes of output room leaves 2 bytes of the first block pending in
zdss_flush; the next call, offered no input at all, produces them -/
example : (step (step (State.start [exFrame]) 35 3).1 0 10).2.produced = 2 := by decide +kernel

open DStream in
/-- on a well-formed stream a call never reports CORRUPTION (stage zdss_load: the stage's input would not fit the
input buffer - `inBuff` is sized max(blockSizeMax, 4) and every stage of a well-formed frame fits it) nor GENERIC (the model's loop fuel
`2 * inAvail + 4` is never exhausted: every turn of the loop takes input, or is a flush turn followed by one that does); the invariant
`BufInv` it needs holds at the start (`buf_start`) and is kept by every call, hence after every feasible history (`buf_reachable`) -/
theorem dstream_no_internal_error (all : List FrameD) (hok : AllOk all) (s : State) (hinv : Inv all s) (bi : BufInv s)
    (inAvail outCap : Nat) (hlim : s.totalIn + inAvail ≤ sizeAll all) :
    BufInv (step s inAvail outCap).1 ∧ (step s inAvail outCap).2.ret ≠ .err .corruption ∧
    (step s inAvail outCap).2.ret ≠ .err .generic :=
  DStream.step_total all hok s hinv bi inAvail outCap hlim

open DStream in
/-- on a well-formed stream whose windows the decoder accepts, a call that is offered at least one byte of input (within the
stream) and one byte of output room reports NO error at all: the "unless it reports an error" clauses of `dstream_progress`, `dstream_no_livelock`
are vacuous for such calls (the no-forward-progress errors need an idle call, the window refusal a window beyond the limit) -/
theorem dstream_no_error (all : List FrameD) (hok : AllOk all) (m : Nat) (hwin : WindowsOk all m) (s : State) (hinv : Inv all s)
    (bi : BufInv s) (hmw : s.maxWindowSize = m) (inAvail outCap : Nat) (hlim : s.totalIn + inAvail ≤ sizeAll all)
    (hi : 0 < inAvail) (ho : 0 < outCap) : ∀ e, (step s inAvail outCap).2.ret ≠ .err e :=
  DStream.step_no_error all hok m hwin s hinv bi hmw inAvail outCap hlim hi ho

open DStream in
/-- hence, from a fresh context, ANY session whose calls each offer input (within the stream) and output room
is at most `compressed size + content size` calls long - no hypothesis on the calls' outcomes -/
theorem dstream_calls_bounded_offered (all : List FrameD) (hok : AllOk all) (hwin : WindowsOk all ZSTD_MAXWINDOWSIZE_DEFAULT)
    (io : List (Nat × Nat)) (hw : Within all (State.start all) io) (hoff : Offered io) :
    io.length ≤ sizeAll all + regenAll all :=
  DStream.calls_bounded_offered all hok hwin io hw hoff

open DStream in
/-- `dstream_progress_output` without its "unless it reports an error" clause - in a state reached by a
feasible history (`Inv`, `BufInv`), a call made while output is pending, with output room, hands over at least one byte AND reports no error -/
theorem dstream_progress_output_total (all : List FrameD) (hok : AllOk all) (s : State) (hinv : Inv all s) (bi : BufInv s)
    (inAvail outCap : Nat) (hlim : s.totalIn + inAvail ≤ sizeAll all) (hss : s.ss = .flush) (hpend : s.outStart < s.outEnd)
    (ho : 0 < outCap) : 0 < (step s inAvail outCap).2.produced ∧ ∀ e, (step s inAvail outCap).2.ret ≠ .err e :=
  DStream.progress_output_total all hok s hinv bi inAvail outCap hlim hss hpend ho

open DStream in
/-- non-vacuity of `dstream_progress_output_total`: its hypotheses hold in the state `[exFrame]` is left in by a first call with 3 bytes of room -/
example : 0 < (step (after (State.start [exFrame]) [(35, 3)]) 0 10).2.produced ∧
    ∀ e, (step (after (State.start [exFrame]) [(35, 3)]) 0 10).2.ret ≠ .err e := by
  have hok : AllOk [exFrame] := fun f hf => by
    have : f = exFrame := by simpa using hf
    subst this; decide
  have hf : Feasible [exFrame] (State.start [exFrame]) [(35, 3)] :=
    ⟨by decide, (fun e h => by rw [show (step (State.start [exFrame]) 35 3).2.ret = .hint 3 by decide +kernel] at h; cases h), trivial⟩
  obtain ⟨hi, hb⟩ := buf_reachable [exFrame] hok [(35, 3)] hf
  exact dstream_progress_output_total [exFrame] hok _ hi hb 0 10 (by decide +kernel) (by decide +kernel) (by decide +kernel) (by decide)

open DStream in
/-- (c) for the model of the real function: the return value of `ZSTD_decompressStream` is a truthful input-size hint.
On a well-formed single frame `f` whose window the decoder accepts (`windowSize ≤ ZSTD_MAXWINDOWSIZE_DEFAULT` = 2^27 + 1; a larger window
makes the second call fail with `frameParameter_windowTooLarge`, see `bigWindowFrame` in Lemmas/DStreamHint.lean), every call having room
for a whole block, the run that offers each call exactly the number of bytes the previous call returned (5 = `ZSTD_startingInputLength` at
the start) returns exactly the request sequence `Stream.hints f.shape` (after its leading 5), closed by the 0 that reports the frame end -/
theorem dstream_hint_exact (f : FrameD) (hok : f.ok = true) (room : Nat) (hroom : f.blockSizeMax ≤ room)
    (hwin : f.windowSize ≤ ZSTD_MAXWINDOWSIZE_DEFAULT) :
    hintedRets (2 * f.blocks.length + 8) (State.start [f]) 5 room = (Stream.hints f.shape).tail ++ [0] :=
  DStream.hint_exact f hok room hroom hwin

open DStream in
example : hintedRets (2 * exFrame.blocks.length + 8) (State.start [exFrame]) 5 1024 = [4, 8, 13, 1, 4, 0] := by
  rw [dstream_hint_exact exFrame (by decide) 1024 (by decide) (by decide)]
  decide

open DStream in
/-- ... and therefore the function never asks for bytes beyond the end of the current frame: the sizes
offered in such a run (5, then every return value), added up over any number of calls, stay within the compressed size of the frame, and
over the whole run they add up to exactly the frame -/
theorem dstream_hint_never_beyond_frame (f : FrameD) (hok : f.ok = true) (room : Nat) (hroom : f.blockSizeMax ≤ room)
    (hwin : f.windowSize ≤ ZSTD_MAXWINDOWSIZE_DEFAULT) :
    (∀ k, ((5 :: hintedRets (2 * f.blocks.length + 8) (State.start [f]) 5 room).take k).sum ≤ DStream.frameSize f) ∧
    (5 :: hintedRets (2 * f.blocks.length + 8) (State.start [f]) 5 room).sum = DStream.frameSize f := by
  obtain ⟨h1, h2, h3⟩ := shape_facts f hok
  have hs := hints_sum_eq_frameSize f.shape h1 h2 h3
  rw [shape_frameSize f hok] at hs
  have he : 5 :: hintedRets (2 * f.blocks.length + 8) (State.start [f]) 5 room = hints f.shape ++ [0] := by
    rw [dstream_hint_exact f hok room hroom hwin, ← List.cons_append, ← hints_head]
  rw [he]
  have hsum : (hints f.shape ++ [0]).sum = DStream.frameSize f := by simp [hs]
  exact ⟨fun k => hsum ▸ take_sum_le _ k, hsum⟩


open DStream in
/-- the output ring of the buffered decoder (stage zdss_flush: "restart the ring when the next block would not
fit").  After ANY feasible history of calls on a well-formed stream, whenever the decoder waits between two calls (zdss_read) for a block
header, a block body or the checksum: (1) there is room for a whole block behind `outStart`, or the ring holds the whole declared content
(and is then never restarted); (2) if the ring has been restarted in this frame, the restart happened at `segEnd ≥ blockSizeMax + windowSize`,
so the block about to be written at `[outStart, outStart + blockSizeMax)` ends before the history the window still reaches from before the
restart, `[segEnd - (windowSize - outStart), segEnd)`.  (`DStream.ring_step`: every call keeps the underlying invariant `RingInv`.) -/
theorem dstream_ring_keeps_window (all : List FrameD) (hok : AllOk all) (io : List (Nat × Nat)) (hf : Feasible all (State.start all) io)
    (hss : (after (State.start all) io).ss = .read)
    (hst : (after (State.start all) io).d.stage = .decodeBlockHeader ∨ (after (State.start all) io).d.stage = .decompressBlock ∨
      (after (State.start all) io).d.stage = .decompressLastBlock ∨ (after (State.start all) io).d.stage = .checkChecksum) :
    ((after (State.start all) io).outStart + (after (State.start all) io).d.blockSizeMax ≤ (after (State.start all) io).outBuffSize ∨
      ∃ n, (after (State.start all) io).d.fcs = some n ∧ n ≤ (after (State.start all) io).outBuffSize) ∧
    ((after (State.start all) io).segEnd ≠ 0 →
      (after (State.start all) io).d.blockSizeMax + (after (State.start all) io).d.windowSize ≤ (after (State.start all) io).segEnd) :=
  DStream.ring_keeps_window all hok io hf hss hst


/-! ### (a), (b) compression side: model of ZSTD_compressStream2 (Model/CStream.lean, tied call by call to the real code) -/

open CStream in
/-- a call with output room and something to do consumes or produces a byte (`co i > 0`: every block costs its header) -/
theorem cstream_progress (co : Nat → Nat) (s : State) (inSize outSize : Nat) (endOp : EndOp) (h : Inv s) (hco : ∀ i, 0 < co i)
    (hout : 0 < outSize)
    (hw : 0 < inSize ∨ s.streamStage = .flush ∨ endOp = .eEnd ∨
          (endOp = .eFlush ∧ s.streamStage = .load ∧ s.inToCompress < s.inBuffPos)) :
    0 < (step co s inSize outSize endOp).2.consumed + (step co s inSize outSize endOp).2.produced :=
  CStream.progress co s inSize outSize endOp h hco hout hw

open CStream in
/-- when a flush / end call returns 0, nothing is left inside the context -/
theorem cstream_flush_complete (co : Nat → Nat) (s : State) (inSize outSize : Nat) (endOp : EndOp) (h : Inv s)
    (hd : endOp ≠ .eContinue) (hz : (step co s inSize outSize endOp).2.ret = .val 0) :
    let r := step co s inSize outSize endOp
    r.1.inBuffPos = r.1.inToCompress ∧ r.1.outBuffContentSize = 0 ∧ r.1.outBuffFlushedSize = 0 ∧
    r.1.totalOut = r.1.outDone ∧ r.1.srcDone = r.1.totalIn ∧
    (r.2.consumed = inSize ∨ (s.streamStage = .flush ∧ s.frameEnded = true)) :=
  CStream.flush_complete co s inSize outSize endOp h hd hz

open CStream in
/-- after ANY history, the bytes a caller holds at a completed flush are the chunk outputs of exactly the input it supplied -/
theorem cstream_flush_point (co : Nat → Nat) (w m : Nat) (p : Option Nat) (cs : List (Nat × Nat × EndOp)) (i o : Nat) (d : EndOp)
    (hd : d ≠ .eContinue) (hz : (step co (run co (State.start w m p) cs).1 i o d).2.ret = .val 0) :
    let r := run co (State.start w m p) cs
    let c := step co r.1 i o d
    emittedAll (r.2 ++ [c.2]) = chunkOutAll (r.2 ++ [c.2]) ∧ chunkSrcAll (r.2 ++ [c.2]) = List.range' 0 c.1.totalIn :=
  CStream.flush_point co w m p cs i o d hd hz

open CStream in
/-- the return value is truthful: 0 iff everything written by the chunk compressor has been handed to the caller; for `e_end`, 0 iff the frame
(epilogue included) is complete and the context is back in its initial stage -/
theorem cstream_return_value (co : Nat → Nat) (s : State) (inSize outSize : Nat) (endOp : EndOp) (h : Inv s) :
    ((step co s inSize outSize endOp).2.ret = .val 0 ↔
      (step co s inSize outSize endOp).1.totalOut = (step co s inSize outSize endOp).1.outDone) ∧
    ((step co s inSize outSize .eEnd).2.ret = .val 0 ↔
      ((step co s inSize outSize .eEnd).1.streamStage = .init ∧ (step co s inSize outSize .eEnd).1.frameEnded = true)) :=
  ⟨CStream.ret_zero_iff_all_emitted co s inSize outSize endOp h, CStream.end_zero_iff_frame_complete co s inSize outSize h⟩

open CStream in
/-- the legacy `ZSTD_endStream` returns 0 exactly when its `e_end` call does, i.e. (by `cstream_return_value`) exactly when the frame,
epilogue included, has been handed over, whatever path completed it; a non-zero answer means bytes of this frame are still owed -/
theorem cstream_endStream_completion (co : Nat → Nat) (s : State) (outSize : Nat) (cksum : Bool) (h : Inv s) :
    ((endStream co s outSize cksum).2.2 = .val 0 ↔ (step co s 0 outSize .eEnd).2.ret = .val 0) ∧
    ((endStream co s outSize cksum).2.2 = .val 0 ↔
      ((endStream co s outSize cksum).1.streamStage = .init ∧ (endStream co s outSize cksum).1.frameEnded = true)) := by
  have hz := CStream.end_zero_iff_frame_complete co s 0 outSize h
  have key : (endStream co s outSize cksum).2.2 = .val 0 ↔ (step co s 0 outSize .eEnd).2.ret = .val 0 := by
    unfold endStream
    constructor
    · intro he
      cases hr : (step co s 0 outSize .eEnd).2.ret with
      | err => simp [hr] at he
      | val v =>
        simp only [hr] at he
        have hv : endStreamRet (step co s 0 outSize .eEnd).1 v cksum = 0 := by injection he
        unfold endStreamRet at hv
        have : v = 0 := by omega
        rw [this]
    · intro hr
      have hf := (hz.mp hr).2
      simp [hr, endStreamRet, hf]
  exact ⟨key, key.trans hz⟩

end ZstdVerif.Props.C10
