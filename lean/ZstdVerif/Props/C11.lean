/-
C11 — the producer / consumer protocol of multithreaded compression, for EVERY interleaving of caller and workers
(every path of the LTS Model/MTProto.lean): the job ring never overflows and its live slots are distinct, the serial section
is entered in job order, the caller hands out job outputs in job order and never beyond what a worker has published, and
while no job has failed some participant can always move (no deadlock of the protocol).
-/
import ZstdVerif.Model.MTProto
namespace ZstdVerif.Props.C11
open ZstdVerif ZstdVerif.MTProto

/-- ids of the live jobs are exactly done, done+1, …, next-1 (oldest first); the ring holds at most mask+1 of them -/
def RingInv (s : St) : Prop :=
  s.done ≤ s.next ∧ s.next ≤ s.done + s.mask + 1 ∧ s.jobs.map (·.id) = List.range' s.done (s.next - s.done)

/-- the serial log is strictly increasing and below serialNext; the flush log is non-decreasing in job id and never ahead of `done` -/
def OrderInv (s : St) : Prop :=
  s.serialLog.Pairwise (· < ·) ∧ (∀ j ∈ s.serialLog, j < s.serialNext) ∧
  (s.out.map (·.1)).Pairwise (· ≤ ·) ∧ (∀ p ∈ s.out, p.1 ≤ s.done)

/-- `step s e = some s'` read as inference rules, guards as `step` tests them -/
inductive Step (s : St) : Ev → St → Prop
  | post (n ck) : s.next ≤ s.done + s.mask →
      Step s (.post n ck) { s with next := s.next + 1, jobs := s.jobs ++ [{ id := s.next, srcSize := n, ck := ck }] }
  | inline (z ck) : s.next ≤ s.done + s.mask →
      Step s (.inline z ck)
        { s with next := s.next + 1, jobs := s.jobs ++ [{ id := s.next, srcSize := 0, cSize := z, inline := true, ck := ck }] }
  | cksum {x} : s.jobs.head? = some x → (x.id = s.done ∧ x.ck ∧ x.consumed = x.srcSize ∧ !x.failed) →
      Step s .cksum (updJob s x.id fun y => { y with cSize := y.cSize + 4, ck := false })
  | unpost {j} : s.jobs.getLast? = some j →
      (j.id + 1 = s.next ∧ j.consumed = 0 ∧ j.cSize = 0 ∧ !j.serialDone ∧ !j.inline ∧ s.done < s.next) →
      Step s .unpost { s with next := s.next - 1, jobs := s.jobs.dropLast }
  | serial {x} (j : Nat) (wakeAll : Bool) : findJob s j = some x →
      (j = s.serialNext ∧ !x.serialDone ∧ !x.inline ∧
        (wakeAll ∨ (s.jobs.filter fun y => decide (j < y.id) && !y.serialDone && !y.inline).length ≤ 1)) →
      Step s (.serial j wakeAll)
        { updJob s j fun y => { y with serialDone := true } with serialNext := j + 1, serialLog := s.serialLog ++ [j] }
  | produce {x} (j c z) : findJob s j = some x →
      (x.serialDone ∧ !x.failed ∧ !x.inline ∧ x.consumed ≤ c ∧ c ≤ x.srcSize ∧ x.cSize ≤ z) →
      Step s (.produce j c z) (updJob s j fun y => { y with consumed := c, cSize := z })
  | fail {x} (j) : findJob s j = some x → (!x.failed ∧ !x.inline) →
      Step s (.fail j)
        { updJob s j fun y => { y with failed := true, consumed := y.srcSize, serialDone := true } with
          serialNext := if s.serialNext ≤ j then j + 1 else s.serialNext }
  | flush {x} (b) : s.jobs.head? = some x → (x.id = s.done ∧ !x.failed ∧ 0 < b ∧ x.flushed + b ≤ x.cSize) →
      Step s (.flush b) { updJob s x.id fun y => { y with flushed := y.flushed + b } with out := s.out ++ [(x.id, b)] }
  | retire {x rest} : s.jobs = x :: rest →
      (x.id = s.done ∧ (x.serialDone ∨ x.inline) ∧ !x.ck ∧ x.consumed = x.srcSize ∧ x.flushed = x.cSize ∧ !x.failed) →
      Step s .retire { s with done := s.done + 1, jobs := rest }

theorem step_cases {s s' : St} {e : Ev} (hs : step s e = some s') : Step s e s' := by
  cases e <;> simp only [step] at hs <;> split at hs <;> (try split at hs) <;> cases hs
  · exact .post _ _ ‹_›
  · exact .inline _ _ ‹_›
  · exact .cksum ‹_› ‹_›
  · exact .unpost ‹_› ‹_›
  · exact .serial _ _ ‹_› ‹_›
  · exact .produce _ _ _ ‹_› ‹_›
  · rename_i x hx hc
    have := Step.fail _ hx hc
    split
    · rwa [if_pos ‹_›] at this
    · rwa [if_neg ‹_›] at this
  · exact .flush _ ‹_› ‹_›
  · exact .retire ‹_› ‹_›

theorem map_id_updJob (s : St) (j : Nat) (f : Job → Job) (hf : ∀ y, (f y).id = y.id) :
    (updJob s j f).jobs.map (·.id) = s.jobs.map (·.id) := by
  simp only [updJob, List.map_map]
  exact List.map_congr_left fun x _ => by simp only [Function.comp]; split <;> simp [hf]

/-- `RingInv` about plain numbers: `ids` are the ids `d, …, n-1`, at most `m + 1` of them -/
def Ring (d n m : Nat) (ids : List Nat) : Prop :=
  d ≤ n ∧ n ≤ d + m + 1 ∧ ids = List.range' d (n - d)

theorem Ring.push {d n m : Nat} {ids : List Nat} (h : Ring d n m ids) (hg : n ≤ d + m) : Ring d (n + 1) m (ids ++ [n]) := by
  obtain ⟨h1, h2, rfl⟩ := h
  refine ⟨Nat.le_succ_of_le h1, Nat.succ_le_succ hg, ?_⟩
  rw [Nat.sub_add_comm h1, List.range'_concat, Nat.one_mul, Nat.add_sub_cancel' h1]

theorem Ring.popBack {d n m : Nat} {ids : List Nat} (h : Ring d n m ids) (hlt : d < n) : Ring d (n - 1) m ids.dropLast := by
  obtain ⟨h1, h2, rfl⟩ := h
  refine ⟨Nat.le_sub_one_of_lt hlt, Nat.le_trans (Nat.sub_le n 1) h2, ?_⟩
  rw [show n - d = (n - 1 - d) + 1 by omega, List.range'_concat, List.dropLast_concat]

theorem Ring.popFront {d n m x : Nat} {ids rest : List Nat} (h : Ring d n m ids) (hj : ids = x :: rest) :
    Ring (d + 1) n m rest := by
  obtain ⟨h1, h2, rfl⟩ := h
  cases hk : n - d with
  | zero => rw [hk] at hj; cases hj
  | succ k =>
    rw [hk, List.range'_succ] at hj
    have hlt : d < n := Nat.lt_of_sub_pos (hk ▸ Nat.succ_pos k)
    refine ⟨hlt, by omega, ?_⟩
    rw [Nat.sub_add_eq, hk]; exact (List.cons.inj hj).2.symm

theorem Step.ring {s s' : St} {e : Ev} (st : Step s e s') (h : RingInv s) : RingInv s' := by
  have h : Ring s.done s.next s.mask (s.jobs.map (·.id)) := h
  cases st with
  | post _ _ hg | inline _ _ hg =>
    show Ring _ _ _ (List.map _ (_ ++ _))
    rw [List.map_append]; exact h.push hg
  | cksum | serial | produce | fail | flush =>
    refine ⟨h.1, h.2.1, Eq.trans ?_ h.2.2⟩
    exact map_id_updJob _ _ _ fun _ => rfl
  | unpost _ hg =>
    show Ring _ _ _ (List.map _ (List.dropLast _))
    rw [List.map_dropLast]; exact h.popBack hg.2.2.2.2.2
  | retire hj => exact h.popFront (congrArg (List.map (·.id)) hj)

/-- induction along a path all of whose events satisfy `A` -/
theorem run_induct {P : St → Prop} {A : Ev → Prop} (hstep : ∀ s e s', A e → P s → step s e = some s' → P s') :
    ∀ (evs : List Ev) (s s' : St), (∀ e ∈ evs, A e) → P s → run s evs = some s' → P s' := by
  intro evs
  induction evs with
  | nil => intro s s' _ h hr; cases hr; exact h
  | cons e es ih =>
    intro s s' hA h hr
    simp only [run] at hr
    split at hr
    · exact ih _ s' (fun e he => hA e (List.mem_cons_of_mem _ he)) (hstep s e _ (hA e (List.mem_cons_self ..)) h ‹_›) hr
    · cases hr

/-- **ring_safe**: on every path of the protocol, from a state satisfying the invariant -/
theorem ring_safe (evs : List Ev) : ∀ (s s' : St), RingInv s → run s evs = some s' → RingInv s' :=
  fun s s' h hr => run_induct (A := fun _ => True) (fun _ _ _ _ h hs => (step_cases hs).ring h) evs s s' (fun _ _ => trivial) h hr

theorem ids_of_ring {s : St} (h : RingInv s) {x : Job} (hx : x ∈ s.jobs) : s.done ≤ x.id ∧ x.id < s.next := by
  have : x.id ∈ s.jobs.map (·.id) := List.mem_map_of_mem hx
  rw [h.2.2, List.mem_range'_1] at this
  omega

/-- two numbers in a window of length `k` with the same residue mod `k` are equal -/
theorem eq_of_mod_eq {a b d k : Nat} (ha : d ≤ a ∧ a < d + k) (hb : d ≤ b ∧ b < d + k) (h : a % k = b % k) : a = b := by
  rcases Nat.le_total a b with hab | hab
  · have := Nat.sub_mod_eq_zero_of_mod_eq h.symm
    rw [Nat.mod_eq_of_lt (by omega)] at this; omega
  · have := Nat.sub_mod_eq_zero_of_mod_eq h
    rw [Nat.mod_eq_of_lt (by omega)] at this; omega

/-- **slots_distinct**: two live jobs never share a ring slot (jobID & jobIDMask with mask+1 slots) -/
theorem slots_distinct (s : St) (h : RingInv s) (x y : Job) (hx : x ∈ s.jobs) (hy : y ∈ s.jobs)
    (hslot : x.id % (s.mask + 1) = y.id % (s.mask + 1)) : x.id = y.id := by
  have hx := ids_of_ring h hx
  have hy := ids_of_ring h hy
  have := h.2.1
  exact eq_of_mod_eq (d := s.done) ⟨hx.1, by omega⟩ ⟨hy.1, by omega⟩ hslot

theorem Step.order {s s' : St} {e : Ev} (st : Step s e s') (h : OrderInv s) : OrderInv s' := by
  obtain ⟨h1, h2, h3, h4⟩ := h
  cases st with
  | post | inline | cksum | unpost | produce => exact ⟨h1, h2, h3, h4⟩
  | serial j _ _ hg =>
    obtain ⟨rfl, _⟩ := hg
    refine ⟨List.pairwise_append.mpr ⟨h1, by simp, fun a ha b hb => ?_⟩, fun a ha => ?_, h3, h4⟩
    · simp at hb; subst hb; exact h2 a ha
    · rcases List.mem_append.mp ha with ha | ha
      · have := h2 a ha; dsimp only; omega
      · simp at ha; dsimp only; omega
  | fail j =>
    refine ⟨h1, fun a ha => ?_, h3, h4⟩
    have := h2 a ha
    dsimp only; split <;> omega
  | @flush x b _ hg =>
    -- the job flushed is the oldest one: nothing handed out before comes from a later job
    have hx : x.id = s.done := hg.1
    refine ⟨h1, h2, ?_, fun p hp => ?_⟩
    · simp only [List.map_append, List.map_cons, List.map_nil]
      refine List.pairwise_append.mpr ⟨h3, by simp, fun a ha c hc => ?_⟩
      simp at hc; subst hc
      obtain ⟨p, hp, rfl⟩ := List.mem_map.mp ha
      have := h4 p hp; omega
    · rcases List.mem_append.mp hp with hp | hp
      · exact h4 p hp
      · simp at hp; subst hp; exact Nat.le_of_eq hx
  | retire => exact ⟨h1, h2, h3, fun p hp => Nat.le_succ_of_le (h4 p hp)⟩

/-- **order_safe** (the properties DESIGN.md calls serial_in_order and output_in_order): on every path, the serial section is entered in strictly increasing job order and the
caller hands out job outputs in non-decreasing job order, never ahead of the oldest unfinished job -/
theorem order_safe (evs : List Ev) : ∀ (s s' : St), OrderInv s → run s evs = some s' → OrderInv s' :=
  fun s s' h hr => run_induct (A := fun _ => True) (fun _ _ _ _ h hs => (step_cases hs).order h) evs s s' (fun _ _ => trivial) h hr

/-- what every live job satisfies while no job has failed -/
def ProgInv (s : St) : Prop :=
  s.done ≤ s.serialNext ∧
  ∀ x ∈ s.jobs, x.failed = false ∧ (x.inline = false → (x.serialDone = true ↔ x.id < s.serialNext)) ∧ x.flushed ≤ x.cSize ∧ x.consumed ≤ x.srcSize ∧
    (x.inline = true → x.consumed = x.srcSize)

/-- **no_deadlock_partial** (no job has failed): whenever a job is outstanding, some participant - the worker of the oldest job or
the caller - has an enabled step that makes progress: enter the serial section, publish the rest of the job, flush, or retire.
(With a failed job the caller abandons the frame: ZSTDMT_flushProduced's error path, outside this LTS.) -/
theorem no_deadlock_partial (s : St) (hr : RingInv s) (hp : ProgInv s) (hlive : s.done < s.next) :
    ∃ e, (match e with | .post _ _ => False | .inline _ _ => False | .unpost => False | .fail _ => False | _ => True) ∧ (step s e).isSome = true := by
  obtain ⟨r1, r2, r3⟩ := hr
  obtain ⟨p0, p1⟩ := hp
  -- the oldest live job
  have hlen : s.next - s.done = (s.next - s.done - 1) + 1 := by omega
  rw [hlen, List.range'_succ] at r3
  cases hj : s.jobs with
  | nil => rw [hj] at r3; simp at r3
  | cons x rest =>
    rw [hj] at r3
    simp only [List.map_cons] at r3
    have hxid : x.id = s.done := (List.cons.inj r3).1
    have hxm : x ∈ s.jobs := by rw [hj]; exact List.mem_cons_self ..
    obtain ⟨q1, q2, q3, q4, q5⟩ := p1 x hxm
    have hfind : findJob s s.done = some x := by
      unfold findJob; rw [hj]; simp [List.find?, hxid]
    -- the caller's moves once the job is complete: checksum, flush, retire
    have callerMoves : x.consumed = x.srcSize → (x.serialDone = true ∨ x.inline = true) →
        ∃ e, (match e with | .post _ _ => False | .inline _ _ => False | .unpost => False | .fail _ => False | _ => True) ∧ (step s e).isSome = true := by
      intro hc hsi
      by_cases hk : x.ck = true
      · refine ⟨.cksum, trivial, ?_⟩
        simp [step, hj, hxid, hk, hc, q1]
      · by_cases hf : x.flushed = x.cSize
        · refine ⟨.retire, trivial, ?_⟩
          have hk' : x.ck = false := by simpa using hk
          rcases hsi with h | h <;> simp [step, hj, hxid, h, hc, hf, q1, hk']
        · refine ⟨.flush (x.cSize - x.flushed), trivial, ?_⟩
          have : 0 < x.cSize - x.flushed := by omega
          simp [step, hj, hxid, q1, this]
          omega
    by_cases hin : x.inline = true
    · exact callerMoves (q5 hin) (Or.inr hin)
    · have hin' : x.inline = false := by simpa using hin
      by_cases hsd : x.serialDone = true
      · by_cases hc : x.consumed = x.srcSize
        · exact callerMoves hc (Or.inl hsd)
        · refine ⟨.produce s.done x.srcSize x.cSize, trivial, ?_⟩
          simp [step, hfind, hsd, q1, q4, hin']
      · refine ⟨.serial s.done true, trivial, ?_⟩
        have hns : ¬ x.id < s.serialNext := fun h => hsd ((q2 hin').mpr h)
        have : s.done = s.serialNext := by omega
        simp [step, hfind, this.symm, hsd, hin']

/-! ### the progress invariant is inductive (runs without worker errors and without the caller-written last block) -/

/-- the hypothesis of `no_deadlock_partial`, strengthened so that it is preserved by every step -/
def ProgInv0 (s : St) : Prop :=
  s.done ≤ s.serialNext ∧ s.serialNext ≤ s.next ∧
  ∀ x ∈ s.jobs, x.failed = false ∧ x.inline = false ∧ (x.serialDone = true ↔ x.id < s.serialNext) ∧ x.flushed ≤ x.cSize ∧ x.consumed ≤ x.srcSize

def plain : Ev → Bool
  | .fail _ => false
  | .inline _ _ => false
  | _ => true

/-- the ring has one job per id -/
theorem eq_of_id {s : St} (h : RingInv s) {x y : Job} (hx : x ∈ s.jobs) (hy : y ∈ s.jobs) (e : x.id = y.id) : x = y := by
  have p : s.jobs.Pairwise fun a b => a.id ≠ b.id := List.pairwise_map.mp (h.2.2 ▸ List.nodup_range')
  exact List.Pairwise.forall_of_forall_of_flip (R := fun a b => a.id = b.id → a = b) (fun _ _ _ => rfl)
    (p.imp fun ne e => absurd e ne) (p.imp fun ne e => absurd e.symm ne) hx hy e

theorem findJob_mem {s : St} {j : Nat} {x : Job} (h : findJob s j = some x) : x ∈ s.jobs ∧ x.id = j :=
  ⟨List.mem_of_find?_eq_some h, by simpa using List.find?_some h⟩

/-- a property of the jobs after `updJob s j f`: the updated job is checked by the caller, the others carry theirs over -/
theorem forall_updJob {s : St} {j : Nat} {f : Job → Job} {P P' : Job → Prop} (h : ∀ y ∈ s.jobs, P y)
    (hj : ∀ y ∈ s.jobs, y.id = j → P' (f y)) (ho : ∀ y, y.id ≠ j → P y → P' y) :
    ∀ y ∈ (updJob s j f).jobs, P' y := by
  refine List.forall_mem_map.mpr fun y hy => ?_
  by_cases hid : y.id = j
  · rw [if_pos (beq_iff_eq.mpr hid)]; exact hj y hy hid
  · rw [if_neg (by simpa using hid)]; exact ho y hid (h y hy)

theorem prog_step (s s' : St) (e : Ev) (hr : RingInv s) (hp : ProgInv0 s) (he : plain e = true) (hs : step s e = some s') : ProgInv0 s' := by
  obtain ⟨p1, p2, p3⟩ := hp
  cases step_cases hs with
  | fail | inline => cases he
  | post =>
    refine ⟨p1, Nat.le_succ_of_le p2, fun x hx => ?_⟩
    rcases List.mem_append.mp hx with hx | hx
    · exact p3 x hx
    · cases List.mem_singleton.mp hx
      exact ⟨rfl, rfl, ⟨nofun, fun h => absurd h (Nat.not_lt.mpr p2)⟩, Nat.le_refl _, Nat.zero_le _⟩
  | @unpost j hj hg =>
    -- the job taken back has not had its serial turn
    obtain ⟨_, _, q3, _, _⟩ := p3 j (List.mem_of_getLast? hj)
    have : ¬ j.id < s.serialNext := fun h => by simp [q3.mpr h] at hg
    exact ⟨p1, by show s.serialNext ≤ s.next - 1; omega, fun x hx => p3 x ((List.dropLast_sublist s.jobs).subset hx)⟩
  | @serial x j _ hx hg =>
    obtain ⟨rfl, _⟩ := hg
    obtain ⟨hxm, hxid⟩ := findJob_mem hx
    have := ids_of_ring hr hxm
    refine ⟨show s.done ≤ s.serialNext + 1 by omega, show s.serialNext + 1 ≤ s.next by omega, forall_updJob p3 ?_ ?_⟩
    · exact fun y hy hid => have ⟨q1, q2, _, q4, q5⟩ := p3 y hy; ⟨q1, q2, ⟨fun _ => by show y.id < s.serialNext + 1; omega, fun _ => rfl⟩, q4, q5⟩
    · exact fun y hid ⟨q1, q2, q3, q4, q5⟩ => ⟨q1, q2, q3.trans (by show y.id < s.serialNext ↔ y.id < s.serialNext + 1; omega), q4, q5⟩
  | @produce x j c z hx hg =>
    obtain ⟨hxm, hxid⟩ := findJob_mem hx
    refine ⟨p1, p2, forall_updJob p3 (fun y hy hid => ?_) fun _ _ h => h⟩
    -- `y` is the job the guard spoke about
    obtain rfl : y = x := eq_of_id hr hy hxm (hid.trans hxid.symm)
    have ⟨q1, q2, q3, q4, q5⟩ := p3 y hy
    exact ⟨q1, q2, q3, show y.flushed ≤ z by omega, show c ≤ y.srcSize from hg.2.2.2.2.1⟩
  | cksum =>
    refine ⟨p1, p2, forall_updJob p3 (fun y hy _ => ?_) fun _ _ h => h⟩
    have ⟨q1, q2, q3, q4, q5⟩ := p3 y hy
    exact ⟨q1, q2, q3, Nat.le_add_right_of_le q4, q5⟩
  | @flush x b hx hg =>
    refine ⟨p1, p2, forall_updJob p3 (fun y hy hid => ?_) fun _ _ h => h⟩
    obtain rfl : y = x := eq_of_id hr hy (List.mem_of_mem_head? hx) hid
    have ⟨q1, q2, q3, q4, q5⟩ := p3 y hy
    exact ⟨q1, q2, q3, hg.2.2.2, q5⟩
  | @retire x rest hj hg =>
    have hxm : x ∈ s.jobs := hj ▸ List.mem_cons_self ..
    obtain ⟨_, q2, q3, _, _⟩ := p3 x hxm
    have : x.id < s.serialNext := q3.mp (by simpa [q2] using hg.2.1)
    exact ⟨by show s.done + 1 ≤ s.serialNext; omega, p2, fun y hy => p3 y (hj ▸ List.mem_cons_of_mem _ hy)⟩

/-- **no_deadlock**: on every path of the protocol made of caller and worker steps (no worker error, no caller-written last block),
starting from an empty ring, whenever a job is outstanding some participant has an enabled step that makes progress -/
theorem no_deadlock (evs : List Ev) (hpl : ∀ e ∈ evs, plain e = true) (m : Nat) (s : St) (hr : run { mask := m } evs = some s)
    (hlive : s.done < s.next) :
    ∃ e, (match e with | .post _ _ => False | .inline _ _ => False | .unpost => False | .fail _ => False | _ => True) ∧ (step s e).isSome = true := by
  -- both invariants hold along the path
  obtain ⟨r, p⟩ := run_induct (P := fun s => RingInv s ∧ ProgInv0 s) (A := fun e => plain e = true)
    (fun s e s' he h hs => ⟨(step_cases hs).ring h.1, prog_step s s' e h.1 h.2 he hs⟩) evs _ s hpl
    ⟨by simp [RingInv], by simp [ProgInv0]⟩ hr
  refine no_deadlock_partial s r ?_ hlive
  obtain ⟨p1, p2, p3⟩ := p
  refine ⟨p1, ?_⟩
  intro x hx
  obtain ⟨q1, q2, q3, q4, q5⟩ := p3 x hx
  exact ⟨q1, fun _ => q3, q4, q5, fun h => by rw [q2] at h; cases h⟩

example : RingInv { mask := 3 } := by simp [RingInv]
example : (run { mask := 1 } [.post 10 false, .post 20 false, .serial 0 true, .produce 0 10 7, .serial 1 true, .flush 7, .retire, .post 5 true, .produce 1 20 3]).isSome = true := by decide
example : run { mask := 3 } [.post 10 false, .post 20 false, .post 30 false, .serial 0 false] = none := by decide   -- one signal, two possible waiters
example : run { mask := 1 } [.post 10 false, .post 20 false, .post 30 false] = none := by decide        -- ring of 2 is full
example : run { mask := 1 } [.post 10 false, .post 20 false, .serial 1 true] = none := by decide       -- serial section out of order

end ZstdVerif.Props.C11
