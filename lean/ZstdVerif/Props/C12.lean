/-
C12 — Thread pool: each accepted job runs exactly once; join, resize, free are safe.
Theorems over the LTS `ZstdVerif.Pool.step` (Model/Pool.lean): every statement quantifies over ALL schedules
(all label sequences), all thread counts, queue sizes, client programs and job bodies.
-/
import ZstdVerif.Lemmas.Pool
import ZstdVerif.Lemmas.PoolLive
import ZstdVerif.Lemmas.PoolTry

namespace ZstdVerif.Props.C12
open ZstdVerif.Pool

/-- the safety invariant holds in every state reachable under any schedule -/
theorem inv_reachable {body : Job → List JOp} {t qs : Nat} {progs : List (List COp)} {s : St}
    (hr : Reachable body (init t qs progs) s) : Inv s := by
  induction hr with
  | refl => exact inv_init t qs progs
  | step _ hs ih => exact (step_cases hs).inv ih

/-- **FIFO / no loss, no duplication**: in every reachable state the jobs ever accepted are exactly the jobs
already handed to a worker followed by the jobs still queued, in order. -/
theorem accepted_eq_started_append_queue {body t qs progs s} (hr : Reachable body (init t qs progs) s) :
    s.accepted = s.started ++ s.q := (inv_reachable hr).fifo

/-- **exactly once**: no job instance is started more often than it was accepted, none finishes more often
than it started; and whenever the pool is quiescent (empty queue, no busy thread) every accepted instance
has been executed to completion exactly once. -/
theorem exactly_once {body t qs progs s} (hr : Reachable body (init t qs progs) s) (j : Job) :
    s.started.count j ≤ s.accepted.count j ∧ s.finished.count j ≤ s.started.count j ∧
    (s.q = [] → s.busy = 0 → s.finished.count j = s.accepted.count j) := by
  have h := inv_reachable hr
  refine ⟨?_, ?_, ?_⟩
  · rw [h.fifo, List.count_append]; omega
  · have := h.acct j; omega
  · intro hq hb
    -- no thread is busy, so no worker holds a job
    have hfm : s.ws.filterMap jobOf = [] := List.filterMap_eq_nil_iff.mpr fun w hw => by
      simpa [isRun_eq] using List.countP_eq_zero.mp (h.busy.symm.trans hb) w hw
    have := h.acct j
    rw [hfm] at this
    rw [h.fifo, hq]
    simpa using this.symm

/-- **joinJobs postcondition**: the critical section in which `POOL_joinJobs` decides to return sees every job
accepted so far finished. -/
theorem joinJobs_post {body t qs progs s s'} {i sig : Nat} {a : List Act} {c : Client} {rest : List COp}
    (hr : Reachable body (init t qs progs) s) (hc : s.cs[i]? = some c) (hp : c.prog = .joinJobs :: rest)
    (hs : stepClient s i sig = some (s', a)) (hret : s'.cs[i]? = some ⟨.ready, rest⟩) (hne : c.pc ≠ .done)
    (hnf : c.pc ≠ .freeBcastPush ∧ c.pc ≠ .freeBcastPop ∧ c.pc ≠ .joining) :
    ∀ j, s.finished.count j = s.accepted.count j := by
  obtain ⟨c', hc', st⟩ := stepClient_cases hs
  obtain rfl : c' = c := Option.some.inj (hc'.symm.trans hc)
  have hq : s.q = [] ∧ s.busy = 0 := by
    cases st with
    | join _ hq hb => exact ⟨hq, hb⟩
    | joinWait =>
      -- the client went to sleep instead of returning
      have e : (s.cs.set i _)[i]? = some (⟨.ready, rest⟩ : Client) := hret
      rw [List.getElem?_set_self (List.getElem?_eq_some_iff.mp hc).1] at e
      cases e
    | freeBcastPush => exact absurd rfl hnf.1
    | freeBcastPop => exact absurd rfl hnf.2.1
    | joined => exact absurd rfl hnf.2.2
    | _ => cases hp
  exact fun j => (exactly_once hr j).2.2 hq.1 hq.2

/-- **tryAdd**: a refusal leaves queue and accepted set untouched; an acceptance (pool not shutting down)
enqueues exactly that job at the tail. -/
theorem tryAdd_refusal_clean (s : St) (j : Job) (k : Nat) :
    (isFull s = true → True) ∧
    (s.shutdown = false → (addInternal s j k).1.q = s.q ++ [j] ∧ (addInternal s j k).1.accepted = s.accepted ++ [j]) ∧
    (s.shutdown = true → (addInternal s j k).1 = s) := by
  refine ⟨fun _ => trivial, fun h => ?_, fun h => ?_⟩
  · unfold addInternal signalPop; simp [h]; split <;> simp
  · unfold addInternal; simp [h]

/-- **a successful tryAdd is an accepted job** (all schedules): in every reachable state, each post that `POOL_tryAdd` answered
with 1 has really been enqueued - also when it raced with `POOL_free` (a pool that is shutting down answers 0). -/
theorem tryAdd_success_accepted {body t qs progs s} (hr : Reachable body (init t qs progs) s) (j : Job) :
    s.tryOk.count j ≤ s.accepted.count j := by
  induction hr with
  | refl => simp [init]
  | step _ hs ih => exact tryStep_count (step_cases hs).tryStep j ih

/-- ... hence runs: once the pool is quiescent, every post answered with 1 has been executed to completion. -/
theorem tryAdd_success_runs {body t qs progs s} (hr : Reachable body (init t qs progs) s) (j : Job)
    (hq : s.q = []) (hb : s.busy = 0) : s.tryOk.count j ≤ s.finished.count j := by
  have h := (exactly_once hr j).2.2 hq hb
  have h2 := tryAdd_success_accepted hr j
  omega

/-- **resize never strands or loses queued jobs**: queue, accepted, started, finished are unchanged, and the
number of worker threads never shrinks. -/
theorem resize_keeps_jobs (s : St) (n : Nat) :
    (resize s n).q = s.q ∧ (resize s n).accepted = s.accepted ∧ (resize s n).started = s.started ∧
    (resize s n).finished = s.finished ∧ s.ws.length ≤ (resize s n).ws.length := by
  rw [resize_eq]
  exact ⟨rfl, rfl, rfl, rfl, by simp⟩

/-- **free joins every worker**: `POOL_free` returns (client reaches `done` from `joining`) only in a state where
every worker thread has exited. -/
theorem free_joins_all (s s' : St) (i sig : Nat) (a : List Act) (c : Client)
    (hc : s.cs[i]? = some c) (hj : c.pc = .joining) (hs : stepClient s i sig = some (s', a)) :
    s.ws.all (· == .exited) = true := by
  obtain ⟨c', hc', st⟩ := stepClient_cases hs
  obtain rfl : c' = c := Option.some.inj (hc'.symm.trans hc)
  cases st with
  | joined h => exact h
  | addWait hpc | add _ hpc | joinWait hpc | join hpc => rcases hpc with rfl | rfl <;> cases hj
  | _ => cases hj

/-- a worker only exits when the pool is shutting down (first branch of `POOL_thread`'s wait loop) -/
theorem worker_exits_only_on_shutdown (s : St) (i : Nat) (w : WPc) (hw : s.ws[i]? = some w)
    (hidle : w = .idle ∨ w = .waitPop true) (hcond : (s.q.isEmpty || decide (s.busy ≥ s.limit)) = true) :
    (s.shutdown = true → ∀ body sig, stepWorker body s i sig = some ({ s with ws := s.ws.set i .exited }, [])) ∧
    (s.shutdown = false → ∀ body sig, stepWorker body s i sig = some ({ s with ws := s.ws.set i (.waitPop false) }, [.waitPop])) := by
  rcases hidle with rfl | rfl <;> refine ⟨fun h body sig => ?_, fun h body sig => ?_⟩ <;>
    simp [stepWorker, hw, hcond, h]


/-! ## Liveness: no wake-up is ever lost (Lemmas/PoolLive.lean: `Live`), hence no deadlock that the pool itself causes -/

/-- the "no lost wake-up" invariant holds in every state reachable under any schedule of a pool created with at least one
thread (POOL_create refuses 0 threads) -/
theorem live_reachable {body : Job → List JOp} {t qs : Nat} {progs : List (List COp)} {s : St} (ht : 0 < t)
    (hr : Reachable body (init t qs progs) s) : Live s := by
  induction hr with
  | refl => exact live_init t qs progs ht
  | step hr' hs ih => exact (step_cases hs).live ih (inv_reachable hr')

/-- **a queued job that may be started is never stranded**: whenever the queue is non-empty and the thread limit is not
reached, some worker is awake - about to test the queue, or running a job after which it tests the queue - in every state
reachable under any schedule, any client programs, any resizes. -/
theorem job_never_stranded {body t qs progs s} (ht : 0 < t) (hr : Reachable body (init t qs progs) s)
    (hq : s.q ≠ []) (hb : s.busy < s.limit) : ∃ w ∈ s.ws, activeW w = true :=
  (live_reachable ht hr).core.pop hq hb

/-- **a blocked POOL_add is blocked for a reason**: a client asleep inside POOL_add sees a full queue of a pool that is not
shutting down, or POOL_free has set `shutdown` and still owes the broadcast on the push condition -/
theorem blocked_add_justified {body t qs progs s} (ht : 0 < t) (hr : Reachable body (init t qs progs) s)
    (c : Client) (hc : c ∈ s.cs) (hpc : c.pc = .waitPush false) (j : Job) (rest : List COp) (hp : c.prog = .add j :: rest) :
    (isFull s = true ∧ s.shutdown = false) ∨ ∃ c' ∈ s.cs, c'.pc = .freeBcastPush :=
  pushOk_iff.mp ((live_reachable ht hr).push.pushAdd c hc (by simp [sleepAddC, hpc, hp, headAdd]))

/-- same for a job body blocked inside POOL_add -/
theorem blocked_worker_add_justified {body t qs progs s} (ht : 0 < t) (hr : Reachable body (init t qs progs) s)
    (j : Job) (r : List JOp) (hw : WPc.runWaitPush j r false ∈ s.ws) :
    (isFull s = true ∧ s.shutdown = false) ∨ ∃ c' ∈ s.cs, c'.pc = .freeBcastPush :=
  pushOk_iff.mp ((live_reachable ht hr).push.pushW _ hw rfl)

/-- **POOL_joinJobs sleeps only while work remains**: a client asleep inside POOL_joinJobs sees a non-empty queue or a busy
thread (the last completion broadcasts, so it cannot sleep through quiescence) -/
theorem blocked_join_justified {body t qs progs s} (ht : 0 < t) (hr : Reachable body (init t qs progs) s)
    (c : Client) (hc : c ∈ s.cs) (hpc : c.pc = .waitPush false) (rest : List COp) (hp : c.prog = .joinJobs :: rest) :
    s.q ≠ [] ∨ 0 < s.busy :=
  (live_reachable ht hr).push.pushJoin c hc (by simp [sleepJoinC, hpc, hp, headJoin])

/-- **progress while work is pending** (partial: stated for states in which no job body is itself blocked inside a POOL_add on
the pool that runs it - a client program that does that can deadlock the real pool as well): if a job is queued or running, some
worker has an enabled critical section, under every schedule. Together with `exactly_once` this is "every accepted job is
eventually executed" for every fair schedule. -/
theorem work_pending_progress_partial {body t qs progs s} (ht : 0 < t) (hr : Reachable body (init t qs progs) s)
    (hwork : s.q ≠ [] ∨ 0 < s.busy) (hnb : s.ws.any sleepPushW = false) :
    ∃ i sig, (step body s (.worker i sig)).isSome = true := by
  have hl := live_reachable ht hr
  obtain ⟨w, hw, ha⟩ := exists_active hl (inv_reachable hr) hwork
  exact worker_enabled body hl hw ha (Bool.eq_false_iff.mpr (List.any_eq_false.mp hnb w hw))

/-- **POOL_free cannot hang on the pool's account**: after `shutdown` is set, as long as some worker has not exited, either a
worker has an enabled critical section, or the freeing client still owes a broadcast (its next step), or a job body is blocked in
its own POOL_add. When every worker has exited the joining client's step is enabled (`free_joins_all`). -/
theorem shutdown_progress {body t qs progs s} (ht : 0 < t) (hr : Reachable body (init t qs progs) s)
    (hsh : s.shutdown = true) (w : WPc) (hw : w ∈ s.ws) (hne : isExited w = false) :
    (∃ i sig, (step body s (.worker i sig)).isSome = true) ∨ s.cs.any pendFreeC = true ∨ s.ws.any sleepPushW = true := by
  have hl := live_reachable ht hr
  by_cases hp : sleepPushW w = true
  · exact .inr (.inr (List.any_eq_true.mpr ⟨w, hw, hp⟩))
  by_cases hsl : sleepPop w = true
  · exact .inr (.inl (List.any_eq_true.mpr (hl.core.popShut hsh w hw hsl)))
  refine .inl (worker_enabled body hl hw ?_ (by simpa using hp))
  cases w with
  | waitPop b => cases b <;> first | rfl | exact absurd rfl hsl
  | exited => cases hne
  | _ => rfl

/-- the premises of the liveness theorems are met by real states: a client asleep in POOL_add on a full queue -/
example : ∃ s, runLabels (fun _ => []) (init 1 0 [[.add 1, .add 2]]) [.client 0 0, .client 0 0] = some s ∧
    s.cs.any sleepAddC = true ∧ isFull s = true := by
  refine ⟨_, rfl, by decide, by decide⟩

/-! Non-vacuity: a concrete schedule of a concrete program reaches a quiescent state with two accepted jobs. -/
example : (runLabels (fun _ => []) (init 1 0 [[.add 1, .add 2]])
    [.client 0 0, .worker 0 0, .worker 0 0, .client 0 0, .worker 0 0, .worker 0 0]).map (fun s => (s.accepted, s.finished, s.busy))
    = some ([1, 2], [1, 2], 0) := by decide

end ZstdVerif.Props.C12
