/-
C13 — allocation failure: what "clean" means and which protocols guarantee it.  Three parts, each with its own helper lemmas
about `run` / `orun` on a segment of the log: the allocator ledger (a constructor that unwinds, a missing and a double free);
the ownership of a context's workspace across failed resizes; objects the caller still owns while a constructor only references
them (`OSt`, whose `base` is the allocator ledger: `orun_base`).
-/
import ZstdVerif.Model.Ledger
import ZstdVerif.Gen.Cwksp
namespace ZstdVerif.Props.C13
open ZstdVerif ZstdVerif.Ledger

theorem run_append (s : St) (a b : List Ev) : run s (a ++ b) = run (run s a) b := List.foldl_append

theorem run_cons (s : St) (e : Ev) (es : List Ev) : run s (e :: es) = run (step s e) es := rfl

/-- handing back exactly the live blocks, in any order, leaves none and is never reported -/
theorem run_frees (bs : List Nat) : ∀ (s : St), bs.Perm s.live →
    (run s (bs.map Ev.free)).live = [] ∧
    (run s (bs.map Ev.free)).doubleFrees = s.doubleFrees ∧ (run s (bs.map Ev.free)).foreignFrees = s.foreignFrees := by
  induction bs with
  | nil => intro s h; exact ⟨h.symm.eq_nil, rfl, rfl⟩
  | cons b bs ih =>
    intro s h
    have hbl : b ∈ s.live := h.subset (List.mem_cons_self ..)
    simp only [List.map_cons, run_cons, step, hbl, if_true]
    exact ih { s with live := s.live.erase b, freed := b :: s.freed } (List.erase_cons_head b bs ▸ h.erase b)

theorem run_allocs (as : List (Nat × Nat)) : ∀ (s : St),
    (run s (as.map (fun p => Ev.alloc p.1 p.2))).live = (as.map (·.1)).reverse ++ s.live ∧
    (run s (as.map (fun p => Ev.alloc p.1 p.2))).doubleFrees = s.doubleFrees ∧
    (run s (as.map (fun p => Ev.alloc p.1 p.2))).foreignFrees = s.foreignFrees := by
  induction as with
  | nil => intro s; exact ⟨rfl, rfl, rfl⟩
  | cons a as ih =>
    intro s
    obtain ⟨h1, h2⟩ := ih (step s (.alloc a.1 a.2))
    refine ⟨?_, h2⟩
    simp only [List.map_cons, run_cons, h1, List.reverse_cons, List.append_assoc]
    rfl

set_option linter.unusedVariables false in
/-- a constructor that acquired any blocks (distinct addresses), met a failed request, and then released what it
had acquired IN ANY ORDER leaves a clean ledger.  (ZSTDMT_createCCtx_advanced_internal → ZSTDMT_freeCCtx, POOL_create_advanced →
POOL_free, ZSTD_createCDict_advanced_internal → ZSTD_freeCDict, … : the unwinding order differs from the acquisition order.) -/
theorem ctor_unwinds (as : List (Nat × Nat)) (bs : List Nat) (failed : Nat)
    (hnd : (as.map (·.1)).Nodup) (hp : bs.Perm (as.map (·.1))) :
    Clean (run {} (as.map (fun p => Ev.alloc p.1 p.2) ++ [Ev.fail failed] ++ bs.map Ev.free)) := by
  rw [run_append, run_append]
  obtain ⟨h1, h2, h3⟩ := run_allocs as {}
  generalize run {} (as.map (fun p => Ev.alloc p.1 p.2)) = s at h1 h2 h3
  rw [List.append_nil] at h1
  obtain ⟨g1, g2, g3⟩ := run_frees bs (run s [Ev.fail failed]) (hp.trans (h1 ▸ (List.reverse_perm _).symm))
  exact ⟨g1, g2.trans h2, g3.trans h3⟩

/-- a block that is acquired and not handed back is reported (the ledger cannot be clean) -/
theorem missing_free_leaks (s : St) (a n : Nat) (rest : List Ev) (hno : Ev.free a ∉ rest) :
    a ∈ (run (step s (.alloc a n)) rest).live := by
  suffices h : ∀ (t : St), a ∈ t.live → a ∈ (run t rest).live from h _ (List.mem_cons_self ..)
  induction rest with
  | nil => exact fun _ ht => ht
  | cons e es ih =>
    intro t ht
    refine ih (fun h => hno (List.mem_cons_of_mem _ h)) _ ?_
    cases e with
    | alloc b m => exact List.mem_cons_of_mem _ ht
    | fail m => exact ht
    | free b =>
      have hab : a ≠ b := fun h => hno (h ▸ List.mem_cons_self ..)
      simp only [step]
      split
      · exact (List.mem_erase_of_ne hab).mpr ht
      · split <;> exact ht

/-- a recorded double free is never forgotten -/
theorem doubleFrees_grow (es : List Ev) : ∀ (t : St), t.doubleFrees ≠ [] → (run t es).doubleFrees ≠ [] := by
  induction es with
  | nil => exact fun _ h => h
  | cons e es ih =>
    intro t h
    refine ih _ ?_
    cases e with
    | alloc b m => exact h
    | fail m => exact h
    | free b =>
      simp only [step]
      split
      · exact h
      · split
        · exact List.cons_ne_nil _ _
        · exact h

/-- requests answered NULL move no block -/
theorem run_fails (es : List Ev) : ∀ (t : St), (∀ e ∈ es, ∃ m, e = Ev.fail m) → (run t es).live = t.live ∧ (run t es).freed = t.freed := by
  induction es with
  | nil => exact fun _ _ => ⟨rfl, rfl⟩
  | cons e es ih =>
    intro t h
    obtain ⟨m, rfl⟩ := h e (List.mem_cons_self ..)
    exact ih (step t (.fail m)) (fun e he => h e (List.mem_cons_of_mem _ he))

/-- handing the same block back twice is reported, whatever happens in between and afterwards -/
theorem double_free_reported (s : St) (a : Nat) (mid rest : List Ev) (hl : a ∈ s.live) (hnd : s.live.Nodup)
    (hmid : ∀ e ∈ mid, (∃ m, e = .fail m)) :
    ¬ Clean (run s ([Ev.free a] ++ mid ++ [Ev.free a] ++ rest)) := by
  -- after the first free `a` is in `freed` and not live; fails change neither; the second free records it; records only grow
  intro hc
  rw [run_append, run_append, run_append] at hc
  have h1 : (run s [Ev.free a]).live = s.live.erase a ∧ (run s [Ev.free a]).freed = a :: s.freed := by
    simp [run, step, hl]
  obtain ⟨f1, f2⟩ := run_fails mid (run s [Ev.free a]) hmid
  refine doubleFrees_grow rest _ ?_ hc.2.1
  generalize run (run s [Ev.free a]) mid = t at f1 f2
  have hnl : a ∉ t.live := by
    rw [f1, h1.1]
    exact fun h => (hnd.mem_erase_iff.mp h).1 rfl
  have hfr : a ∈ t.freed := by rw [f2, h1.2]; exact List.mem_cons_self ..
  simp [run, step, hnl, hfr]

/-! ### workspace ownership across failed resizes -/

/-- ZSTD_freeCCtx on a context whose descriptor names exactly the live blocks hands them all back, once -/
theorem run_release (o : Owner) (s : St) (hl : s.live = o.ws.toList) :
    (run s (release o)).live = [] ∧ (run s (release o)).freed = o.ws.toList ++ s.freed ∧
    (run s (release o)).doubleFrees = s.doubleFrees ∧ (run s (release o)).foreignFrees = s.foreignFrees := by
  unfold release
  cases ho : o.ws with
  | none => exact ⟨hl.trans (congrArg Option.toList ho), rfl, rfl, rfl⟩
  | some a => simp [run, step, hl, ho]

/-- with a ZSTD_cwksp_free that clears the descriptor, a resize is: hand back what the descriptor names, then ask for the new block;
the descriptor ends up naming exactly what the allocator answered -/
theorem resize_clearing (o : Owner) (size : Nat) (ans : Option Nat) :
    resize true o size ans = ({ ws := ans }, release o ++ [match ans with | some b => Ev.alloc b size | none => Ev.fail size]) := by
  cases ans <;> rfl

/-- invariant of the ownership protocol when ZSTD_cwksp_free clears the descriptor: the ledger's live set is exactly what the
descriptor names -/
theorem history_clean (hist : List (Nat × Option Nat)) : ∀ (o : Owner) (s : St), s.live = o.ws.toList → s.doubleFrees = [] → s.foreignFrees = [] →
    (∀ p ∈ hist, ∀ b, p.2 = some b → b ∉ s.live ∧ b ∉ s.freed) →
    -- fresh answers are pairwise distinct
    (hist.filterMap (·.2)).Nodup →
    Clean (run s (history true o hist)) := by
  induction hist with
  | nil =>
    intro o s hl hd hf _ _
    obtain ⟨h1, _, h3, h4⟩ := run_release o s hl
    exact ⟨h1, h3.trans hd, h4.trans hf⟩
  | cons p rest ih =>
    intro o s hl hd hf hfresh hnd
    obtain ⟨size, ans⟩ := p
    obtain ⟨h1, h2, h3, h4⟩ := run_release o s hl
    simp only [history, resize_clearing, List.append_assoc, run_append]
    generalize run s (release o) = s1 at h1 h2 h3 h4
    -- what has been handed back so far was live or freed before: later answers differ from it
    have hfr : ∀ q ∈ rest, ∀ c, q.2 = some c → c ∉ s1.freed := by
      intro q hq c hc
      have := hfresh q (List.mem_cons_of_mem _ hq) c hc
      rw [h2, ← hl]
      simpa using this
    cases ans with
    | none =>
      refine ih ⟨none⟩ _ h1 (h3.trans hd) (h4.trans hf) (fun q hq c hc => ⟨?_, hfr q hq c hc⟩) (by simpa using hnd)
      show c ∉ s1.live
      rw [h1]
      exact List.not_mem_nil
    | some b =>
      obtain ⟨hb, hnd'⟩ := List.nodup_cons.mp (by simpa using hnd : (b :: rest.filterMap (·.2)).Nodup)
      refine ih ⟨some b⟩ _ (congrArg (b :: ·) h1) (h3.trans hd) (h4.trans hf) (fun q hq c hc => ⟨?_, hfr q hq c hc⟩) hnd'
      show c ∉ b :: s1.live
      rw [h1]
      exact fun h => hb (List.mem_singleton.mp h ▸ List.mem_filterMap.mpr ⟨q, hq, hc⟩)

/-- with the ZSTD_cwksp_free of the CURRENT source (descriptor cleared: `Gen.Cwksp.freeClearsDescriptor`
is regenerated from zstd_cwksp.h), any history of workspace resizes - any of them failing - followed by ZSTD_freeCCtx hands every
block back exactly once. -/
theorem cwksp_fail_resettable (hist : List (Nat × Option Nat)) (hnd : (hist.filterMap (·.2)).Nodup) :
    Clean (run {} (history Gen.Cwksp.freeClearsDescriptor { ws := none } hist)) := by
  have hc : Gen.Cwksp.freeClearsDescriptor = true := by decide
  rw [hc]
  exact history_clean hist { ws := none } {} rfl rfl rfl (by intro p _ b _; simp) hnd

/-- the same protocol with a ZSTD_cwksp_free that keeps the stale descriptor is NOT clean: grow, fail to grow, free -/
theorem stale_descriptor_double_frees :
    ¬ Clean (run {} (history false { ws := none } [(100, some 1), (200, none)])) := by decide

example : Clean (run {} (history true { ws := none } [(100, some 1), (200, none), (200, some 2), (50, none)])) := by decide
example : Clean (run {} ([(1, 10), (2, 20), (3, 30)].map (fun p => Ev.alloc p.1 p.2) ++ [Ev.fail 40] ++ [2, 3, 1].map Ev.free)) := by decide

/-! ### objects the caller still owns must survive a failed call -/

theorem orun_append (s : OSt) (a b : List OEv) : orun s (a ++ b) = orun (orun s a) b := List.foldl_append

/-- the caller's declarations do not change what the allocator ledger sees: every theorem above applies to the projected log -/
theorem orun_base (evs : List OEv) : ∀ s : OSt, (orun s evs).base = run s.base (baseLog evs) := by
  induction evs with
  | nil => intro s; rfl
  | cons e es ih =>
    intro s
    cases e <;> exact ih (ostep s _)

/-- a recorded theft is never forgotten -/
theorem stolen_grows (evs : List OEv) : ∀ s : OSt, s.stolen ≠ [] → (orun s evs).stolen ≠ [] := by
  induction evs with
  | nil => exact fun _ h => h
  | cons e es ih =>
    intro s h
    refine ih _ ?_
    cases e with
    | ev e => simp [ostep, h]
    | own a => exact h
    | disown a => exact h

/-- handing back a block while the caller still owns it (ZSTDMT_freeCCtx releasing the pool attached with
ZSTD_CCtx_refThreadPool, a context releasing a CDict / DDict it only references, ...) is reported whatever happens before and after -/
theorem stolen_free_reported (s : OSt) (pre rest : List OEv) (a : Nat) (h : a ∈ (orun s pre).owned) :
    ¬ OwnedIntact (orun s (pre ++ OEv.ev (.free a) :: rest)) := by
  rw [orun_append]
  refine stolen_grows rest _ ?_
  simp [ostep, stolenBy, h]

/-- allocator events none of which hands back an owned block leave the owned objects alone -/
theorem intact_evs (es : List Ev) : ∀ s : OSt, (∀ a, Ev.free a ∈ es → a ∉ s.owned) →
    (orun s (es.map OEv.ev)).stolen = s.stolen ∧ (orun s (es.map OEv.ev)).owned = s.owned := by
  induction es with
  | nil => exact fun _ _ => ⟨rfl, rfl⟩
  | cons e es ih =>
    intro s h
    have hs : (ostep s (.ev e)).stolen = s.stolen ∧ (ostep s (.ev e)).owned = s.owned := by
      cases e with
      | free b => simp [ostep, stolenBy, h b (List.mem_cons_self ..)]
      | _ => exact ⟨rfl, rfl⟩
    obtain ⟨h1, h2⟩ := ih (ostep s (.ev e)) (fun a ha => hs.2 ▸ h a (List.mem_cons_of_mem _ ha))
    exact ⟨h1.trans hs.1, h2.trans hs.2⟩

theorem run_owns (as : List Nat) : ∀ s : OSt,
    (orun s (as.map OEv.own)).stolen = s.stolen ∧ (orun s (as.map OEv.own)).owned = as.reverse ++ s.owned := by
  induction as with
  | nil => exact fun _ => ⟨rfl, rfl⟩
  | cons a as ih =>
    intro s
    obtain ⟨h1, h2⟩ := ih (ostep s (.own a))
    exact ⟨h1, h2.trans (by simp [ostep])⟩

theorem run_disowns (as : List Nat) : ∀ s : OSt,
    (orun s (as.map OEv.disown)).stolen = s.stolen ∧ (∀ x ∈ (orun s (as.map OEv.disown)).owned, x ∈ s.owned ∧ x ∉ as) := by
  induction as with
  | nil => exact fun _ => ⟨rfl, fun x hx => ⟨hx, List.not_mem_nil⟩⟩
  | cons a as ih =>
    intro s
    obtain ⟨h1, h2⟩ := ih (ostep s (.disown a))
    refine ⟨h1, fun x hx => ?_⟩
    have hx2 := h2 x hx
    simp [ostep] at hx2
    simp [hx2]

theorem baseLog_append (a b : List OEv) : baseLog (a ++ b) = baseLog a ++ baseLog b := List.filterMap_append

theorem baseLog_ev (es : List Ev) : baseLog (es.map OEv.ev) = es := List.filterMap_map.trans List.filterMap_some

theorem baseLog_own (as : List Nat) : baseLog (as.map OEv.own) = [] := by
  simp [baseLog, List.filterMap_map]

theorem baseLog_disown (as : List Nat) : baseLog (as.map OEv.disown) = [] := by
  simp [baseLog, List.filterMap_map]

/-- a constructor that holds references to caller-owned blocks, acquires its own blocks, meets a failed
request and releases exactly its own acquisitions (any order) leaves the caller's objects alone, and once the caller has released them
the allocator ledger is clean.  (ZSTDMT_createCCtx_advanced_internal with a provided pool / referenced CDict, ZSTD_DCtx_refDDict with
the multi-DDict hash set, ZSTD_CCtx_refPrefix.) -/
theorem referencing_ctor_unwinds (refs as : List (Nat × Nat)) (bs : List Nat) (failed : Nat)
    (hnd : ((refs ++ as).map (·.1)).Nodup) (hp : bs.Perm (as.map (·.1))) :
    Clean (orun {} (refLifecycle refs as failed bs)).base ∧ OwnedIntact (orun {} (refLifecycle refs as failed bs)) := by
  have hdisj : ∀ b ∈ bs, b ∉ refs.map (·.1) := fun b hb hr =>
    (List.nodup_append.mp (List.map_append ▸ hnd)).2.2 b hr b (hp.mem_iff.mp hb) rfl
  constructor
  · -- the allocator sees: all acquisitions, the failure, all releases
    have hb : baseLog (refLifecycle refs as failed bs) =
        (refs ++ as).map (fun p => Ev.alloc p.1 p.2) ++ [Ev.fail failed] ++ (bs ++ refs.map (·.1)).map Ev.free := by
      simp only [refLifecycle, baseLog_append, baseLog_ev, baseLog_own, baseLog_disown]
      simp
    rw [orun_base, hb]
    exact ctor_unwinds _ _ _ hnd (List.map_append ▸ List.perm_append_comm.trans (hp.append_left _))
  · unfold OwnedIntact refLifecycle
    rw [orun_append, orun_append, orun_append, orun_append]
    -- 1. the caller creates its objects
    have e1 := intact_evs (refs.map (fun p => Ev.alloc p.1 p.2)) {} (by intro a _; simp)
    generalize orun {} ((refs.map (fun p => Ev.alloc p.1 p.2)).map OEv.ev) = s1 at e1 ⊢
    -- 2. and declares them
    have e2 := run_owns (refs.map (·.1)) s1
    generalize orun s1 ((refs.map (·.1)).map OEv.own) = s2 at e2 ⊢
    have ho2 : s2.owned = (refs.map (·.1)).reverse := by rw [e2.2, e1.2]; simp
    -- 3. the constructor acquires, fails, unwinds
    have e3 := intact_evs (as.map (fun p => Ev.alloc p.1 p.2) ++ [Ev.fail failed] ++ bs.map Ev.free) s2 (by
      intro a ha
      have : a ∈ bs := by simpa using ha
      rw [ho2]; simpa using hdisj a this)
    generalize orun s2 ((as.map (fun p => Ev.alloc p.1 p.2) ++ [Ev.fail failed] ++ bs.map Ev.free).map OEv.ev) = s3 at e3 ⊢
    -- 4. the caller starts releasing
    have e4 := run_disowns (refs.map (·.1)) s3
    generalize orun s3 ((refs.map (·.1)).map OEv.disown) = s4 at e4 ⊢
    have ho4 : s4.owned = [] := by
      apply List.eq_nil_iff_forall_not_mem.mpr
      intro x hx
      have := e4.2 x hx
      rw [e3.2, ho2] at this
      exact this.2 (List.mem_reverse.mp this.1)
    -- 5. and hands its blocks back
    have e5 := intact_evs ((refs.map (·.1)).map Ev.free) s4 (by intro a _; simp [ho4])
    rw [e5.1, e4.1, e3.1, e2.1, e1.1]

/-- ZSTDMT_createCCtx_advanced_internal on a pool the caller attached, failing after any number of
its own acquisitions, with `providedFactory` recorded before the failure check: the pool's blocks are not handed back. -/
theorem mt_ctor_provided_pool_survives (pool : List Nat) (parts : List (Nat × Nat)) (failed : Nat) (s : OSt)
    (hown : s.stolen = []) (hd : ∀ p ∈ parts, p.1 ∉ s.owned) :
    OwnedIntact (orun s (mtCtorOnProvidedPool true pool parts failed)) := by
  unfold mtCtorOnProvidedPool OwnedIntact
  have := intact_evs (parts.map (fun p => Ev.alloc p.1 p.2) ++ [Ev.fail failed] ++ (if true then [] else pool.map Ev.free)
      ++ parts.map (fun p => Ev.free p.1)) s (by
    intro a ha
    have : ∃ p ∈ parts, p.1 = a := by simpa using ha
    obtain ⟨p, hp, rfl⟩ := this
    exact hd p hp)
  rw [this.1, hown]

/-- the same constructor with the flag recorded only after the failure check releases the caller's pool: reported -/
theorem mt_ctor_late_flag_steals :
    ¬ OwnedIntact (orun {} ([OEv.ev (.alloc 1 100), .ev (.alloc 2 50), .own 1, .own 2] ++ mtCtorOnProvidedPool false [2, 1] [(3, 10), (4, 20)] 30)) := by
  decide

example : OwnedIntact (orun {} ([OEv.ev (.alloc 1 100), .ev (.alloc 2 50), .own 1, .own 2] ++ mtCtorOnProvidedPool true [2, 1] [(3, 10), (4, 20)] 30
    ++ [.disown 1, .disown 2, .ev (.free 2), .ev (.free 1)])) := by decide
example : Clean (orun {} (refLifecycle [(1, 100), (2, 50)] [(3, 10), (4, 20)] 30 [4, 3])).base ∧ OwnedIntact (orun {} (refLifecycle [(1, 100), (2, 50)] [(3, 10), (4, 20)] 30 [4, 3])) := by decide

end ZstdVerif.Props.C13
