/-
C14 — memory budgets.
(1) compression side: the workspace allocator never fails on a reservation sequence that fits (two alignment gaps of < 64 bytes);
    the reservation sequence of ZSTD_resetCCtx_internal for ANY resolved parameters fits in the estimate computed by the shared
    sizing routine (exactly: `estimate_exact`); hence a fresh workspace of the estimated size, at ANY address, serves the whole
    reservation sequence without a failed reservation.
(2) decompression side: the streaming decoder never holds buffers larger than the documented function of its window limit,
    and refuses frames that need more.
-/
import ZstdVerif.Model.DBuf
import ZstdVerif.Model.Estimate
import ZstdVerif.Lemmas.Cwksp
import ZstdVerif.Lemmas.Estimate
namespace ZstdVerif.Props.C14
open ZstdVerif ZstdVerif.DBuf ZstdVerif.Gen ZstdVerif.Cwksp ZstdVerif.Estimate

/-! ### compression workspace -/

/-- the object sizes the code reserves are already multiples of sizeof(void*): reserve_object's rounding adds nothing -/
theorem object_sizes_rounded :
    align sizeof_ZSTD_CCtx 8 = sizeof_ZSTD_CCtx ∧ align sizeof_blockState 8 = sizeof_blockState ∧
    align TMP_WORKSPACE_SIZE 8 = TMP_WORKSPACE_SIZE := by decide

/-- the six tables of the optimal parser are reserved in another order than `optSpace` adds them up -/
theorem need_optReqs :
    need [Req.aligned (2 ^ Litbits * 4) false, Req.aligned ((MaxLL + 1) * 4) false, Req.aligned ((MaxML + 1) * 4) false,
      Req.aligned ((MaxOff + 1) * 4) false, Req.aligned (ZSTD_OPT_SIZE * sizeof_ZSTD_match_t) false,
      Req.aligned (ZSTD_OPT_SIZE * sizeof_ZSTD_optimal_t) false] = optSpace := by
  simp only [need_cons, need_nil, Req.bytes, optSpace, a64]
  omega

/-- the shared sizing routine is exact: what it returns is the sum of the rounded sizes of everything ZSTD_resetCCtx_internal
reserves plus the alignment slack, provided the LDM hash table, which the estimate leaves unrounded, is a whole number of 64-byte
lines -/
theorem estimate_exact (p : RP) (hldm : p.ldm = true → 3 ≤ p.ldmHashLog) :
    need (reserveSeq p) + cwksp_slack = estimate p := by
  obtain ⟨hc, hb, ht⟩ := object_sizes_rounded
  -- both sides as sums over the same optional blocks: the need of each block first, of each request second
  simp only [reserveSeq, objectReqs, sessionReqs, need_append, need_ite, need_optReqs]
  simp only [need_cons, need_nil, Req.bytes, Nat.add_zero, hc, hb, ht, estimate, sizeofMatchState, a64]
  -- the long-distance blocks are cut differently on the two sides
  cases hm : p.ldm
  · simp only [Bool.false_eq_true, if_false]
    omega
  · simp only [if_true, ldmHSize, sizeof_ldmEntry, ldm_table_aligned _ (hldm hm)]
    omega

/-- for ANY resolved parameters (every window / hash / chain log, strategy, row finder, LDM,
external sequences, block size, buffers, pledged size), the rounded sizes of everything ZSTD_resetCCtx_internal reserves,
plus the alignment slack, are within what the shared sizing routine returns.  Needs ldm hashLog ≥ 3 (the setter's minimum is 6):
the estimate sizes the LDM hash table unrounded. -/
theorem estimate_covers_reset (p : RP) (hldm : p.ldm = true → 3 ≤ p.ldmHashLog) :
    need (reserveSeq p) + cwksp_slack ≤ estimate p :=
  Nat.le_of_eq (estimate_exact p hldm)

theorem reserveSeq_objectsFirst (p : RP) : objectsFirst (reserveSeq p) = true := by
  apply objectsFirst_append
  · unfold objectReqs; split <;> rfl
  · simp only [sessionReqs, List.all_append, all_ite_nil, List.all_cons, List.all_nil, isObject, Bool.not_false, Bool.and_self, Bool.or_true]

/-- a workspace of at least the estimated size, at any address, serves the whole reservation sequence:
no reservation fails, none returns NULL for a non-empty request (so the 'static cctx: no resize' branch is never needed). -/
theorem static_never_fails (p : RP) (lo size : Nat) (hldm : p.ldm = true → 3 ≤ p.ldmHashLog) (hsz : estimate p ≤ size) :
    Clean (run (init lo size) (reserveSeq p)) := by
  have h := estimate_covers_reset p hldm
  have : cwksp_slack = 128 := rfl
  exact init_run_clean lo size _ (reserveSeq_objectsFirst p) (by omega)

/-- ZSTD_estimateCCtxSize(L) budgets enough for every job whose resolved parameters are dominated by one of the rows
the estimate looks at - level l with 1 ≤ l ≤ L (a level beyond ZSTD_maxCLevel() uses the row of the maximum, and the estimate stops
looking there: `estLevel` folds over the levels 1..min(L, maxCLevel)), any of the four source-size tiers, either row-finder setting, any smaller window /
hash / chain log and any pledged size (which is what ZSTD_adjustCParams produces for a smaller source: checked at run time on the
applied parameters of every static-context run). -/
theorem level_covers (L l t : Nat) (h1 : 1 ≤ l) (h2 : l ≤ L) (ht : t < 4) (p : RP)
    (hle : Le p (rpOfCParams (rowAt t (min l Estimate.maxCLevel)) p.useRow false)) : estimate p ≤ estLevel L :=
  Nat.le_trans (estimate_mono p _ hle)
    (Nat.le_trans (estimate_le_usingCParams (rowAt t (min l Estimate.maxCLevel)) p.useRow false)
      (Nat.le_trans (estLevelInternal_ge t (min l Estimate.maxCLevel) ht) (estLevel_ge L l h1 h2)))

/-- the estimate saturates: every level from ZSTD_maxCLevel() up (INT_MAX included) gets the budget of the maximum -/
theorem level_estimate_saturates (L : Nat) (h : Estimate.maxCLevel ≤ L) :
    estLevel L = estLevel Estimate.maxCLevel ∧ estStreamLevel L = estStreamLevel Estimate.maxCLevel := by
  unfold estLevel estStreamLevel
  rw [Nat.min_eq_right h, Nat.min_self]
  exact ⟨rfl, rfl⟩

/-- with `static_never_fails`: a static context of ZSTD_estimateCCtxSize(L) bytes never fails a reservation for such a job -/
theorem level_static_never_fails (L l t : Nat) (h1 : 1 ≤ l) (h2 : l ≤ L) (ht : t < 4) (p : RP)
    (hle : Le p (rpOfCParams (rowAt t (min l Estimate.maxCLevel)) p.useRow false)) (lo size : Nat) (hsz : estLevel L ≤ size) :
    Clean (run (init lo size) (reserveSeq p)) :=
  static_never_fails p lo size hle.ldmHashLog (Nat.le_trans (level_covers L l t h1 h2 ht p hle) hsz)

example : Le (rpOfCParams (rowAt 1 5) true false) (rpOfCParams (rowAt 1 5) true false) :=
  ⟨Nat.le_refl _, Nat.le_refl _, Nat.le_refl _, Nat.le_refl _, rfl, rfl, rfl, by decide, rfl, Nat.le_refl _, rfl, Nat.le_refl _, Nat.le_refl _⟩

/-- ZSTD_estimateCCtxSize_usingCParams(c) / ZSTD_estimateCStreamSize_usingCParams(c) budget enough for every job
whose resolved parameters are dominated by c under EITHER setting of the row match finder - whichever the library resolves after
ZSTD_adjustCParams shrank the logs to the source size (the resolution is made on the SHRUNK window log, so it can differ from what c
alone would select), or whichever the caller selected with ZSTD_c_useRowMatchFinder.  The domination hypothesis is evaluated
(`Estimate.leB`, `leB_sound`) on the applied parameters of every static-context run sized by these estimates. -/
theorem usingCParams_covers (c : CPar) (stream : Bool) (p : RP) (hle : Le p (rpOfCParams c p.useRow stream)) :
    estimate p ≤ estimateUsingCParams c stream :=
  Nat.le_trans (estimate_mono p _ hle) (estimate_le_usingCParams c p.useRow stream)

/-- with `static_never_fails`: a static context of ZSTD_estimate*_usingCParams(c) bytes never fails a reservation for such a job -/
theorem usingCParams_static_never_fails (c : CPar) (stream : Bool) (p : RP) (hle : Le p (rpOfCParams c p.useRow stream))
    (lo size : Nat) (hsz : estimateUsingCParams c stream ≤ size) : Clean (run (init lo size) (reserveSeq p)) :=
  static_never_fails p lo size hle.ldmHashLog (Nat.le_trans (usingCParams_covers c stream p hle) hsz)

/-- the budget of chain-table-heavy lazy parameters covers the hash-chain finder a 16 KB source falls back to, and the row finder alike -/
example : leB { rpOfCParams ⟨15, 15, 8, 4, 4, 0, 5⟩ false false with windowLog := 14, chainLog := 14, pledged := 16000 } (rpOfCParams ⟨15, 15, 8, 4, 4, 0, 5⟩ false false) = true := by decide

/-- ZSTD_estimateCCtxSize_usingCCtxParams / ZSTD_estimateCStreamSize_usingCCtxParams on a parameter set with
cParams c and row-finder mode `mode` budget enough for every job whose resolved parameters are dominated by c and whose match-finder
flavour is one the budget is made for (`flavourCovered`): the flavour the caller selected; with the mode left automatic, EITHER
flavour for the one-shot estimate (the compressor resolves the automatic mode after ZSTD_adjustCParams shrank the window to the
source, which can cross the row finder's threshold), the flavour of the unadjusted parameters for the streaming estimate.
Both hypotheses are evaluated on the applied parameters of every static-context run sized by these estimates. -/
theorem usingCCtxParams_covers (c : CPar) (mode : RowMode) (stream : Bool) (p : RP) (hf : flavourCovered c mode stream p.useRow = true)
    (hle : Le p (rpOfCCtxParams c mode p.useRow stream)) : estimate p ≤ estimateUsingCCtxParams c mode stream :=
  Nat.le_trans (estimate_mono p _ hle) (estimate_le_usingCCtxParams c mode stream p.useRow hf)

/-- one-shot, mode left automatic, strategy with a row finder: whatever flavour the compressor ends up with is covered -/
theorem usingCCtxParams_auto_covers (c : CPar) (p : RP) (hs : rowSupported c.strategy = true)
    (hle : Le p (rpOfCCtxParams c RowMode.auto p.useRow false)) : estimate p ≤ estimateUsingCCtxParams c RowMode.auto false :=
  usingCCtxParams_covers c RowMode.auto false p (by simp [flavourCovered, hs]) hle

/-- with `static_never_fails`: a static context of that size never fails a reservation for such a job -/
theorem usingCCtxParams_static_never_fails (c : CPar) (mode : RowMode) (stream : Bool) (p : RP) (hf : flavourCovered c mode stream p.useRow = true)
    (hle : Le p (rpOfCCtxParams c mode p.useRow stream)) (lo size : Nat) (hsz : estimateUsingCCtxParams c mode stream ≤ size) :
    Clean (run (init lo size) (reserveSeq p)) :=
  static_never_fails p lo size hle.ldmHashLog (Nat.le_trans (usingCCtxParams_covers c mode stream p hf hle) hsz)

/-- windowLog 15, lazy2, chain table much larger than the hash table, mode automatic: the one-shot budget is the hash-chain one (the
flavour a 16 KB source falls back to), not the row-finder one the unadjusted parameters select -/
example : estimateUsingCCtxParams ⟨15, 15, 8, 4, 4, 0, 5⟩ RowMode.auto false = estimate (rpOfCCtxParams ⟨15, 15, 8, 4, 4, 0, 5⟩ RowMode.auto false false) ∧
          estimate (rpOfCCtxParams ⟨15, 15, 8, 4, 4, 0, 5⟩ RowMode.auto true false) < estimateUsingCCtxParams ⟨15, 15, 8, 4, 4, 0, 5⟩ RowMode.auto false := by decide

/-- ZSTD_estimate*_usingCParams likewise covers jobs in which long-distance matching came on by itself (ZSTD_makeCCtxParamsFromCParams resolves it) -/
theorem usingCParams_covers_ldm (c : CPar) (stream : Bool) (p : RP) (hle : LeL p (rpOfCParams c p.useRow stream)) :
    estimate p ≤ estimateUsingCParams c stream :=
  Nat.le_trans (estimate_mono_ldm p _ hle) (estimate_le_usingCParams c p.useRow stream)

/-- the same for jobs in which the library switched long-distance matching on by itself (strategy ≥ btopt,
window log ≥ 27 after adjustment to the source): the estimates resolve the automatic switch on the parameter set's cParams and budget the
long-distance tables (/repo 3f7e135; sizing them only when the switch is set explicitly makes a static CStream of exactly the
estimated size fail on its first call) -/
theorem usingCCtxParams_covers_ldm (c : CPar) (mode : RowMode) (stream : Bool) (p : RP) (hf : flavourCovered c mode stream p.useRow = true)
    (hle : LeL p (rpOfCCtxParams c mode p.useRow stream)) : estimate p ≤ estimateUsingCCtxParams c mode stream :=
  Nat.le_trans (estimate_mono_ldm p _ hle) (estimate_le_usingCCtxParams c mode stream p.useRow hf)

/-- the long-distance table the estimates size has at least 2^ZSTD_HASHLOG_MIN entries -/
theorem rpOfCCtxParams_ldmHashLog (c : CPar) (mode : RowMode) (u stream : Bool) (h : (rpOfCCtxParams c mode u stream).ldm = true) :
    3 ≤ (rpOfCCtxParams c mode u stream).ldmHashLog := by
  unfold rpOfCCtxParams rpOfCParams at h ⊢
  simp only at h ⊢
  rw [h]
  simp only [if_true]
  have : ZSTD_HASHLOG_MIN = 6 := rfl
  omega

/-- with `static_never_fails`: a static context of the estimated size never fails a reservation for a job with automatic long-distance matching
(ZSTD_ldm_adjustParameters never leaves a hash log below ZSTD_HASHLOG_MIN = 6) -/
theorem usingCCtxParams_ldm_static_never_fails (c : CPar) (mode : RowMode) (stream : Bool) (p : RP) (hf : flavourCovered c mode stream p.useRow = true)
    (hle : LeL p (rpOfCCtxParams c mode p.useRow stream)) (hl3 : p.ldm = true → 3 ≤ p.ldmHashLog) (lo size : Nat)
    (hsz : estimateUsingCCtxParams c mode stream ≤ size) : Clean (run (init lo size) (reserveSeq p)) :=
  static_never_fails p lo size hl3 (Nat.le_trans (usingCCtxParams_covers_ldm c mode stream p hf hle) hsz)

/-- windowLog 27, btopt, nothing said about long-distance matching: the streaming budget contains the 2^20-entry long-distance table -/
example : (rpOfCCtxParams ⟨27, 6, 6, 1, 4, 0, 7⟩ RowMode.auto false true).ldm = true ∧ (rpOfCCtxParams ⟨27, 6, 6, 1, 4, 0, 7⟩ RowMode.auto false true).ldmHashLog = 20 ∧
          (rpOfCCtxParams ⟨26, 6, 6, 1, 4, 0, 7⟩ RowMode.auto false true).ldm = false ∧ (rpOfCCtxParams ⟨27, 6, 6, 1, 4, 0, 6⟩ RowMode.auto false true).ldm = false := by decide

/-! ### streaming decoder -/

/-- a known content size can only shrink the output buffer -/
theorem fcs_shrinks (w : Nat) (n b : Nat) : decodingBufferSize w (some n) b ≤ decodingBufferSize w none b :=
  Nat.min_le_right _ _

theorem decodingBufferSize_mono {w w' b b' : Nat} (hw : w ≤ w') (hb : b ≤ b') :
    decodingBufferSize w none b ≤ decodingBufferSize w' none b' :=
  Nat.add_le_add_right (Nat.add_le_add hw (Nat.mul_le_mul_right 2 (by omega))) _

/-- the estimate is monotone in the window limit: a larger limit never budgets less -/
theorem estimate_monotone (a b : Nat) (h : a ≤ b) : estimateBuffers a ≤ estimateBuffers b :=
  Nat.add_le_add (by omega) (decodingBufferSize_mono h (Nat.le_refl _))

/-- for every frame whose (clamped) window is within the limit W (W ≥ 1 KiB), whatever its content size
field and block-size limit (≤ min(window, 128 KiB) as ZSTD_getFrameHeader computes it), the buffers the decoder allocates fit in
ZSTD_estimateDStreamSize(W) − sizeof(DCtx): a static DStream sized by the estimate never needs more, a heap one never holds more. -/
theorem dstream_buffers_le (hw W : Nat) (fcs : Option Nat) (b : Nat)
    (hacc : windowAccepted hw W = true) (hb : b ≤ min hw ZSTD_BLOCKSIZE_MAX) :
    neededBuffers hw fcs b ≤ estimateBuffers W := by
  -- within the estimate for the frame's own window, which is within the estimate for the limit
  refine Nat.le_trans (Nat.add_le_add ?_ ?_) (estimate_monotone _ _ (of_decide_eq_true hacc))
  · unfold effectiveWindow ZSTD_WINDOWLOG_ABSOLUTEMIN ZSTD_BLOCKSIZE_MAX at *
    omega
  · refine Nat.le_trans ?_ (decodingBufferSize_mono (Nat.le_refl _) (Nat.le_trans hb (Nat.min_le_right _ _)))
    cases fcs
    · exact Nat.le_refl _
    · exact fcs_shrinks _ _ _

/-- a frame whose window exceeds the limit is refused, before any buffer is sized; windows below
1 KiB are treated as 1 KiB -/
theorem dstream_window_refused (hw W : Nat) : windowAccepted hw W = false ↔ W < max hw (2 ^ ZSTD_WINDOWLOG_ABSOLUTEMIN) := by
  unfold windowAccepted effectiveWindow
  simp [Nat.not_le]

/-- whatever the stage decides (single pass, buffered, refused), the internal buffers it holds are within
the documented function of the limit -/
theorem never_holds_more (hw W : Nat) (fcs : Option Nat) (b out : Nat) (whole : Bool) (hb : b ≤ min hw ZSTD_BLOCKSIZE_MAX) :
    held (loadHeader hw fcs b W out whole) ≤ estimateBuffers W := by
  unfold loadHeader
  split
  · exact Nat.zero_le _
  · split
    · rename_i h
      exact dstream_buffers_le hw W fcs b h hb
    · exact Nat.zero_le _

/-- a frame is refused exactly when it cannot be decoded without internal buffers and its (clamped) window
exceeds the limit -/
theorem refused_iff (hw W : Nat) (fcs : Option Nat) (b out : Nat) (whole : Bool) :
    loadHeader hw fcs b W out whole = .refused ↔ (singlePassOk fcs out whole = false ∧ W < max hw (2 ^ ZSTD_WINDOWLOG_ABSOLUTEMIN)) := by
  unfold loadHeader
  rw [← dstream_window_refused]
  cases singlePassOk fcs out whole <;> cases windowAccepted hw W <;> simp

/-- every limit a caller can configure is at most 2^ZSTD_WINDOWLOG_MAX (ZSTD_d_windowLogMax,
ZSTD_DCtx_setMaxWindowSize); a frame announcing a window of 2^32 bytes or more - only a single-segment frame can, through its 8-byte
content-size field - is refused under every such limit, whatever its low 32 bits, unless the single-pass shortcut applies -/
theorem huge_window_refused (hw W : Nat) (fcs : Option Nat) (b out : Nat) (whole : Bool) (hW : W ≤ 2 ^ ZSTD_WINDOWLOG_MAX) (hh : 2 ^ 32 ≤ hw)
    (hs : singlePassOk fcs out whole = false) : loadHeader hw fcs b W out whole = .refused := by
  apply (refused_iff hw W fcs b out whole).mpr
  refine ⟨hs, ?_⟩
  have h31 : (2 : Nat) ^ ZSTD_WINDOWLOG_MAX < 2 ^ 32 := by decide
  have : hw ≤ max hw (2 ^ ZSTD_WINDOWLOG_ABSOLUTEMIN) := Nat.le_max_left _ _
  omega

/-- the verdict depends on the whole window value, not on its low 32 bits -/
example : loadHeader (2 ^ 32 + 512) (some (2 ^ 32 + 512)) 131072 1500 4194304 false = .refused ∧
          loadHeader 512 (some 512) 512 1500 100 false = .buffered 512 512 ∧
          loadHeader (3 * 2 ^ 32 + 1000000) (some (3 * 2 ^ 32 + 1000000)) 131072 1048576 4194304 true = .refused := by decide

/-- whatever buffers the context kept from earlier frames, after the sizing step EACH of them is at least as
large as the frame about to be decoded needs - a later frame can never meet an input buffer smaller than its largest block -/
theorem bufs_sufficient (cur : Bufs) (a b : Nat) : a ≤ (nextBufs cur a b).inSize ∧ b ≤ (nextBufs cur a b).outSize := by
  unfold nextBufs
  split
  · exact ⟨Nat.le_refl _, Nat.le_refl _⟩
  · rename_i h
    omega

example : estimateBuffers (1 <<< 17) = 131072 + (131072 + 262144 + 64) := by decide
example : windowAccepted 1048576 32768 = false ∧ windowAccepted 5 1024 = true := by decide
example : loadHeader 1048576 (some 300) 131072 1024 1000 true = .singlePass ∧ loadHeader 1048576 (some 300) 131072 1024 1000 false = .refused := by decide

end ZstdVerif.Props.C14
