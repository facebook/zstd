/-
C15 — correctness does not wear out.  First part: the index rebasing (Model/Window) keeps what the match finders rely on, for every
32-bit index state it can be invoked on.  Second part (section Wear, Model/Wear): what a long-lived compression context or
streaming decoder decides about its own memory at a frame depends on that frame and the fixed sizes, not on the history.
-/
import ZstdVerif.Model.Window
import ZstdVerif.Model.Wear
namespace ZstdVerif.Props.C15
open ZstdVerif ZstdVerif.Window ZstdVerif.Gen

theorem pow_dvd_max (a b : Nat) : 2 ^ a ∣ max (2 ^ b) (2 ^ a) := by
  rcases Nat.le_total a b with h | h
  · rw [Nat.max_eq_left (Nat.pow_le_pow_right (by decide) h)]; exact Nat.pow_dvd_pow 2 h
  · rw [Nat.max_eq_right (Nat.pow_le_pow_right (by decide) h)]; exact Nat.dvd_refl _

/-- **the low cycleLog bits survive the correction** (chains / binary trees are indexed by them): the new current index is
congruent to the old one modulo the cycle size, for every window log and cycle log -/
theorem correct_low_bits (w : Win) (cycleLog wlog curr : Nat) :
    (correctOverflow w cycleLog (2 ^ wlog) curr).2.1 % 2 ^ cycleLog = curr % 2 ^ cycleLog := by
  -- both terms added to `curr % cycleSize` are multiples of the cycle size
  have h1 : 2 ^ cycleLog ∣ (if curr % 2 ^ cycleLog < ZSTD_WINDOW_START_INDEX then max (2 ^ cycleLog) ZSTD_WINDOW_START_INDEX else 0) := by
    split
    · rcases Nat.eq_zero_or_pos cycleLog with h | h
      · rw [h]; exact Nat.one_dvd _
      · have h2 : ZSTD_WINDOW_START_INDEX ≤ 2 ^ cycleLog := Nat.pow_le_pow_right (n := 2) (by decide) h
        rw [Nat.max_eq_left h2]; exact Nat.dvd_refl _
    · exact Nat.dvd_zero _
  obtain ⟨k, hk⟩ := Nat.dvd_add h1 (pow_dvd_max cycleLog wlog)
  show (curr % 2 ^ cycleLog + _ + _) % 2 ^ cycleLog = _
  rw [Nat.add_assoc, hk, Nat.add_mul_mod_self_left, Nat.mod_mod]

/-- **the whole window stays addressable**: after the correction the current index is at least maxDist + START_INDEX, so every
position up to maxDist back still has a valid (≥ START_INDEX) index -/
theorem correct_window_kept (w : Win) (cycleLog maxDist curr : Nat) :
    maxDist + ZSTD_WINDOW_START_INDEX ≤ (correctOverflow w cycleLog maxDist curr).2.1 := by
  unfold correctOverflow newCurrentOf
  simp only
  split <;> omega

/-- U32 subtraction as the C code writes it does not wrap when the result is not negative -/
theorem sub_u32 {a b : Nat} (hb : b ≤ a) (ha : a < U32) : (a + U32 - b) % U32 = a - b := by
  rw [show a + U32 - b = (a - b) + U32 by omega, Nat.add_mod_right]
  exact Nat.mod_eq_of_lt (by omega)

theorem limitUpdate_bounds (lim corr curr nc : Nat) (hc : corr = curr - nc) (hnc : nc ≤ curr) (hl : lim ≤ curr) (hcur : curr < U32)
    (h2 : ZSTD_WINDOW_START_INDEX ≤ nc) : ZSTD_WINDOW_START_INDEX ≤ limitUpdate lim corr ∧ limitUpdate lim corr ≤ nc := by
  unfold limitUpdate
  have h1 : (corr + ZSTD_WINDOW_START_INDEX) % U32 = corr + ZSTD_WINDOW_START_INDEX := Nat.mod_eq_of_lt (by omega)
  rw [h1]
  split
  · omega
  · rw [sub_u32 (by omega) (by omega)]
    omega

/-- the corrected limits never exceed the new current index when they did not exceed the old one, and they never fall
below START_INDEX (stale table entries are compared against them) -/
theorem correct_limits (w : Win) (cycleLog maxDist curr : Nat) (hcur : curr < U32)
    (hpre : (correctOverflow w cycleLog maxDist curr).2.1 ≤ curr) (hl : w.lowLimit ≤ curr) (hd : w.dictLimit ≤ curr) :
    let r := correctOverflow w cycleLog maxDist curr
    ZSTD_WINDOW_START_INDEX ≤ r.2.2.lowLimit ∧ r.2.2.lowLimit ≤ r.2.1 ∧ ZSTD_WINDOW_START_INDEX ≤ r.2.2.dictLimit ∧ r.2.2.dictLimit ≤ r.2.1 := by
  have hk := correct_window_kept w cycleLog maxDist curr
  unfold correctOverflow at hpre hk ⊢
  simp only at hpre hk ⊢
  have hc : correctionOf cycleLog maxDist curr = curr - newCurrentOf cycleLog maxDist curr := sub_u32 hpre hcur
  have h2 : ZSTD_WINDOW_START_INDEX ≤ newCurrentOf cycleLog maxDist curr := by omega
  have a := limitUpdate_bounds w.lowLimit _ curr _ hc hpre hl hcur h2
  have b := limitUpdate_bounds w.dictLimit _ curr _ hc hpre hd hcur h2
  exact ⟨a.1, a.2, b.1, b.2⟩

/-- **distances are preserved by the table reduction**: an entry that is recent enough to survive keeps its distance to the
current position; an entry older than correction + START_INDEX becomes 0, i.e. falls below every valid lowLimit -/
theorem reduce_preserves_distance (reducer v curr newCurr : Nat) (hr : reducer + ZSTD_WINDOW_START_INDEX < U32)
    (hc : newCurr = curr - reducer) (hrc : reducer ≤ curr) (hv : reducer + ZSTD_WINDOW_START_INDEX ≤ v) (hvc : v ≤ curr)
    (hm : v ≠ ZSTD_DUBT_UNSORTED_MARK) (pm : Bool) :
    newCurr - reduceCell pm reducer v = curr - v ∧ ZSTD_WINDOW_START_INDEX ≤ reduceCell pm reducer v := by
  have hcell : reduceCell pm reducer v = v - reducer := by
    unfold reduceCell
    rw [Nat.mod_eq_of_lt hr, if_neg (by simp [hm]), if_neg (Nat.not_lt.mpr hv)]
  rw [hcell, hc]
  clear hr hm hcell hc
  omega

theorem reduce_kills_stale (reducer v : Nat) (hr : reducer + ZSTD_WINDOW_START_INDEX < U32)
    (hv : v < reducer + ZSTD_WINDOW_START_INDEX) : reduceCell false reducer v = 0 := by
  unfold reduceCell
  rw [Nat.mod_eq_of_lt hr]
  simp [hv]

/-- btlazy2's "unsorted" marker survives the reduction -/
theorem reduce_keeps_mark (reducer : Nat) : reduceCell true reducer ZSTD_DUBT_UNSORTED_MARK = ZSTD_DUBT_UNSORTED_MARK := by
  unfold reduceCell; simp

/-- with the standard trigger (index beyond ZSTD_CURRENT_MAX) a correction is always a real decrease for every window
log ≤ 31 and cycle log ≤ 30: the precondition `curr > newCurrent` asserted by the code follows from the call condition -/
theorem correct_pre_sound (w : Win) (cycleLog wlog curr : Nat) (hc : cycleLog ≤ 30) (hw : wlog ≤ 31) (hcur : ZSTD_CURRENT_MAX < curr) :
    (correctOverflow w cycleLog (2 ^ wlog) curr).2.1 < curr := by
  unfold correctOverflow newCurrentOf
  simp only
  have hpos : 0 < 2 ^ cycleLog := Nat.two_pow_pos _
  have hmod : curr % 2 ^ cycleLog < 2 ^ cycleLog := Nat.mod_lt _ hpos
  have hcs : 2 ^ cycleLog ≤ 2 ^ 30 := Nat.pow_le_pow_right (by decide) hc
  have hws : 2 ^ wlog ≤ 2 ^ 31 := Nat.pow_le_pow_right (by decide) hw
  unfold ZSTD_CURRENT_MAX at hcur
  unfold ZSTD_WINDOW_START_INDEX
  generalize curr % 2 ^ cycleLog = cc at *
  generalize 2 ^ cycleLog = cs at *
  generalize 2 ^ wlog = ws at *
  have e30 : (2 : Nat) ^ 30 = 1073741824 := by decide
  have e31 : (2 : Nat) ^ 31 = 2147483648 := by decide
  rw [e30] at hcs; rw [e31] at hws
  split <;> omega

example : (correctOverflow ⟨3758096390, 3758096390, 0⟩ 17 (2 ^ 20) 3758096500).1 = 3757047808 := by decide

/-! ### a long-lived context does not wear out: what it decides about its own memory at frame k depends on the job, not on k -/
section Wear
open ZstdVerif.Wear

/-- one reset of a static compression context whose counter is not beyond the limit: served iff the size holds the job, and the
counter does not move (a static context never counts, it could not act on the count) -/
theorem static_cctx_reset (size avail dur needed : Nat) (hd : dur ≤ ZSTD_WORKSPACETOOLARGE_MAXDURATION) :
    cReset true ⟨size, avail, dur⟩ needed = if needed ≤ size then .keep dur else .memory := by
  unfold cReset wasteful
  have hw : decide (dur > ZSTD_WORKSPACETOOLARGE_MAXDURATION) = false := decide_eq_false (Nat.not_lt.mpr hd)
  simp only [hw, Bool.and_false, Bool.or_false, if_true, decide_eq_true_eq]
  by_cases h : needed ≤ size
  · rw [if_pos h, if_neg (Nat.not_lt.mpr h)]
  · rw [if_neg h, if_pos (Nat.lt_of_not_le h)]

/-- **a static compression context never wears out**: over any history of frames (any number, any sizes, whatever each frame
leaves free) the outcome of every frame is a function of that frame's own need and of the fixed size only -/
theorem static_cctx_never_wears (size : Nat) (l : List (Nat × Nat)) :
    cRun true size 0 l = l.map (fun x => if x.1 ≤ size then COutcome.keep 0 else COutcome.memory) := by
  induction l with
  | nil => rfl
  | cons x rest ih =>
    obtain ⟨needed, avail⟩ := x
    have h := static_cctx_reset size avail 0 needed (Nat.zero_le _)
    unfold cRun
    simp only [h, List.map_cons]
    by_cases hn : needed ≤ size
    · simp only [hn, if_true]; rw [ih]
    · simp only [hn, if_false]; rw [ih]

/-- a heap compression context never answers "memory" by policy (only a failing allocator can make it fail) and whatever it
decides, the workspace it compresses with holds the job -/
theorem heap_cctx_reset_fits (w : CWs) (needed : Nat) :
    (∃ d, cReset false w needed = .keep d ∧ needed ≤ w.size) ∨ cReset false w needed = .resize needed := by
  unfold cReset
  simp only [Bool.false_eq_true, if_false]
  split
  · exact Or.inr rfl
  · rename_i h
    refine Or.inl ⟨_, rfl, ?_⟩
    simp only [Bool.or_eq_true, decide_eq_true_eq, not_or] at h
    omega

theorem heap_cctx_never_refuses (size dur : Nat) (l : List (Nat × Nat)) : COutcome.memory ∉ cRun false size dur l := by
  induction l generalizing size dur with
  | nil => simp [cRun]
  | cons x rest ih =>
    obtain ⟨needed, avail⟩ := x
    rcases heap_cctx_reset_fits ⟨size, avail, dur⟩ needed with ⟨d, hk, _⟩ | hr
    · unfold cRun; simp only [hk]; simp [ih]
    · unfold cRun; simp only [hr]; simp [ih]

/-- **a static streaming decoder never wears out**: whatever its history (any buffer sizes, any counter value) a frame whose two
buffers fit in the room behind the context structure is never refused -/
theorem static_dstream_never_refuses (room needIn needOut : Nat) (b : DBufs) (h : needIn + needOut ≤ room) :
    ∀ b2, dReset (some room) b needIn needOut ≠ .memory b2 := by
  intro b2
  unfold dReset
  simp only
  split
  · rw [if_neg (Nat.not_lt.mpr h)]
    exact fun hn => nomatch hn
  · exact fun hn => nomatch hn

/-- a refusal by a static streaming decoder is a statement about sizes only -/
theorem static_dstream_refusal_is_size (room needIn needOut : Nat) (b b2 : DBufs)
    (h : dReset (some room) b needIn needOut = .memory b2) : room < needIn + needOut :=
  Nat.lt_of_not_le fun hn => static_dstream_never_refuses room needIn needOut b hn b2 h

/-- whenever the decoder goes on with a frame, its buffers hold what the frame needs -/
theorem dstream_buffers_suffice (room : Option Nat) (b : DBufs) (needIn needOut : Nat) :
    (∃ b2, dReset room b needIn needOut = .memory b2) ∨
    (needIn ≤ (dReset room b needIn needOut).bufs.inSize ∧ needOut ≤ (dReset room b needIn needOut).bufs.outSize) := by
  unfold dReset
  simp only
  split
  · cases room with
    | none => exact Or.inr ⟨Nat.le_refl _, Nat.le_refl _⟩
    | some r =>
      simp only
      split
      · exact Or.inl ⟨_, rfl⟩
      · exact Or.inr ⟨Nat.le_refl _, Nat.le_refl _⟩
  · rename_i hns
    simp only [Bool.or_eq_true, decide_eq_true_eq, not_or, Nat.not_lt] at hns
    exact Or.inr hns.1

/-- over any history of frames that each fit, a static streaming decoder refuses none -/
theorem static_dstream_never_wears (room : Nat) (l : List (Nat × Nat)) (hfit : ∀ x ∈ l, x.1 + x.2 ≤ room) :
    ∀ (b : DBufs), ∀ o ∈ dRun (some room) b l, ∀ b2, o ≠ .memory b2 := by
  induction l with
  | nil => intro b o ho; simp [dRun] at ho
  | cons x rest ih =>
    intro b o ho b2
    obtain ⟨needIn, needOut⟩ := x
    unfold dRun at ho
    simp only [List.mem_cons] at ho
    rcases ho with rfl | ho
    · exact static_dstream_never_refuses room needIn needOut b (hfit (needIn, needOut) (by simp)) b2
    · exact ih (fun y hy => hfit y (by simp [hy])) _ o ho b2

example : cReset true ⟨13100040, 13073144, 0⟩ 26121 = .keep 0 := by decide
example : cReset false ⟨10997624, 10975992, 129⟩ 20857 = .resize 20857 := by decide
example : cReset false ⟨10997624, 10975992, 127⟩ 20857 = .keep 128 := by decide

end Wear

end ZstdVerif.Props.C15
