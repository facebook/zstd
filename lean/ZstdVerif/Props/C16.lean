/-
C16 — Parameter interface contract: bounds, stickiness, reset and stage rules of the single-parameter setters, the all-or-nothing
struct-level setters, contexts in caller-provided memory, and the derivation of compression parameters from a raw level.
The setter theorems quantify over EVERY parameter row regenerated from the source (`Gen.cparams ++ Gen.dparams`) and over EVERY
integer value `v` (no grid); they rest on `all_rows_wf`, decided over the generated table.  The raw-level theorems are the
`InBounds` lemmas of Lemmas/LevelParamsValid read through `LevelParams.check_iff`.
-/
import ZstdVerif.Model.Params
import ZstdVerif.Model.LevelParams
import ZstdVerif.Lemmas.LevelParamsValid

namespace ZstdVerif.Props.C16
open ZstdVerif ZstdVerif.Gen ZstdVerif.Params

/-- Every generated row is well formed: its setter tests against its OWN advertised bounds and the
constants its class uses lie inside those bounds.  (Fails e.g. when a setter clamps with another
parameter's bounds.)  Finite table ⇒ `decide` is exhaustive. -/
theorem all_rows_wf : (cparams ++ dparams).all PInfo.wf = true := by decide

theorem wf_of_mem {p : PInfo} (h : p ∈ cparams ++ dparams) : p.wf = true :=
  List.all_eq_true.mp all_rows_wf p h

theorem clampC_id {lo hi v : Int} (h1 : lo ≤ v) (h2 : v ≤ hi) : clampC lo hi v = v := by
  unfold clampC; simp only; split <;> split <;> omega

theorem clampC_mem {lo hi : Int} (v : Int) (h : lo ≤ hi) : lo ≤ clampC lo hi v ∧ clampC lo hi v ≤ hi := by
  unfold clampC; simp only; split <;> split <;> omega

/-- values inside the advertised bounds are accepted and read back as the documented normalised value -/
theorem set_in_bounds {p : PInfo} (hp : p ∈ cparams ++ dparams) (v : Int) (hlo : p.lo ≤ v) (hhi : v ≤ p.hi) :
    setVal p v = some (normalise p v) := by
  have hw := wf_of_mem hp
  simp only [PInfo.wf, Bool.and_eq_true, decide_eq_true_eq] at hw
  obtain ⟨⟨⟨⟨_, hu⟩, hU⟩, _⟩, hcls⟩ := hw
  unfold setVal normalise
  rw [hu, hU]
  -- class by class; `hcls` says that the constants of the class lie inside the bounds
  cases hc : p.cls <;> simp only [hc, Bool.and_eq_true, decide_eq_true_eq] at hcls ⊢
  case check => rw [if_pos ⟨hlo, hhi⟩]
  case checkUnless0 =>
    split
    · rename_i h0; rw [h0]
    · rw [if_pos ⟨hlo, hhi⟩]
  case clamp => rw [clampC_id hlo hhi]
  case level => rw [clampC_id hlo hhi]
  case jobSize => rw [clampC_id (by split <;> omega) (by split <;> omega)]
  case raiseMinUnless0 =>
    split
    · rename_i h0; simp [h0]
    · rename_i h0
      simp only [h0, ne_eq, not_false_eq_true, true_and]
      rw [if_pos (by split <;> omega)]
  case zeroDefaultCheck => rw [if_pos (by split <;> omega)]
  case unknown => cases hcls

/-- what a setter may answer for `v`: refusal, a value inside the advertised bounds, or the 0 that stands for "use default" -/
def Answer (p : PInfo) (v : Int) (r : Option Int) : Prop :=
  r = none ∨ (∃ w, r = some w ∧ ((p.lo ≤ w ∧ w ≤ p.hi) ∨ (zeroMeansDefault p = true ∧ v = 0 ∧ w = 0)))

theorem Answer.inside {p : PInfo} {v w : Int} (h : p.lo ≤ w ∧ w ≤ p.hi) : Answer p v (some w) := Or.inr ⟨w, rfl, Or.inl h⟩

theorem Answer.zero {p : PInfo} (hz : zeroMeansDefault p = true) : Answer p 0 (some 0) := Or.inr ⟨0, rfl, Or.inr ⟨hz, rfl, rfl⟩⟩

theorem Answer.guarded {p : PInfo} {v : Int} (w : Int) : Answer p v (if p.lo ≤ w ∧ w ≤ p.hi then some w else none) := by
  split
  · exact .inside ‹_›
  · exact Or.inl rfl

/-- every setter answers every value, in or out of the bounds, in one of these ways -/
theorem setVal_answer {p : PInfo} (hp : p ∈ cparams ++ dparams) (v : Int) : Answer p v (setVal p v) := by
  have hw := wf_of_mem hp
  simp only [PInfo.wf, Bool.and_eq_true, decide_eq_true_eq] at hw
  obtain ⟨⟨⟨⟨_, hu⟩, hU⟩, hle⟩, hcls⟩ := hw
  unfold setVal
  rw [hu, hU]
  cases hc : p.cls <;> simp only [hc, Bool.and_eq_true, decide_eq_true_eq] at hcls ⊢
  case check => exact .guarded v
  case checkUnless0 =>
    split
    · rename_i h0; subst h0; exact .zero (by simp [zeroMeansDefault, hc])
    · exact .guarded v
  case clamp => exact .inside (clampC_mem v hle)
  case boolNorm => exact .inside (by split <;> omega)
  case level =>
    have := clampC_mem v hle
    exact .inside (by split <;> omega)
  case jobSize => exact .inside (clampC_mem _ hle)
  case raiseMinUnless0 =>
    split
    · rename_i h0; subst h0; exact .zero (by simp [zeroMeansDefault, hc])
    · exact .guarded _
  case zeroDefaultCheck => exact .guarded _
  case unknown => exact Or.inl rfl

set_option linter.unusedVariables false in
/-- values outside the advertised bounds are rejected, or (clamping / boolean setters, and the
documented "0 = use default") stored as a value INSIDE the advertised bounds or as 0 = default marker -/
theorem set_out_of_bounds {p : PInfo} (hp : p ∈ cparams ++ dparams) (v : Int) (hout : v < p.lo ∨ p.hi < v) :
    setVal p v = none ∨
    (∃ w, setVal p v = some w ∧ ((p.lo ≤ w ∧ w ≤ p.hi) ∨ (zeroMeansDefault p = true ∧ v = 0 ∧ w = 0))) :=
  setVal_answer hp v

/-- the advertised bounds themselves are accepted (bounds are tight) -/
theorem bounds_are_tight {p : PInfo} (hp : p ∈ cparams ++ dparams) :
    (setVal p p.lo).isSome ∧ (setVal p p.hi).isSome := by
  have hw := wf_of_mem hp
  simp only [PInfo.wf, Bool.and_eq_true, decide_eq_true_eq] at hw
  have hle : p.lo ≤ p.hi := hw.1.2
  constructor
  · rw [set_in_bounds hp p.lo (Int.le_refl _) hle]; rfl
  · rw [set_in_bounds hp p.hi hle (Int.le_refl _)]; rfl

/-- a rejected call changes nothing: `set` returns either an error (and there is no new state) or a state
that differs from the old one only at position `k` -/
theorem rejected_changes_nothing (ps : List PInfo) (isC : Bool) (s : Ctx) (k : Nat) (v : Int) :
    (∃ e, setParam ps isC s k v = .error e) ∨
    (∃ w, setParam ps isC s k v = .ok { s with vals := s.vals.set k w }) := by
  unfold setParam
  split
  · exact Or.inl ⟨_, rfl⟩
  · split
    · exact Or.inl ⟨_, rfl⟩
    · split
      · exact Or.inl ⟨_, rfl⟩
      · exact Or.inr ⟨_, rfl⟩

theorem setParam_ok {ps : List PInfo} {isC : Bool} {s s' : Ctx} {k : Nat} {v : Int} (h : setParam ps isC s k v = .ok s') :
    ∃ w, s' = { s with vals := s.vals.set k w } := by
  rcases rejected_changes_nothing ps isC s k v with ⟨e, he⟩ | ⟨w, hw⟩
  · rw [he] at h; cases h
  · rw [hw] at h; cases h; exact ⟨w, rfl⟩

/-- no cross-talk: setting parameter `k` does not change what any other parameter reads back -/
theorem get_set_other (ps : List PInfo) (isC : Bool) (s s' : Ctx) (k j : Nat) (v : Int)
    (h : setParam ps isC s k v = .ok s') (hne : k ≠ j) : getParam s' j = getParam s j := by
  obtain ⟨w, rfl⟩ := setParam_ok h
  exact List.getElem?_set_ne hne

/-- read-back: after an accepted `set k v` on an in-range value, `get k` returns the normalised value -/
theorem get_set_same (ps : List PInfo) (isC : Bool) (s s' : Ctx) (k : Nat) (v : Int) (p : PInfo)
    (hk : ps[k]? = some p) (hlen : k < s.vals.length) (hp : p ∈ cparams ++ dparams)
    (hlo : p.lo ≤ v) (hhi : v ≤ p.hi) (h : setParam ps isC s k v = .ok s') : getParam s' k = some (normalise p v) := by
  unfold setParam at h
  rw [hk] at h
  simp only [set_in_bounds hp v hlo hhi] at h
  split at h
  · cases h
  · cases h
    simp [getParam, hlen]

/-- stickiness: starting a frame, ending it, and a session-only reset leave every stored value unchanged -/
theorem sticky (ps : List PInfo) (s : Ctx) :
    (startFrame s).vals = s.vals ∧ (endFrame s).vals = s.vals ∧
    (∃ s', reset ps s .session = .ok s' ∧ s'.vals = s.vals ∧ s'.started = false) := by
  exact ⟨rfl, rfl, ⟨_, rfl, rfl, rfl⟩⟩

/-- a parameter reset restores every default and drops dictionaries; it is refused mid-frame -/
theorem reset_params_defaults (ps : List PInfo) (s : Ctx) :
    (s.started = false → reset ps s .parameters = .ok (fresh ps)) ∧
    (s.started = true → reset ps s .parameters = .error .stage) ∧
    reset ps s .sessionAndParameters = .ok (fresh ps) := by
  refine ⟨fun h => ?_, fun h => ?_, rfl⟩ <;> simp [reset, h, fresh]

/-- mid-frame gate: during a frame, a parameter that is not update-authorised (and every
decompression parameter) is refused with a stage error — and, by `rejected_changes_nothing`, changes nothing -/
theorem midframe_gate (ps : List PInfo) (isC : Bool) (s : Ctx) (k : Nat) (v : Int) (p : PInfo)
    (hk : ps[k]? = some p) (hs : s.started = true) (hna : (isC && p.mid) = false) :
    setParam ps isC s k v = .error .stage := by
  unfold setParam; rw [hk]; simp [hs, hna]

/-- a whole frame through a one-call entry point (`ZSTD_compressSequences`, `ZSTD_compress2`, …) leaves the context in the init
stage with every parameter and the dictionaries as they were: whatever was legal before the frame is legal after it -/
theorem wholeFrame_returns_to_init (s : Ctx) :
    (wholeFrame s).started = false ∧ (wholeFrame s).vals = s.vals ∧ (wholeFrame s).hasDict = s.hasDict := ⟨rfl, rfl, rfl⟩

theorem set_after_wholeFrame (ps : List PInfo) (isC : Bool) (s : Ctx) (k : Nat) (v : Int) (hs : s.started = false) :
    setParam ps isC (wholeFrame s) k v = setParam ps isC s k v := by
  have : wholeFrame s = s := by cases s; simp_all [wholeFrame, endFrame, startFrame]
  rw [this]

/-- once input has been accepted for a frame (`startFrame`: also the deferred start of stable-input mode), every init-stage-only
entry point is refused, and a refusal stores nothing -/
theorem initStageOnly_gate (s : Ctx) :
    (s.started = true → initStageOnly s = .error .stage ∧ loadDict s = .error .stage) ∧
    (s.started = false → initStageOnly s = .ok s) ∧ initStageOnly (startFrame s) = .error .stage := by
  refine ⟨fun h => ?_, fun h => ?_, rfl⟩ <;> simp [initStageOnly, loadDict, h]

/-- every row of `ZSTD_defaultCParameters[4][23]` (regenerated from clevels.h) passes `ZSTD_checkCParams` -/
theorem clevels_rows_valid : clevels.all (fun row => row.all checkCParams) = true :=
  List.all_eq_true.mpr fun row h => ((Bool.and_eq_true _ _).mp (List.all_eq_true.mp LevelParams.clevels_wf row h)).2

/-! Non-vacuity: the hypotheses are met by concrete rows / states. -/
example : (cparams ++ dparams).length = 45 := by decide
example : ∃ p ∈ cparams ++ dparams, p.name = "ZSTD_c_rsyncable" ∧ setVal p 5 = some 1 := by
  refine ⟨cparams[20], List.mem_append_left _ (List.getElem_mem _), by decide, by decide⟩
example : ∃ p ∈ cparams ++ dparams, p.name = "ZSTD_c_windowLog" ∧ setVal p 9 = none ∧ setVal p 0 = some 0 := by
  refine ⟨cparams[1], List.mem_append_left _ (List.getElem_mem _), by decide, by decide, by decide⟩
example : setParam cparams true (startFrame (fresh cparams)) 1 20 = .error .stage := by rfl


/-! ### struct-level setters (ZSTD_CCtx_setCParams / setFParams / setParams): all or nothing -/

/-- a parameter structure with any compression field outside its bounds is refused as a whole by ZSTD_CCtx_setParams - before the
frame parameters are touched: the model returns no new state at all (the driver keeps the old one, and the correspondence compares
the implementation's full parameter dump after the refused call with it) -/
theorem setParams_bad_cparams_rejected (ps : List PInfo) (s : Ctx) (cp fp : List Int) (h : checkCParamsStruct ps cp = false) :
    setParamsAll ps s cp fp = .error .outOfBound := by
  unfold setParamsAll; simp [h]

theorem setCParams_bad_rejected (ps : List PInfo) (s : Ctx) (cp : List Int) (h : checkCParamsStruct ps cp = false) :
    setCParams ps s cp = .error .outOfBound := by
  unfold setCParams; simp [h]

/-- whatever a sequence of single-parameter sets does, it never changes the frame-in-progress flag or the dictionary flag -/
theorem setSeq_keeps_stage (ps : List PInfo) (kvs : List (Nat × Int)) (s s' : Ctx) (h : setSeq ps s kvs = .ok s') :
    s'.started = s.started ∧ s'.hasDict = s.hasDict := by
  induction kvs generalizing s with
  | nil => cases h; exact ⟨rfl, rfl⟩
  | cons kv rest ih =>
    rcases kv with ⟨id, v⟩
    unfold setSeq at h
    split at h
    · cases h
    · split at h
      · cases h
      · rename_i s1 h1
        obtain ⟨w, rfl⟩ := setParam_ok h1
        exact (ih _ h :)

example : checkCParamsStruct cparams [0, 10, 10, 1, 4, 1, 1] = false ∧ checkCParamsStruct cparams [17, 10, 10, 1, 4, 1, 1] = true := by decide


/-! ### contexts in caller-provided memory (ZSTD_initStaticCCtx / ZSTD_initStaticDCtx) -/

/-- on a static context too a rejected call changes nothing: an error (no new state), or the old state changed at position `k` only -/
theorem static_rejected_changes_nothing (ps : List PInfo) (isC : Bool) (s : Ctx) (k : Nat) (v : Int) :
    (∃ e, LevelParams.setParamStatic ps isC s k v = .error e) ∨
    (∃ w, LevelParams.setParamStatic ps isC s k v = .ok { s with vals := s.vals.set k w }) := by
  unfold LevelParams.setParamStatic
  split
  · exact Or.inl ⟨_, rfl⟩
  · split
    · exact Or.inl ⟨_, rfl⟩
    · split
      · exact Or.inl ⟨_, rfl⟩
      · split
        · exact Or.inl ⟨_, rfl⟩
        · split
          · exact Or.inl ⟨_, rfl⟩
          · exact Or.inr ⟨_, rfl⟩

/-- a static CCtx refuses every non-zero ZSTD_c_nbWorkers AT THE SETTER (outside a frame: parameter_unsupported; inside: the stage gate
answers first) - whatever the value, in or out of the advertised bounds; by `static_rejected_changes_nothing` nothing is stored, so no
later frame can meet a worker count the context cannot serve -/
theorem static_nbWorkers_refused (ps : List PInfo) (s : Ctx) (k : Nat) (p : PInfo) (v : Int)
    (hk : ps[k]? = some p) (hid : p.id = LevelParams.idNbWorkers) (hv : v ≠ 0) :
    LevelParams.setParamStatic ps true s k v = .error (if s.started && !p.mid then .stage else .unsupported) := by
  unfold LevelParams.setParamStatic
  rw [hk]
  cases hs : (s.started && !p.mid) <;> simp_all

/-- every other compression parameter behaves on a static CCtx exactly as on a heap CCtx (same acceptance, same stored value, same error) -/
theorem static_cctx_agrees_elsewhere (ps : List PInfo) (s : Ctx) (k : Nat) (p : PInfo) (v : Int)
    (hk : ps[k]? = some p) (hid : p.id ≠ LevelParams.idNbWorkers ∨ v = 0) :
    LevelParams.setParamStatic ps true s k v = setParam ps true s k v := by
  have hcond : (true && p.id == LevelParams.idNbWorkers && decide (v ≠ 0)) = false := by
    rcases hid with h | h
    · have : (p.id == LevelParams.idNbWorkers) = false := by simpa using h
      simp [this]
    · simp [h]
  unfold LevelParams.setParamStatic setParam
  rw [hk]
  simp only [hcond]
  cases hst : (s.started && !(true && p.mid))
  · cases hsv : setVal p v <;> simp
  · simp

example : ∃ k p, cparams[k]? = some p ∧ p.id = LevelParams.idNbWorkers ∧
    LevelParams.setParamStatic cparams true (fresh cparams) k 2 = .error .unsupported ∧ (∃ c, setParam cparams true (fresh cparams) k 2 = .ok c) := by
  refine ⟨17, cparams[17], by decide, by decide, by rfl, ⟨_, rfl⟩⟩

/-! ### raw compression levels (entry points that do not go through the setter's clamp) -/

set_option linter.unusedVariables false in
/-- however small a negative raw level is (down to INT_MIN and beyond), the acceleration factor it stands for lies inside the advertised
bounds of ZSTD_c_targetLength -/
theorem accel_in_bounds (level : Int) (h : level < 0) : within cparams 106 (LevelParams.accel level) = true :=
  LevelParams.accel_within level

/-- levels outside [ZSTD_minCLevel(), ZSTD_maxCLevel()] stand for the nearest bound: same table row, same acceleration -/
theorem level_below_min_is_min (level : Int) (h : level ≤ minCLevel) :
    LevelParams.rowOfLevel level = LevelParams.rowOfLevel minCLevel ∧ LevelParams.accel level = LevelParams.accel minCLevel := by
  have hm : minCLevel < 0 := by decide
  constructor
  · unfold LevelParams.rowOfLevel
    have h1 : level < 0 := by omega
    have h2 : level ≠ 0 := by omega
    have h3 : minCLevel ≠ 0 := by omega
    simp [h1, h2, h3, hm]
  · unfold LevelParams.accel
    rw [Int.max_eq_left h, Int.max_self]

theorem level_above_max_is_max (level : Int) (h : (ZSTD_MAX_CLEVEL : Int) ≤ level) :
    LevelParams.rowOfLevel level = ZSTD_MAX_CLEVEL := by
  unfold LevelParams.rowOfLevel
  have h0 : (0 : Int) < (ZSTD_MAX_CLEVEL : Int) := by decide
  have h1 : ¬ level < 0 := by omega
  have h2 : level ≠ 0 := by omega
  by_cases h3 : level > (ZSTD_MAX_CLEVEL : Int)
  · simp [h1, h2, h3]
  · have : level = (ZSTD_MAX_CLEVEL : Int) := by omega
    subst this
    decide

/-- the row a raw level selects always exists in the 23-row level tables -/
theorem rowOfLevel_in_table (level : Int) : LevelParams.rowOfLevel level ≤ ZSTD_MAX_CLEVEL :=
  LevelParams.rowOfLevel_le level

/-- "level -> parameter tables and adjustment never produce out-of-range values": ZSTD_adjustCParams_internal keeps a structure that
passes ZSTD_checkCParams valid, for every source size, dictionary size, mode and row-finder switch (`LevelParams.adjust_preserves_valid`,
stated on `InBounds`, read through `check_iff`) -/
theorem adjust_preserves_valid (c : CPar) (src dict : Nat) (mode : LevelParams.CPMode) (rowMode : Nat) (h : checkCParams c = true) :
    checkCParams (LevelParams.adjust c src dict mode rowMode) = true :=
  (LevelParams.check_iff _).2 (LevelParams.adjust_preserves_valid c src dict mode rowMode ((LevelParams.check_iff _).1 h))

/-- ZSTD_getCParams_internal (behind ZSTD_compress, ZSTD_compressCCtx, ZSTD_compress_usingDict, ZSTD_compressBegin[_usingDict], ZSTD_estimate*):
EVERY integer level - INT_MIN, below ZSTD_minCLevel(), above ZSTD_maxCLevel() included - with every source and dictionary size derives
compression parameters that pass ZSTD_checkCParams -/
theorem raw_level_derivation_valid (level : Int) (src dict : Nat) (mode : LevelParams.CPMode) :
    checkCParams (LevelParams.getCParamsInternal level src dict mode) = true :=
  (LevelParams.check_iff _).2 (LevelParams.getCParamsInternal_inBounds level src dict mode)

/-- the public ZSTD_getCParams / ZSTD_getParams -/
theorem public_getCParams_valid (level : Int) (src dict : Nat) : checkCParams (LevelParams.getCParamsPublic level src dict) = true :=
  raw_level_derivation_valid level _ dict .unknown

/-- ZSTD_getCParamsFromCCtxParams (every advanced / streaming frame start): any stored level, explicit parameters as the setters leave them -/
theorem cctxParams_derivation_valid (level : Int) (ov : CPar) (ldmOn : Bool) (hint src dict : Nat) (mode : LevelParams.CPMode) (rowMode : Nat)
    (ho : LevelParams.OvOk ov) : checkCParams (LevelParams.fromCCtxParams level ov ldmOn hint src dict mode rowMode) = true :=
  (LevelParams.check_iff _).2 (LevelParams.fromCCtxParams_inBounds level ov ldmOn hint src dict mode rowMode ho)

/-- ZSTD_createCDict / ZSTD_createCDict_byReference -/
theorem createCDict_derivation_valid (level : Int) (dictSize : Nat) : checkCParams (LevelParams.createCDictCParams level dictSize) = true :=
  (LevelParams.check_iff _).2 (LevelParams.createCDict_inBounds level dictSize)

example : LevelParams.OvOk LevelParams.noOverride := by
  refine ⟨Or.inl rfl, Or.inl rfl, Or.inl rfl, Or.inl rfl, Or.inl rfl, by decide, Or.inl rfl⟩
example : (LevelParams.getCParamsPublic (-2147483648) 0 0).targetLength = 131072 ∧ (LevelParams.getCParamsPublic 3 0 0).windowLog = 21 := by decide

example : LevelParams.accel (-2147483648) = 131072 ∧ LevelParams.accel (-5) = 5 ∧ LevelParams.rowOfLevel 2147483647 = 22 := by decide

end ZstdVerif.Props.C16
