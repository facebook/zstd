/-
C17 — sequence-level compression: valid parses round-trip, invalid ones are refused.
On Model/SeqApi: validation of sequences and block sizes, the repeat-offset history the transcriber leaves for the next block against
the decoder's (Lemmas/SeqApiRep, Lemmas/SeqRT), what becomes of a sequence producer's answer, ZSTD_mergeBlockDelimiters.
-/
import ZstdVerif.Model.SeqApi
import ZstdVerif.Lemmas.SeqApiRep
namespace ZstdVerif.Props.C17
open ZstdVerif ZstdVerif.SeqApi ZstdVerif.Gen ZstdVerif.SeqApiRep

/-- **offsets are validated against the history available at the START of the match** (position before the sequence plus its
literals) - over the statements regenerated from both copiers; the match length is not added. -/
theorem validated_at_match_start (pos ll ml : Nat) :
    SeqVal.posAtValidationExplicit pos ll ml = pos + ll ∧ SeqVal.posAtValidationNoDelim pos ll ml = pos + ll :=
  ⟨rfl, rfl⟩

/-- what an accepted sequence guarantees: the offset stays within the window and within the history present at the match start
(content so far + dictionary), the match is not shorter than the minimum -/
theorem validSeq_sound (offset ml minMatch pos w d : Nat) (h : validSeq offset ml minMatch pos w d = true) :
    offset ≤ pos + d ∧ (w < pos → offset ≤ w) ∧ 3 ≤ ml ∧ (minMatch ≠ 3 → 4 ≤ ml) := by
  unfold validSeq at h
  simp only [Bool.and_eq_true, decide_eq_true_eq] at h
  obtain ⟨h1, h2⟩ := h
  refine ⟨?_, ?_, ?_, ?_⟩
  · split at h1 <;> omega
  · intro hw; rw [if_pos hw] at h1; exact h1
  · split at h2 <;> omega
  · intro hm; rw [if_neg hm] at h2; exact h2

/-- a block accepted under explicit delimiters: accumulated size and position advance by the same amount -/
theorem explicitBlock_sizes (c : Cfg) (fuel : Nat) (s : List Seq) (pos acc bs : Nat) (rest : List Seq) (pos' : Nat)
    (h : explicitBlock c fuel s pos acc = some (bs, rest, pos')) : acc ≤ bs ∧ pos' - pos = bs - acc ∧ pos ≤ pos' := by
  fun_induction explicitBlock c fuel s pos acc with
  | case1 | case2 | case4 | case6 => cases h
  | case3 => cases h; omega
  | case5 _ _ _ _ _ _ _ ih => have := ih h; omega

/-- **block lengths that disagree with the source are refused** (first block): acceptance with bytes remaining implies that a first
block is delimited, within the block limit and within the `remaining` source bytes -/
theorem acceptExplicit_tiles (c : Cfg) (fuel : Nat) (s : List Seq) (pos rem : Nat) (h : acceptExplicit c fuel s pos rem = true) :
    rem = 0 ∨ ∃ bs rest pos', explicitBlock c (s.length + 1) s pos 0 = some (bs, rest, pos') ∧ bs ≤ c.blockLimit ∧ bs ≤ rem := by
  cases fuel with
  | zero => simp [acceptExplicit] at h
  | succ f =>
    unfold acceptExplicit at h
    split at h
    · left; assumption
    · right
      split at h
      · simp at h
      · rename_i bs rest pos' heq
        split at h
        · simp at h
        · rename_i hc
          exact ⟨bs, rest, pos', heq, by omega, by omega⟩

example : acceptExplicit ⟨131072, 1 <<< 17, 0, 4⟩ 10 [⟨8, 8, 152⟩, ⟨0, 0, 0⟩] 0 160 = true := by decide
example : acceptExplicit ⟨131072, 1 <<< 17, 0, 4⟩ 10 [⟨9, 8, 152⟩, ⟨0, 0, 0⟩] 0 160 = false := by decide
example : acceptExplicit ⟨131072, 1 <<< 17, 0, 4⟩ 10 [⟨10, 0, 20⟩, ⟨0, 44, 0⟩] 0 64 = false := by decide

/-! ### the repeat-offset history the transcriber leaves for the next block (explicit delimiters, registered sequence producers) -/

/-- **the history handed to the next block is the decoder's.**  For a block of valid raw offsets transcribed by
ZSTD_copySequencesToSeqStoreExplicitBlockDelim - repcode search on or off - the decoder, started from the same history, resolves the stored
Offset_Values back to the raw offsets and ends with exactly what the transcriber leaves in `nextCBlock->rep`: the internal parser taking
over the next block after a producer failure (fallback), or the transcriber of the next block, starts from the decoder's state. -/
theorem storeExplicit_lockstep (search : Bool) (rep : Rep.R) (seqs : List Seq) (h0 : 1 ≤ rep.r0) (h1 : 1 ≤ rep.r1) (h2 : 1 ≤ rep.r2)
    (hq : ∀ s ∈ seqs, 1 ≤ s.offset) :
    (SeqRT.resolveAll rep (trisOf seqs (storeExplicit search rep seqs).1)).1.map (fun q => (q.ll, q.ml, q.offset))
        = seqs.map (fun s => (s.ll, s.ml, s.offset)) ∧
      (SeqRT.resolveAll rep (trisOf seqs (storeExplicit search rep seqs).1)).2 = (storeExplicit search rep seqs).2 := by
  cases search with
  | true => simpa [storeExplicit] using resolveAll_storeOn rep seqs h0 h1 h2 hq
  | false =>
    have := resolveAll_raw rep seqs hq
    simp only [storeExplicit, Bool.false_eq_true, if_false]
    rw [endRepOff_eq_pushAll]
    exact this

/-- with repcode search off the three-case tail of the transcriber (three or more sequences / exactly two / exactly one) is "every raw
offset of the block pushed in front" -/
theorem endRepOff_pushes_every_offset (rep : Rep.R) (seqs : List Seq) :
    endRepOff rep seqs = seqs.foldl (fun r s => ⟨s.offset, r.r0, r.r1⟩) rep := endRepOff_eq_pushAll rep seqs

/-- The producer's answer is refused as such - handed over or failed, by `fallbackOn` - exactly for an error code, an empty answer, or a
full buffer without delimiter; every other answer is transcribed or found invalid, whatever `fallbackOn`. -/
theorem producerBlock_refused (search fallbackOn validate : Bool) (w d : Nat) (rep : Rep.R) (srcSize cap ret : Nat) (buf : List Seq) :
    if ret > cap ∨ ret = 0 ∨
        ¬((buf.getLast?.getD ⟨0, 0, 0⟩).offset = 0 ∧ (buf.getLast?.getD ⟨0, 0, 0⟩).ml = 0) ∧ ret = cap then
      producerBlock search fallbackOn validate w d rep srcSize cap ret buf = if fallbackOn then .fallback else .failed
    else
      producerBlock search fallbackOn validate w d rep srcSize cap ret buf ≠ .fallback ∧
      producerBlock search fallbackOn validate w d rep srcSize cap ret buf ≠ .failed := by
  unfold producerBlock
  simp only []
  by_cases h1 : ret > cap
  · rw [if_pos (.inl h1), if_pos h1]
  by_cases h2 : ret = 0
  · rw [if_pos (.inr (.inl h2)), if_neg h1, if_pos h2]
  by_cases h3 : ¬((buf.getLast?.getD ⟨0, 0, 0⟩).offset = 0 ∧ (buf.getLast?.getD ⟨0, 0, 0⟩).ml = 0) ∧ ret = cap
  · rw [if_pos (.inr (.inr h3)), if_neg h1, if_neg h2, if_pos h3]
  rw [if_neg (by rintro (h | h | h) <;> contradiction), if_neg h1, if_neg h2, if_neg h3]
  split
  · exact ⟨nofun, nofun⟩
  split
  · exact ⟨nofun, nofun⟩
  split <;> exact ⟨nofun, nofun⟩

/-- whether a refused answer (`producerBlock_refused`) is handed to the internal parser or fails with sequenceProducer_failed is decided
by ZSTD_c_enableSeqProducerFallback alone -/
theorem producer_failure_switch (search validate : Bool) (w d : Nat) (rep : Rep.R) (srcSize cap ret : Nat) (buf : List Seq) :
    (producerBlock search true validate w d rep srcSize cap ret buf = .fallback ↔
      producerBlock search false validate w d rep srcSize cap ret buf = .failed) ∧
    producerBlock search true validate w d rep srcSize cap ret buf ≠ .failed ∧
    producerBlock search false validate w d rep srcSize cap ret buf ≠ .fallback := by
  have ht := producerBlock_refused search true validate w d rep srcSize cap ret buf
  have hf := producerBlock_refused search false validate w d rep srcSize cap ret buf
  split at ht
  · next h => rw [if_pos h] at hf; rw [ht, hf]; exact ⟨⟨fun _ => rfl, fun _ => rfl⟩, nofun, nofun⟩
  · next h => rw [if_neg h] at hf; exact ⟨⟨fun e => absurd e ht.1, fun e => absurd e hf.2⟩, ht.2, hf.1⟩

example : endRepOff ⟨1, 4, 8⟩ [⟨700, 5, 30⟩, ⟨1234, 3, 40⟩, ⟨4321, 2, 45⟩] = ⟨4321, 1234, 700⟩ := by decide
example : endRepOff ⟨1, 4, 8⟩ [⟨700, 5, 30⟩, ⟨1234, 3, 40⟩] = ⟨1234, 700, 1⟩ := by decide
example : endRepOff ⟨1, 4, 8⟩ [⟨700, 5, 30⟩] = ⟨700, 1, 4⟩ := by decide
example : (storeExplicit true ⟨1, 4, 8⟩ [⟨700, 5, 30⟩, ⟨700, 3, 40⟩, ⟨4, 0, 45⟩]) = ([703, 1, 2], ⟨4, 700, 1⟩) := by decide
example : producerBlock false true false (1 <<< 17) 0 ⟨1, 4, 8⟩ 100 40 41 [] = .fallback := by decide
example : producerBlock false false false (1 <<< 17) 0 ⟨1, 4, 8⟩ 100 40 41 [] = .failed := by decide
example : producerBlock false true false (1 <<< 17) 0 ⟨1, 4, 8⟩ 100 40 2 [⟨8, 10, 80⟩, ⟨0, 10, 0⟩] = .stored [11] 10 ⟨8, 1, 4⟩ := by decide
example : producerBlock false true false (1 <<< 17) 0 ⟨1, 4, 8⟩ 100 40 2 [⟨8, 10, 80⟩, ⟨0, 11, 0⟩] = .invalid := by decide

/-! ### ZSTD_mergeBlockDelimiters -/

/-- **merging block delimiters keeps the parse**: no delimiter is left, the real sequences keep order, offsets and match lengths, and the
bytes described are those of the input once the literals of the trailing delimiters (the frame's last literals) are added back -/
theorem mergeDelims_keeps_parse (l : List Seq) :
    (∀ s ∈ mergeDelims l, isDelim s = false) ∧
    (mergeDelims l).map (fun s => (s.offset, s.ml)) = (l.filter (fun s => !isDelim s)).map (fun s => (s.offset, s.ml)) ∧
    total (mergeDelims l) + mergeDropped l = total l :=
  ⟨mergeGo_noDelim 0 l, mergeGo_matches 0 l, (mergeGo_total 0 l).trans (Nat.zero_add _)⟩

example : mergeDelims [⟨0, 1000, 0⟩, ⟨0, 1000, 0⟩, ⟨500, 100, 50⟩, ⟨0, 1850, 0⟩] = [⟨500, 2100, 50⟩] := by decide
example : mergeDropped [⟨0, 1000, 0⟩, ⟨0, 1000, 0⟩, ⟨500, 100, 50⟩, ⟨0, 1850, 0⟩, ⟨0, 7, 0⟩] = 1857 := by decide
example : mergeDelims [⟨9, 1, 5⟩, ⟨0, 3, 0⟩, ⟨0, 0, 0⟩, ⟨0, 4, 0⟩, ⟨9, 0, 5⟩, ⟨0, 0, 0⟩] = [⟨9, 1, 5⟩, ⟨9, 7, 5⟩] := by decide

end ZstdVerif.Props.C17
