/-
C18 — dictionary training: the output contract of ZDICT_finalizeDictionary (every trainer ends there), the ID rule, the parameter
checks of the cover trainers and the epoch tiling their build loops rely on, the protocol of the optimisers' shared result holder
(COVER_best_t) for every schedule of their worker threads, and the bounded, ranked candidate table of the legacy trainer.
-/
import ZstdVerif.Model.Train
namespace ZstdVerif.Props.C18
open ZstdVerif ZstdVerif.Train ZstdVerif.Gen

theorem minContent_eq : minContentSize = 8 := by decide

/-- **finalize_layout**: whenever ZDICT_finalizeDictionary does not report dstSize_tooSmall, the dictionary it writes is
header + padding + kept content, fits the capacity, keeps at most the content offered, and its content part (padding included) is
at least as long as the largest start repcode - so the three repeat offsets it records are valid for the loaders (C08.reps_in_content) -/
theorem finalize_layout (hSize contentIn cap dictSize pad kept : Nat) (hh : hSize ≤ cap)
    (h : finalizeLayout hSize contentIn cap = some (dictSize, pad, kept)) :
    dictSize = hSize + pad + kept ∧ dictSize ≤ cap ∧ kept ≤ contentIn ∧ minContentSize ≤ pad + kept := by
  unfold finalizeLayout at h
  rw [minContent_eq] at h ⊢
  by_cases c1 : cap < contentIn
  · rw [if_pos c1] at h; cases h
  by_cases c2 : cap < ZDICT_DICTSIZE_MIN
  · rw [if_neg c1, if_pos c2] at h; cases h
  rw [if_neg c1, if_neg c2] at h
  -- what is kept of the content: all of it, or what the capacity leaves after the header
  generalize hk : (if hSize + contentIn > cap then cap - hSize else contentIn) = k at h
  replace hk : k ≤ contentIn ∧ hSize + k ≤ cap := by rw [← hk]; split <;> omega
  dsimp only at h
  by_cases c4 : k < 8
  · by_cases c5 : hSize + 8 > cap
    · rw [if_pos c4, if_pos c5] at h; cases h
    · rw [if_pos c4, if_neg c5, Option.some.injEq, Prod.mk.injEq, Prod.mk.injEq] at h
      omega
  · rw [if_neg c4, Option.some.injEq, Prod.mk.injEq, Prod.mk.injEq] at h
    omega

/-- **compliant_id_range**: the ID chosen for the caller is never 0 and lies in the range reserved for unregistered dictionaries -/
theorem compliant_id_range (x : Nat) : 32768 ≤ compliantID x ∧ compliantID x < 2 ^ 31 ∧ compliantID x ≠ 0 := by
  unfold compliantID
  have : x % (2 ^ 31 - 32768) < 2 ^ 31 - 32768 := Nat.mod_lt _ (by decide)
  have h31 : (2 : Nat) ^ 31 = 2147483648 := by decide
  omega

/-- **check_params_sound**: accepted cover parameters exclude every division by zero / empty segment of the trainer:
0 < d ≤ k ≤ capacity and 0 < splitPoint ≤ 1 -/
theorem check_params_sound (k d : Nat) (sn sd : Int) (cap : Nat) (h : coverParamsOk k d sn sd cap = true) :
    0 < d ∧ d ≤ k ∧ k ≤ cap ∧ 0 < sn ∧ sn ≤ sd := by
  unfold coverParamsOk at h
  simp only [Bool.and_eq_true, Bool.not_eq_true', Bool.or_eq_false_iff, decide_eq_false_iff_not, beq_eq_false_iff_ne] at h
  omega

theorem fast_params_sound (k d : Nat) (sn sd : Int) (cap f a : Nat) (h : fastCoverParamsOk k d sn sd cap f a = true) :
    (d = 6 ∨ d = 8) ∧ d ≤ k ∧ k ≤ cap ∧ 0 < f ∧ f ≤ 31 ∧ 0 < a ∧ a ≤ 10 := by
  unfold fastCoverParamsOk at h
  simp only [Bool.and_eq_true, Bool.or_eq_true, beq_iff_eq, decide_eq_true_eq] at h
  have := check_params_sound k d sn sd cap h.1.1.1.1.1
  omega

/-! ### epochs: what the build loops rely on -/

/-- **epochs_sound**: with accepted parameters (k > 0) and AT LEAST ONE d-mer, COVER_computeEpochs divides by nothing that is zero and
returns a non-empty tiling that stays inside the d-mer range: 0 < num, 0 < size, num * size ≤ nbDmers (the loop `epoch = (epoch+1) % num`
and the positions `epoch*size .. epoch*size+size` are in range) -/
theorem epochs_sound (cap n k passes : Nat) (hk : 0 < k) (hp : 0 < passes) (hn : 0 < n) :
    ∃ num size, computeEpochs cap n k passes = some (num, size) ∧ 0 < num ∧ 0 < size ∧ num * size ≤ n := by
  unfold computeEpochs
  have h0 : ¬ (k = 0 ∨ passes = 0) := by omega
  simp only [h0, if_false]
  by_cases h1 : k * 10 ≤ n / max 1 (cap / k / passes)
  · simp only [h1, if_true]
    refine ⟨_, _, rfl, ?_, ?_, ?_⟩
    · exact Nat.lt_of_lt_of_le Nat.zero_lt_one (Nat.le_max_left _ _)
    · omega
    · rw [Nat.mul_comm]; exact Nat.div_mul_le_self _ _
  · simp only [h1, if_false]
    have hs : 0 < min (k * 10) n := by
      rw [Nat.lt_min]; omega
    have hne : ¬ (min (k * 10) n = 0) := by omega
    simp only [hne, if_false]
    refine ⟨_, _, rfl, ?_, hs, ?_⟩
    · exact Nat.div_pos (Nat.min_le_right _ _) hs
    · exact Nat.div_mul_le_self _ _

/-- **epochs_need_a_dmer**: the precondition cannot be dropped - with no d-mer the function has no value (the C code divides by zero) -/
theorem epochs_need_a_dmer (cap k passes : Nat) : computeEpochs cap 0 k passes = none := by
  unfold computeEpochs
  by_cases h0 : k = 0 ∨ passes = 0
  · simp [h0]
  · have hk : 0 < k := by omega
    simp [h0]
    omega

/-- **dmer_count_pos**: a training part accepted by the size rule has at least one d-mer and all of them lie inside it
(a d-mer read takes max(d,8) bytes) - the hypothesis of `epochs_sound` -/
theorem dmer_count_pos (t d n : Nat) (h : dmerCount t d = some n) : 0 < n ∧ n - 1 + max d 8 ≤ t := by
  unfold dmerCount at h
  by_cases hc : t < max d 8
  · simp [hc] at h
  · simp only [hc, if_false, Option.some.injEq] at h
    omega

/-- **ctx_init_sound**: a context accepted by the size rules gives every build loop (any capacity, any accepted k, cover's 4 passes or
fastCover's 1) a well-defined, non-empty epoch tiling inside the training part -/
theorem ctx_init_sound (total t nbTrain nbTest d n cap k passes : Nat) (h : ctxInit total t nbTrain nbTest d = some n) (hk : 0 < k) (hp : 0 < passes) :
    5 ≤ nbTrain ∧ 1 ≤ nbTest ∧ n - 1 + max d 8 ≤ t ∧
    ∃ num size, computeEpochs cap n k passes = some (num, size) ∧ 0 < num ∧ 0 < size ∧ num * size ≤ n := by
  unfold ctxInit at h
  by_cases h1 : total < max d 8 ∨ 2 ^ 32 - 1 ≤ total
  · rw [if_pos h1] at h
    exact absurd h (by simp)
  · by_cases h2 : nbTrain < 5 ∨ nbTest < 1
    · rw [if_neg h1, if_pos h2] at h
      exact absurd h (by simp)
    · rw [if_neg h1, if_neg h2] at h
      have hd := dmer_count_pos t d n h
      exact ⟨by omega, by omega, hd.2, epochs_sound cap n k passes hk hp hd.1⟩

/-! ### the optimisers' result holder, for every schedule -/

/-- counter invariant: liveJobs = dispatched − finished, finished jobs were dispatched, no job finishes twice -/
def BInv (s : Best) : Prop :=
  s.live + s.finished.length = s.dispatched.length ∧ (∀ p ∈ s.finished, p.1 ∈ s.dispatched) ∧ (s.finished.map (·.1)).Nodup ∧ s.dispatched.Nodup

theorem binv_step (s s' : Best) (e : BEv) (h : BInv s) (hs : bstep s e = some s') : BInv s' := by
  obtain ⟨h1, h2, h3, h4⟩ := h
  cases e with
  | dispatch j =>
    simp only [bstep] at hs
    split at hs <;> cases hs
    exact ⟨by show s.live + 1 + s.finished.length = s.dispatched.length + 1; omega, fun p hp => List.mem_cons_of_mem _ (h2 p hp), h3,
      List.nodup_cons.mpr ⟨‹_›, h4⟩⟩
  | finish j size =>
    simp only [bstep] at hs
    split at hs <;> cases hs
    rename_i hc
    refine ⟨?_, fun p hp => ?_, ?_, h4⟩
    · show s.live - 1 + (s.finished ++ [(j, size)]).length = s.dispatched.length
      rw [List.length_append, List.length_singleton]; omega
    · rcases List.mem_append.mp hp with hp | hp
      · exact h2 p hp
      · cases List.mem_singleton.mp hp; exact hc.1
    · -- `j` has not finished before
      rw [List.map_append, List.nodup_append]
      refine ⟨h3, by simp, fun a ha b hb => ?_⟩
      cases List.mem_singleton.mp hb
      exact fun (e : a = j) => hc.2.1 (e ▸ ha)
  | waitReturn =>
    simp only [bstep] at hs
    split at hs <;> cases hs
    exact ⟨h1, h2, h3, h4⟩

/-- induction along a schedule -/
theorem brun_induct {P : Best → Prop} (hstep : ∀ s s' e, P s → bstep s e = some s' → P s') :
    ∀ (evs : List BEv) (s s' : Best), P s → brun s evs = some s' → P s' := by
  intro evs
  induction evs with
  | nil => intro s s' h hr; cases hr; exact h
  | cons e es ih =>
    intro s s' h hr
    simp only [brun] at hr
    split at hr
    · exact ih _ s' (hstep s _ e h ‹_›) hr
    · cases hr

theorem binv_run (evs : List BEv) : ∀ s s', BInv s → brun s evs = some s' → BInv s' :=
  brun_induct binv_step evs

/-- **wait_sound**: on every schedule, when COVER_best_wait returns every dispatched job has finished - provided the dispatcher
counts a job in (COVER_best_start) BEFORE handing it over, which is what `dispatch` means; the optimiser may then destroy the
shared context -/
theorem wait_sound (evs : List BEv) (s : Best) (hr : brun {} evs = some s) (hw : (bstep s .waitReturn).isSome = true) :
    ∀ j ∈ s.dispatched, j ∈ s.finished.map (·.1) := by
  have hinv : BInv s := binv_run evs {} s (by simp [BInv]) hr
  obtain ⟨h1, h2, h3, h4⟩ := hinv
  have hl : s.live = 0 := by
    simp only [bstep] at hw
    split at hw
    · assumption
    · simp at hw
  -- the finished ids are duplicate-free and all dispatched; were `j` not among them they would fit into the dispatched jobs
  -- without `j`, one fewer than there are finished ids
  intro j hj
  refine Classical.byContradiction fun hnj => ?_
  have hle := List.Nodup.length_le_of_subset h3 (l₂ := s.dispatched.erase j) fun a ha => by
    obtain ⟨p, hp, rfl⟩ := List.mem_map.mp ha
    exact (List.mem_erase_of_ne fun (e : p.1 = j) => hnj (e ▸ ha)).mpr (h2 p hp)
  rw [List.length_erase_of_mem hj, List.length_map] at hle
  have := List.length_pos_of_mem hj
  omega

/-- the holder is consistent with the finished candidates: its size bounds theirs from below and is the size of one of them -/
def BestOk (s : Best) : Prop :=
  (∀ p ∈ s.finished, ∃ b, s.best = some b ∧ b.1 ≤ p.2) ∧ (∀ b, s.best = some b → (b.2, b.1) ∈ s.finished)

theorem best_step (s s' : Best) (e : BEv) (h : BestOk s) (hs : bstep s e = some s') : BestOk s' := by
  obtain ⟨h1, h2⟩ := h
  cases e with
  | dispatch j => simp only [bstep] at hs; split at hs <;> cases hs; exact ⟨h1, h2⟩
  | waitReturn => simp only [bstep] at hs; split at hs <;> cases hs; exact ⟨h1, h2⟩
  | finish j size =>
    simp only [bstep] at hs
    split at hs <;> cases hs
    -- the holder afterwards keeps the smaller of the old best and the new candidate
    obtain ⟨b', hb', hle, hold, hmem⟩ : ∃ b',
        (if (match s.best with | none => true | some (b, _) => decide (size < b)) = true then some (size, j) else s.best) = some b' ∧
        b'.1 ≤ size ∧ (∀ p ∈ s.finished, b'.1 ≤ p.2) ∧ (b'.2, b'.1) ∈ s.finished ++ [(j, size)] := by
      cases hb : s.best with
      | none =>
        refine ⟨(size, j), rfl, Nat.le_refl _, fun p hp => ?_, by simp⟩
        obtain ⟨b, e, _⟩ := h1 p hp
        rw [hb] at e; cases e
      | some b0 =>
        obtain ⟨bs, bj⟩ := b0
        have hold : ∀ p ∈ s.finished, bs ≤ p.2 := fun p hp => by
          obtain ⟨b, e, hle⟩ := h1 p hp
          rw [hb] at e; cases e; exact hle
        by_cases hlt : size < bs
        · exact ⟨(size, j), by simp [hlt], Nat.le_refl _, fun p hp => Nat.le_trans (Nat.le_of_lt hlt) (hold p hp), by simp⟩
        · exact ⟨(bs, bj), by simp [hlt], Nat.le_of_not_lt hlt, hold, List.mem_append_left _ (h2 _ hb)⟩
    refine ⟨fun p hp => ⟨b', hb', ?_⟩, fun b e => ?_⟩
    · rcases List.mem_append.mp hp with hp | hp
      · exact hold p hp
      · cases List.mem_singleton.mp hp; exact hle
    · cases hb'.symm.trans e; exact hmem

/-- **best_is_min**: on every schedule the size kept in the holder is a lower bound of every finished candidate's size and is the
size of one of them (which one among equals depends on the finishing order: only nbThreads ≤ 1 makes the choice deterministic) -/
theorem best_is_min (evs : List BEv) : ∀ (s s' : Best),
    (∀ p ∈ s.finished, ∃ b, s.best = some b ∧ b.1 ≤ p.2) → (∀ b, s.best = some b → (b.2, b.1) ∈ s.finished) →
    brun s evs = some s' →
    (∀ p ∈ s'.finished, ∃ b, s'.best = some b ∧ b.1 ≤ p.2) ∧ (∀ b, s'.best = some b → (b.2, b.1) ∈ s'.finished) :=
  fun s s' h1 h2 hr => brun_induct best_step evs s s' ⟨h1, h2⟩ hr

/-! ### the legacy trainer's candidate table (ZDICT_insertDictItem, tied at function level by `dins`) -/

theorem insertFromEnd_length (e : DictItem) (rev : List DictItem) : (insertFromEnd e rev).length = rev.length + 1 := by
  induction rev with
  | nil => simp [insertFromEnd]
  | cons x rest ih =>
    unfold insertFromEnd
    split <;> simp [ih]

/-- **table_insert_bounded** (memory safety of the insertion): in a table of `maxSize ≥ 2` slots holding at most `maxSize - 1` entries besides slot 0, an insertion
leaves at most `maxSize - 1` entries: the new table->pos (entries + 1) is at most `maxSize`, every slot written has an index ≤ maxSize - 1 - also when the table
was full (the lowest-ranked entry is dropped, not pushed to slot `maxSize`). -/
theorem table_insert_bounded (maxSize : Nat) (t : List DictItem) (e : DictItem) (hm : 2 ≤ maxSize) :
    (insertItem maxSize t e).length + 1 ≤ maxSize ∧ (insertItem maxSize t e).length ≤ t.length + 1 ∧
    (t.length + 1 < maxSize → (insertItem maxSize t e).length = t.length + 1) := by
  unfold insertItem
  rw [List.length_reverse, insertFromEnd_length, List.length_reverse, List.length_take]
  refine ⟨by omega, by omega, by omega⟩

theorem table_insertAll_bounded (maxSize : Nat) (es : List DictItem) (hm : 2 ≤ maxSize) : (insertAll maxSize es).length + 1 ≤ maxSize := by
  unfold insertAll
  suffices h : ∀ (t : List DictItem), t.length + 1 ≤ maxSize → (es.foldl (insertItem maxSize) t).length + 1 ≤ maxSize from h [] (by simp; omega)
  induction es with
  | nil => intro t ht; simpa using ht
  | cons e rest ih => intro t _; exact ih _ (table_insert_bounded maxSize t e hm).1

theorem mem_insertFromEnd {e x : DictItem} {rev : List DictItem} : x ∈ insertFromEnd e rev ↔ x = e ∨ x ∈ rev := by
  induction rev with
  | nil => simp [insertFromEnd]
  | cons y rest ih =>
    unfold insertFromEnd
    split
    · simp only [List.mem_cons, ih]; exact or_left_comm
    · simp only [List.mem_cons]

/-- the new candidate is always in the table afterwards (it replaces the lowest-ranked entry of a full table even when it ranks lower still), and nothing else is
added: every other entry was there before -/
theorem table_insert_mem (maxSize : Nat) (t : List DictItem) (e : DictItem) :
    e ∈ insertItem maxSize t e ∧ ∀ x ∈ insertItem maxSize t e, x = e ∨ x ∈ t := by
  unfold insertItem
  refine ⟨List.mem_reverse.mpr (mem_insertFromEnd.mpr (.inl rfl)), fun x hx => ?_⟩
  exact (mem_insertFromEnd.mp (List.mem_reverse.mp hx)).imp_right fun h => List.mem_of_mem_take (List.mem_reverse.mp h)

/-- rank order of the used slots: savings never increase from slot 1 on -/
def Ranked (t : List DictItem) : Prop := t.Pairwise (fun a b => b.savings ≤ a.savings)

theorem insertFromEnd_ascending (e : DictItem) (rev : List DictItem) (h : rev.Pairwise (fun a b => a.savings ≤ b.savings)) :
    (insertFromEnd e rev).Pairwise (fun a b => a.savings ≤ b.savings) := by
  induction rev with
  | nil => simp [insertFromEnd]
  | cons x rest ih =>
    have hx : ∀ y ∈ rest, x.savings ≤ y.savings := fun y hy => List.rel_of_pairwise_cons h hy
    have hr := List.Pairwise.of_cons h
    unfold insertFromEnd
    split
    · refine List.pairwise_cons.mpr ⟨fun y hy => ?_, ih hr⟩
      rcases mem_insertFromEnd.mp hy with rfl | h
      · omega
      · exact hx y h
    · refine List.pairwise_cons.mpr ⟨fun y hy => ?_, h⟩
      rcases List.mem_cons.mp hy with rfl | h
      · omega
      · have := hx y h; omega

/-- **table_insert_ranked**: the insertion keeps the rank order (what the size limit and the content builder of the legacy trainer rely on: best segments first) -/
theorem table_insert_ranked (maxSize : Nat) (t : List DictItem) (e : DictItem) (h : Ranked t) : Ranked (insertItem maxSize t e) := by
  unfold Ranked insertItem
  rw [List.pairwise_reverse]
  apply insertFromEnd_ascending
  rw [List.pairwise_reverse]
  exact List.Pairwise.sublist (List.take_sublist _ _) h

example : (insertAll 4 [⟨0, 5⟩, ⟨1, 9⟩, ⟨2, 1⟩, ⟨3, 7⟩, ⟨4, 7⟩, ⟨5, 3⟩]).map (·.id) = [1, 3, 5] := by decide
example : (insertAll 2 [⟨0, 5⟩, ⟨1, 9⟩, ⟨2, 1⟩]).map (·.id) = [2] := by decide      -- one usable slot: the newest candidate always takes it

example : finalizeLayout 100 2950 3000 = some (3000, 0, 2900) ∧ finalizeLayout 100 3 3000 = some (108, 5, 3) ∧ finalizeLayout 100 50 104 = none := by decide
example : (brun {} [.dispatch 0, .dispatch 1, .finish 1 90, .finish 0 70, .waitReturn]).map (·.best) = some (some (70, 0)) := by decide
example : brun {} [.dispatch 0, .waitReturn] = none := by decide      -- the wait cannot return while a counted job is outstanding

end ZstdVerif.Props.C18
