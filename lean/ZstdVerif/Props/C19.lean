/-
C19 — the command-line tool: the sparse writer reproduces the bytes exactly; the file-operation protocol never loses data
at any kill point.
-/
import ZstdVerif.Model.Sparse
import ZstdVerif.Model.Cli
namespace ZstdVerif.Props.C19
open ZstdVerif ZstdVerif.Sparse

/-! ### sparse writer -/

theorem eq_replicate_of_all_zero {l : Bytes} (h : l.all (· == 0) = true) : l = List.replicate l.length 0 :=
  List.eq_replicate_iff.mpr ⟨rfl, fun x hx => by simpa using List.all_eq_true.mp h x hx⟩

theorem zeroWords_spec (b : Bytes) : b.take (8 * zeroWords b) = List.replicate (8 * zeroWords b) 0 := by
  fun_induction zeroWords b with
  | case1 b h ih =>
    have h8 : b.take 8 = List.replicate 8 0 := by
      have := eq_replicate_of_all_zero h.2
      rwa [List.length_take, Nat.min_eq_left h.1] at this
    rw [Nat.mul_add, List.take_add, h8, ih, List.replicate_append_replicate]
  | case2 b h => rfl

theorem takeWhile_zero (r : Bytes) :
    r.take (r.takeWhile (· == 0)).length = List.replicate (r.takeWhile (· == 0)).length 0 := by
  rw [← List.prefix_iff_eq_take.mp (List.takeWhile_prefix _)]
  exact eq_replicate_of_all_zero List.all_takeWhile

/-- everything handed to the writer so far: the materialised content, then the pending zeros -/
def written (s : St) : Bytes := s.content ++ List.replicate s.skips 0

theorem written_skip (s : St) (z : Nat) :
    written { s with skips := s.skips + z } = written s ++ List.replicate z 0 := by
  simp only [written, List.append_assoc, List.replicate_append_replicate]

theorem written_seekWrite (s : St) (d : Bytes) : written (seekWrite s d) = written s ++ d := by
  simp only [written, seekWrite, List.replicate_zero, List.append_nil]

/-- the step `segment` and `tail` share: `z` leading zeros of `b` join the pending skip, the rest of `b`, if any, is written -/
def skipWrite (s : St) (z : Nat) (b : Bytes) : St :=
  if z = b.length then { s with skips := s.skips + z } else seekWrite { s with skips := s.skips + z } (b.drop z)

theorem written_skipWrite {s : St} {z : Nat} {b : Bytes} (hz : b.take z = List.replicate z 0) :
    written (skipWrite s z b) = written s ++ b := by
  unfold skipWrite
  split
  · next h => rw [written_skip, ← hz, h, List.take_length]
  · rw [written_seekWrite, written_skip, List.append_assoc, ← hz, List.take_append_drop]

theorem written_segment (s : St) (seg : Bytes) : written (segment s seg) = written s ++ seg :=
  written_skipWrite (s := s) (zeroWords_spec seg)

theorem written_body (s : St) (b : Bytes) : written (body s b) = written s ++ b := by
  fun_induction body s b with
  | case1 s => rw [List.append_nil]
  | case2 s b h ih => rw [ih, written_segment, List.append_assoc, List.take_append_drop]

theorem written_tail (s : St) (rest : Bytes) : written (tail s rest) = written s ++ rest := by
  unfold tail
  split
  · next h => rw [h, List.append_nil]
  · exact written_skipWrite (s := s) (takeWhile_zero rest)

theorem written_writeBuf (s : St) (buf : Bytes) : written (writeBuf s buf) = written s ++ buf := by
  rw [writeBuf, written_tail, written_body, List.append_assoc, List.take_append_drop]

theorem written_foldl (bufs : List Bytes) (s : St) :
    written (bufs.foldl writeBuf s) = written s ++ bufs.flatten := by
  induction bufs generalizing s with
  | nil => rw [List.flatten_nil, List.append_nil, List.foldl_nil]
  | cons b bs ih => rw [List.foldl_cons, ih, written_writeBuf, List.flatten_cons, List.append_assoc]

theorem finish_spec (s : St) : (finish s).content = written s ∧ (finish s).skips = 0 := by
  unfold finish written
  split
  · next h =>
    obtain ⟨n, hn⟩ : ∃ n, s.skips = n + 1 := ⟨s.skips - 1, by omega⟩
    simp only [hn, Nat.add_sub_cancel, List.replicate_succ', List.append_assoc, and_self]
  · next h =>
    have h0 : s.skips = 0 := by omega
    simp only [h0, List.replicate_zero, List.append_nil, and_self]

/-- **sparse_eq_dense**: after AIO_fwriteSparseEnd the file holds exactly the bytes the plain writer would have written, for buffers
of any sizes and contents -/
theorem sparse_eq_dense (bufs : List Bytes) : (writeAll bufs).content = bufs.flatten ∧ (writeAll bufs).skips = 0 :=
  ⟨by rw [writeAll, (finish_spec _).1, written_foldl]; rfl, (finish_spec _).2⟩

example : (writeAll [[0,0,0,0,0,0,0,0, 0,0,0,0,0,0,0,0, 0,0,5], [0,0,0]]).content.length = 22 := by rw [(sparse_eq_dense _).1]; rfl

/-! ### length view (Model/Sparse.lean `LSt`) and zero runs of any length -/

/-- `n`: length of the buffer -/
def skipWriteL (l : LSt) (z n : Nat) : LSt :=
  if z = n then { l with skips := l.skips + z } else seekWriteL { l with skips := l.skips + z } (n - z)

theorem abs_seekWrite (s : St) (d : Bytes) : (seekWrite s d).abs = seekWriteL s.abs d.length := by
  simp [seekWrite, seekWriteL, St.abs, Nat.add_assoc]

theorem abs_skipWrite (s : St) (z : Nat) (b : Bytes) : (skipWrite s z b).abs = skipWriteL s.abs z b.length := by
  unfold skipWrite skipWriteL
  split
  · rfl
  · rw [abs_seekWrite, List.length_drop]; rfl

theorem abs_segment (s : St) (seg : Bytes) : (segment s seg).abs = segmentL s.abs seg :=
  abs_skipWrite s _ seg

theorem abs_body (s : St) (b : Bytes) : (body s b).abs = bodyL s.abs b := by
  fun_induction body s b with
  | case1 s => rw [bodyL, dif_pos rfl]
  | case2 s b h ih => rw [ih, abs_segment, bodyL.eq_def s.abs, dif_neg h]

theorem abs_tail (s : St) (rest : Bytes) : (tail s rest).abs = tailL s.abs rest := by
  unfold tail tailL
  split
  · rfl
  · exact abs_skipWrite s _ rest

theorem abs_writeBuf (s : St) (buf : Bytes) : (writeBuf s buf).abs = writeBufL s.abs buf := by
  rw [writeBuf, writeBufL, abs_tail, abs_body]

theorem abs_finish (s : St) : (finish s).abs = finishL s.abs := by
  unfold finish finishL
  rw [show s.abs.skips = s.skips from rfl]
  split
  · next h =>
    simp only [St.abs, List.length_append, List.length_replicate, List.length_singleton, LSt.mk.injEq, and_true]
    omega
  · rfl

theorem abs_foldl (bufs : List Bytes) (s : St) : (bufs.foldl writeBuf s).abs = bufs.foldl writeBufL s.abs := by
  induction bufs generalizing s with
  | nil => rfl
  | cons b bs ih => rw [List.foldl_cons, ih, abs_writeBuf, List.foldl_cons]

/-- the length view computes exactly the size, pending skip and seek / write calls of the byte-level writer -/
theorem abs_writeAll (bufs : List Bytes) : (writeAll bufs).abs = finishL (bufs.foldl writeBufL {}) := by
  rw [writeAll, abs_finish, abs_foldl]; rfl

theorem zeroWords_replicate (k : Nat) : zeroWords (List.replicate (8 * k) 0) = k := by
  induction k with
  | zero => rw [zeroWords, dif_neg (by simp)]
  | succ k ih =>
    rw [zeroWords, dif_pos ⟨by simp; omega, by simp [List.take_replicate]⟩, List.drop_replicate,
      show 8 * (k + 1) - 8 = 8 * k by omega, ih, Nat.add_comm]

theorem skipWriteL_self (l : LSt) (n : Nat) : skipWriteL l n n = { l with skips := l.skips + n } :=
  if_pos rfl

theorem segmentL_zeros (l : LSt) (j : Nat) :
    segmentL l (List.replicate (8 * j) 0) = { l with skips := l.skips + 8 * j } := by
  rw [← skipWriteL_self, segmentL, zeroWords_replicate, List.length_replicate]; rfl

theorem bodyL_zeros (k : Nat) (l : LSt) : bodyL l (List.replicate (8 * k) 0) = { l with skips := l.skips + 8 * k } := by
  induction k using Nat.strongRecOn generalizing l with
  | _ k ih =>
    rw [bodyL]
    split
    · next h =>
      obtain rfl : k = 0 := by simp at h; omega
      rfl
    · next h =>
      have hk : k ≠ 0 := fun h0 => h (by rw [h0]; rfl)
      -- a segment of zeros is 4096 words, or all that is left
      rw [List.take_replicate, List.drop_replicate, show segmentSize = 8 * 4096 from rfl, Nat.mul_min_mul_left, ← Nat.mul_sub,
        segmentL_zeros, ih (k - 4096) (by omega)]
      simp only [LSt.mk.injEq, and_true, true_and]
      omega

theorem tailL_zeros (l : LSt) (r : Nat) : tailL l (List.replicate r 0) = { l with skips := l.skips + r } := by
  unfold tailL
  split
  · next h =>
    obtain rfl : r = 0 := by simpa using h
    rfl
  · have htw : (List.replicate r (0 : UInt8)).takeWhile (· == 0) = List.replicate r 0 :=
      List.takeWhile_replicate.trans (if_pos rfl)
    rw [htw, List.length_replicate]
    exact skipWriteL_self l r

/-- **a buffer of zeros issues nothing**, whatever its size and whatever is pending -/
theorem writeBufL_zeros (l : LSt) (n : Nat) : writeBufL l (List.replicate n 0) = { l with skips := l.skips + n } := by
  rw [writeBufL, List.length_replicate, List.take_replicate, List.drop_replicate,
    Nat.min_eq_left (Nat.mul_div_le n 8), bodyL_zeros, tailL_zeros]
  simp only [LSt.mk.injEq, and_true, true_and]
  omega

/-- the run-length shortcut of the driver is the fold over the individual zero buffers -/
theorem zerosL_eq (n count : Nat) : ∀ l : LSt, zerosL l n count = (List.replicate count (List.replicate n 0)).foldl writeBufL l := by
  induction count with
  | zero => intro l; rfl
  | succ c ih =>
    intro l
    rw [List.replicate_succ, List.foldl_cons, writeBufL_zeros, ← ih]
    simp only [zerosL, Nat.mul_succ, LSt.mk.injEq, and_true, true_and]
    omega

theorem writeItemL_eq (l : LSt) (it : Item) : writeItemL l it = it.expand.foldl writeBufL l := by
  cases it with
  | data b => rfl
  | zeros n count => exact zerosL_eq n count l

theorem foldl_items (items : List Item) (l : LSt) :
    items.foldl writeItemL l = (items.flatMap Item.expand).foldl writeBufL l := by
  induction items generalizing l with
  | nil => rfl
  | cons it its ih => rw [List.foldl_cons, List.flatMap_cons, List.foldl_append, ih, writeItemL_eq]

/-- **sparse_big**: on a run-length coded sequence (zero runs of any length: 4 GiB, 8 GiB, ...) the driver computes the size and the
calls of the byte-level writer on the expanded buffers, and no zero is lost: the pending skip never wraps -/
theorem sparse_big (items : List Item) :
    writeAllL items = (writeAll (items.flatMap Item.expand)).abs ∧
    (writeAllL items).size = ((items.flatMap Item.expand).flatten).length := by
  have h : writeAllL items = (writeAll (items.flatMap Item.expand)).abs := by
    rw [abs_writeAll, writeAllL, foldl_items]
  exact ⟨h, by rw [h, St.abs, (sparse_eq_dense _).1]⟩

/-! ### file-operation protocol -/

open Cli

/-- the user's data for `src` is recoverable: the source is still there untouched, or the destination has been written
completely and closed -/
def Recoverable (fs : FS) (src dst : String) : Prop := fs src = .old ∨ fs dst = .done

@[simp] theorem touches_openR (p : String) : touches (.openR p) = [] := rfl
@[simp] theorem touches_openW (p : String) : touches (.openW p) = [p] := rfl
@[simp] theorem touches_close (p : String) (c : Bool) : touches (.close p c) = if c then [p] else [] := by cases c <;> rfl
@[simp] theorem touches_unlink (p : String) : touches (.unlink p) = [p] := rfl
@[simp] theorem touches_sigOn (p : String) : touches (.sigOn p) = [] := rfl
@[simp] theorem touches_sigOff : touches .sigOff = [] := rfl
@[simp] theorem touches_exit (c : Nat) : touches (.exit c) = [] := rfl

theorem exec_append (fs : FS) (a b : List Op) : exec fs (a ++ b) = exec (exec fs a) b :=
  List.foldl_append

theorem execOp_untouched (fs : FS) {op : Op} {p : String} (h : p ∉ touches op) : execOp fs op p = fs p := by
  cases op with
  | openW q => exact if_neg (by simpa using h)
  | unlink q => exact if_neg (by simpa using h)
  | close q c => cases c with
    | true => exact if_neg (by simpa using h)
    | false => rfl
  | _ => rfl

theorem exec_untouched {ops : List Op} (fs : FS) {p : String} (h : ∀ op ∈ ops, p ∉ touches op) : exec fs ops p = fs p := by
  induction ops generalizing fs with
  | nil => rfl
  | cons o os ih =>
    rw [exec, List.foldl_cons, ← exec, ih _ fun op hop => h op (List.mem_cons_of_mem _ hop)]
    exact execOp_untouched fs (h o List.mem_cons_self)

theorem exec_take_untouched {ops : List Op} (fs : FS) {p : String} (h : ∀ op ∈ ops, p ∉ touches op) (k : Nat) :
    exec fs (ops.take k) p = fs p :=
  exec_untouched fs fun op hop => h op (List.mem_of_mem_take hop)

theorem interruptOps_snoc (l : List Op) (o : Op) :
    interruptOps (l ++ [o]) = match o with | .sigOn d => some d | .sigOff => none | _ => interruptOps l := by
  unfold interruptOps
  rw [List.foldl_append]
  cases o <;> rfl

/-- operations that leave the handler as it is -/
def Quiet (l : List Op) : Prop := ∀ o ∈ l, (∀ d, o ≠ .sigOn d) ∧ o ≠ .sigOff

theorem Quiet.take {l : List Op} (h : Quiet l) (j : Nat) : Quiet (l.take j) :=
  fun o ho => h o (List.mem_of_mem_take ho)

theorem interruptOps_append_quiet (a l : List Op) (hl : Quiet l) : interruptOps (a ++ l) = interruptOps a := by
  induction l generalizing a with
  | nil => rw [List.append_nil]
  | cons o l ih =>
    rw [List.append_cons, ih _ fun x hx => hl x (List.mem_cons_of_mem _ hx), interruptOps_snoc]
    have := hl o List.mem_cons_self
    cases o <;> simp_all

/-- the handler is armed exactly when `sigOn` is the last operation performed: before it and from `sigOff` on it is not -/
theorem interruptOps_take_window {a b : List Op} {d t : String} {k : Nat} (ha : Quiet a) (hb : Quiet b)
    (h : interruptOps ((a ++ .sigOn d :: .sigOff :: b).take k) = some t) :
    t = d ∧ (a ++ .sigOn d :: .sigOff :: b).take k = a ++ [.sigOn d] := by
  rw [List.take_append] at h ⊢
  generalize hj : k - a.length = j at h ⊢
  match j with
  | 0 =>
    rw [List.take_zero, List.append_nil, ← List.nil_append (a.take k), interruptOps_append_quiet _ _ (ha.take k)] at h
    cases h
  | 1 =>
    rw [List.take_of_length_le (by omega)] at h ⊢
    rw [List.take_succ_cons, List.take_zero, interruptOps_snoc] at h
    exact ⟨(Option.some.inj h).symm, rfl⟩
  | j + 2 =>
    rw [List.take_succ_cons, List.take_succ_cons, List.append_cons, List.append_cons, interruptOps_append_quiet _ _ (hb.take j),
      interruptOps_snoc] at h
    cases h

/-- The forms `fileOps` takes for a source with a destination: the source is only read (test mode, stdout, refusal to overwrite),
or `b` opens both files, removing an existing destination first, the handler window follows, and `fin` closes, and removes what
must not stay. -/
theorem fileOps_shape {inv : Inv} (env : Env) {src dst : String} (hd : dstOf inv src = some dst) :
    (fileOps inv env src).1 = [.openR src, .close src false] ∨
    ∃ b fin, (fileOps inv env src).1 = b ++ .sigOn dst :: .sigOff :: fin ∧ Quiet b ∧ (∀ o ∈ b, ∀ p ∈ touches o, p = dst) ∧
      (fin = [.close dst false, .unlink dst, .close src false] ∨ fin = [.close dst true, .close src false] ∨
        fin = [.close dst true, .close src false, .unlink src] ∧ env.codecOk src = true ∧ rmActive inv = true) := by
  have hb : ∀ b, b = .openR src :: (if env.dstExists dst then [.unlink dst] else []) ++ [.openW dst] →
      Quiet b ∧ ∀ o ∈ b, ∀ p ∈ touches o, p = dst := by
    rintro _ rfl
    by_cases c3 : env.dstExists dst = true <;> simp [c3, Quiet]
  obtain ⟨hq, ht⟩ := hb _ rfl
  unfold fileOps
  simp only [hd]
  by_cases c1 : (inv.mode == Mode.test || inv.toStdout) = true
  · exact .inl (by rw [if_pos c1])
  by_cases c2 : (env.dstExists dst && !overwriteOk inv) = true
  · exact .inl (by rw [if_neg c1, if_pos c2])
  rw [if_neg c1, if_neg c2]
  by_cases hok : env.codecOk src = true
  · by_cases hrm : rmActive inv = true
    · rw [if_pos hok, if_pos hrm]
      exact .inr ⟨_, _, by simp, hq, ht, .inr (.inr ⟨rfl, hok, hrm⟩)⟩
    · rw [if_pos hok, if_neg hrm]
      exact .inr ⟨_, _, by simp, hq, ht, .inr (.inl rfl)⟩
  · rw [if_neg hok]
    exact .inr ⟨_, _, by simp, hq, ht, .inl rfl⟩

theorem fileOps_untouched {inv : Inv} (env : Env) {f p : String} (hp : p ≠ f ∧ dstOf inv f ≠ some p) :
    ∀ op ∈ (if env.srcExists f then (fileOps inv env f).1 else []), p ∉ touches op := by
  split
  · cases hd : dstOf inv f with
    | none =>
      unfold fileOps
      simp only [hd]
      split <;> simp
    | some dst =>
      have hpd : p ≠ dst := fun h => hp.2 (hd ▸ h ▸ rfl)
      obtain h | ⟨b, fin, h, -, hb, hfin⟩ := fileOps_shape env hd <;> rw [h]
      · simp
      · refine List.forall_mem_append.mpr ⟨fun o ho hpo => hpd (hb o ho p hpo), ?_⟩
        rcases hfin with rfl | rfl | ⟨rfl, -, -⟩ <;> simp [hp.1, hpd]
  · exact nofun

/-- Nothing touches the source except its removal, and that comes last, after the close that completes the destination. -/
theorem fileOps_src {inv : Inv} (env : Env) {src dst : String} (hd : dstOf inv src = some dst) (hne : dst ≠ src) :
    ∃ a, (∀ op ∈ a, src ∉ touches op) ∧
      ((fileOps inv env src).1 = a ∨
        (fileOps inv env src).1 = a ++ [.unlink src] ∧ env.codecOk src = true ∧ rmActive inv = true ∧
          .close dst true ∈ a ∧ ∀ fs, exec fs a dst = .done) := by
  have hne' : src ≠ dst := fun h => hne h.symm
  obtain h | ⟨b, fin, h, -, hb, hfin⟩ := fileOps_shape env hd
  · exact ⟨_, by simp, .inl h⟩
  · have hb' : ∀ op ∈ b, src ∉ touches op := fun op hop hs => hne' (hb op hop src hs)
    rcases hfin with rfl | rfl | ⟨rfl, hok, hrm⟩
    · exact ⟨_, List.forall_mem_append.mpr ⟨hb', by simp [hne']⟩, .inl h⟩
    · exact ⟨_, List.forall_mem_append.mpr ⟨hb', by simp [hne']⟩, .inl h⟩
    · refine ⟨b ++ [.sigOn dst, .sigOff, .close dst true, .close src false],
        List.forall_mem_append.mpr ⟨hb', by simp [hne']⟩, .inr ⟨by simpa using h, hok, hrm, by simp, fun fs => ?_⟩⟩
      rw [exec_append]
      simp [exec, execOp]

/-- **file_never_loses** (one file): at EVERY prefix of the operations for a source - wherever the process is killed - the source is
intact or the destination is complete -/
theorem file_never_loses (inv : Inv) (env : Env) (src dst : String) (hd : dstOf inv src = some dst) (hne : dst ≠ src)
    (fs0 : FS) (h0 : fs0 src = .old) (k : Nat) :
    Recoverable (exec fs0 ((fileOps inv env src).1.take k)) src dst := by
  obtain ⟨a, ha, h⟩ := fileOps_src env hd hne
  -- while only `a` has run the source is as it was
  have hold : Recoverable (exec fs0 (a.take k)) src dst :=
    .inl ((exec_take_untouched _ ha k).trans h0)
  rcases h with h | ⟨h, -, -, -, hdone⟩ <;> rw [h]
  · exact hold
  · by_cases hk : k ≤ a.length
    · rwa [List.take_append_of_le_length hk]
    · rw [List.take_of_length_le (by rw [List.length_append]; exact Nat.not_le.mp hk), exec_append]
      exact .inr ((execOp_untouched (op := .unlink src) _ (by simpa using hne)).trans (hdone fs0))

/-- **src_removed_only_after_close**: the source is unlinked only in runs where the codec succeeded, and then only after the
destination has been closed complete (it is the last operation for that file) -/
theorem src_removed_only_after_close (inv : Inv) (env : Env) (src dst : String) (hd : dstOf inv src = some dst) (hne : dst ≠ src)
    (hu : Op.unlink src ∈ (fileOps inv env src).1) :
    env.codecOk src = true ∧ rmActive inv = true ∧
    ∃ pre, (fileOps inv env src).1 = pre ++ [Op.unlink src] ∧ Op.close dst true ∈ pre ∧ Op.unlink src ∉ pre := by
  have hself : src ∈ touches (.unlink src) := List.mem_singleton.mpr rfl
  obtain ⟨a, ha, h | ⟨h, hok, hrm, hcl, -⟩⟩ := fileOps_src env hd hne
  · exact absurd hself (ha _ (h ▸ hu))
  · exact ⟨hok, hrm, a, h, hcl, fun hm => ha _ hm hself⟩

/-- **rm_disabled_when_unsafe**: with the output on stdout or in test mode no source is ever removed, whatever --rm says -/
theorem rm_disabled_when_unsafe (inv : Inv) (env : Env) (src : String) (h : inv.toStdout = true ∨ inv.mode = .test) :
    ∀ p, Op.unlink p ∉ (fileOps inv env src).1 := by
  intro p
  have : (inv.mode == Mode.test || inv.toStdout) = true := by
    rcases h with h | h <;> simp [h]
  simp [fileOps, this]

/-- **no_clobber**: a destination that exists is neither opened for writing nor removed unless -f was given or the user answered "y" to the
question, which is only asked at display level >= 2 (`overwriteOk`); the file counts as failed -/
theorem no_clobber (inv : Inv) (env : Env) (src dst : String) (hd : dstOf inv src = some dst)
    (hout : (inv.mode == Mode.test || inv.toStdout) = false) (hex : env.dstExists dst = true) (hf : overwriteOk inv = false) :
    (fileOps inv env src).2 = false ∧ Op.openW dst ∉ (fileOps inv env src).1 ∧ Op.unlink dst ∉ (fileOps inv env src).1 := by
  simp [fileOps, hd, hout, hex, hf]

/-- **failure_leaves_no_artefact**: when the codec rejects the input, the partial destination is removed, the source stays, the
file counts as failed -/
theorem failure_leaves_no_artefact (inv : Inv) (env : Env) (src dst : String) (hd : dstOf inv src = some dst) (hne : dst ≠ src)
    (hout : (inv.mode == Mode.test || inv.toStdout) = false) (hgo : (env.dstExists dst && !overwriteOk inv) = false)
    (hbad : env.codecOk src = false) (fs0 : FS) (h0 : fs0 src = .old) :
    (fileOps inv env src).2 = false ∧ exec fs0 (fileOps inv env src).1 dst = .absent ∧ exec fs0 (fileOps inv env src).1 src = .old := by
  have hne' : src ≠ dst := fun h => hne h.symm
  unfold fileOps
  simp only [hd, hout, hgo, hbad]
  by_cases c3 : env.dstExists dst = true <;> simp [c3, exec, execOp, h0, hne']

/-- **interrupt_safe**: whenever the SIGINT handler is armed, its target is the destination being written, never the source, and
the source has not been removed yet -/
theorem interrupt_safe (inv : Inv) (env : Env) (src dst : String) (hd : dstOf inv src = some dst) (hne : dst ≠ src)
    (fs0 : FS) (h0 : fs0 src = .old) (k : Nat) (t : String)
    (ht : interruptOps ((fileOps inv env src).1.take k) = some t) :
    t = dst ∧ exec fs0 ((fileOps inv env src).1.take k) src = .old := by
  have hne' : src ≠ dst := fun h => hne h.symm
  obtain h | ⟨b, fin, h, hbq, hb, hfin⟩ := fileOps_shape env hd <;> rw [h] at ht ⊢
  · have hq : Quiet [Op.openR src, .close src false] := by simp [Quiet]
    rw [← List.nil_append (List.take _ _), interruptOps_append_quiet _ _ (hq.take k)] at ht
    cases ht
  · have hfq : Quiet fin := by rcases hfin with rfl | rfl | ⟨rfl, -, -⟩ <;> simp [Quiet]
    -- the prefix ends with `sigOn dst`, and up to there only the destination has been touched
    obtain ⟨rfl, hk⟩ := interruptOps_take_window hbq hfq ht
    refine ⟨rfl, ?_⟩
    rw [hk, exec_untouched _ (List.forall_mem_append.mpr ⟨fun o ho hs => hne' (hb o ho src hs), by simp⟩), h0]

/-! ### the whole run: several files, one after the other -/

/-- sources and destinations of one run do not collide: no destination is also a source, two sources have different destinations -/
def Separate (inv : Inv) (files : List String) : Prop :=
  ∀ f ∈ files, ∀ d, dstOf inv f = some d → (∀ g ∈ files, d ≠ g) ∧ (∀ g ∈ files, g ≠ f → dstOf inv g ≠ some d)

theorem allOps_cons (inv : Inv) (env : Env) (f : String) (fs : List String) :
    (allOps inv env (f :: fs)).1 = (if env.srcExists f then (fileOps inv env f).1 else []) ++ (allOps inv env fs).1 := by
  simp only [allOps]
  split <;> rfl

theorem allOps_untouched {inv : Inv} (env : Env) {files : List String} {p : String}
    (hp : ∀ g ∈ files, p ≠ g ∧ dstOf inv g ≠ some p) : ∀ op ∈ (allOps inv env files).1, p ∉ touches op := by
  induction files with
  | nil => intro op hop; cases hop
  | cons f fs ih =>
    rw [allOps_cons]
    exact List.forall_mem_append.mpr ⟨fileOps_untouched env (hp f List.mem_cons_self),
      ih fun g hg => hp g (List.mem_cons_of_mem _ hg)⟩

/-- **program_never_loses** (the files one after the other, without the final `exit`): at every kill point of the run, whichever file
is being processed, each source that existed is intact or its destination is complete -/
theorem program_never_loses (inv : Inv) (env : Env) : ∀ (files : List String) (fs0 : FS), files.Nodup → Separate inv files →
    (∀ f ∈ files, fs0 f = .old) → ∀ (k : Nat) (f : String), f ∈ files → env.srcExists f = true → ∀ d, dstOf inv f = some d →
    Recoverable (exec fs0 ((allOps inv env files).1.take k)) f d := by
  intro files
  induction files with
  | nil => intro fs0 _ _ _ k f hf; cases hf
  | cons f0 rest ih =>
    intro fs0 hnd hsep hold k f hf hex d hd
    obtain ⟨hf0, hnd'⟩ := List.nodup_cons.mp hnd
    have hin : ∀ {g}, g ∈ rest → g ∈ f0 :: rest := List.mem_cons_of_mem _
    rw [allOps_cons, List.take_append, exec_append]
    rcases List.mem_cons.mp hf with rfl | hfr
    · -- the first file: its own operations keep it recoverable, those of the later files reach neither it nor its destination
      obtain ⟨hd1, hd2⟩ := hsep f List.mem_cons_self d hd
      have hf' := allOps_untouched env (files := rest) (p := f) fun g hg =>
        ⟨fun h => hf0 (h ▸ hg), fun h => (hsep g (hin hg) f h).1 f List.mem_cons_self rfl⟩
      have hd' := allOps_untouched env (files := rest) (p := d) fun g hg => ⟨hd1 g (hin hg), hd2 g (hin hg) fun h => hf0 (h ▸ hg)⟩
      unfold Recoverable
      rw [exec_take_untouched _ hf', exec_take_untouched _ hd', if_pos hex]
      exact file_never_loses inv env f d hd (fun h => hd1 f List.mem_cons_self h) fs0 (hold f List.mem_cons_self) k
    · -- a later file: the operations of the first leave every later source as it was
      refine ih _ hnd' (fun g hg d' hd' => ?_) (fun g hg => ?_) _ f hfr hex d hd
      · exact (hsep g (hin hg) d' hd').imp (fun a x hx => a x (hin hx)) (fun b x hx => b x (hin hx))
      · rw [exec_take_untouched _ (fileOps_untouched env (f := f0)
          ⟨fun h => hf0 (h ▸ hg), fun h => (hsep f0 List.mem_cons_self g h).1 g (hin hg) rfl⟩)]
        exact hold g (hin hg)

/-! ### several inputs into one destination (-o FILE) -/

theorem srcOps_touches (env : Env) (files : List String) : ∀ op ∈ (srcOps env files).1, touches op = [] := by
  induction files with
  | nil => intro op hop; cases hop
  | cons f fs ih =>
    simp only [srcOps]
    split
    · exact List.forall_mem_append.mpr ⟨by simp, ih⟩
    · exact ih

theorem srcOps_no_unlink (env : Env) (files : List String) (p : String) : Op.unlink p ∉ (srcOps env files).1 :=
  fun h => List.cons_ne_nil _ _ (srcOps_touches env files _ h)

theorem program_shared_touches {inv : Inv} (env : Env) {out : String} (h : sharedOut inv = some out) :
    ∀ op ∈ program inv env, ∀ p ∈ touches op, p = out := by
  have hsrc : ∀ op ∈ (srcOps env inv.files).1, ∀ p ∈ touches op, p = out := fun op hop p hp => by
    rw [srcOps_touches env _ op hop] at hp; cases hp
  unfold program sharedOps
  simp only [h]
  split
  · simp
  · refine List.forall_mem_append.mpr ⟨List.forall_mem_append.mpr ⟨List.forall_mem_append.mpr ⟨?_, hsrc⟩, ?_⟩, by simp⟩
    · split <;> simp
    · cases (srcOps env inv.files).2 <;> simp

/-- **shared_sources_intact**: with several inputs into the one destination named with -o, at every kill point and whatever --rm, -f,
the display level and the answer at the prompt, every source other than that destination is as it was -/
theorem shared_sources_intact (inv : Inv) (env : Env) (out : String) (fs0 : FS) (k : Nat) (f : String) (hne : f ≠ out) (h0 : fs0 f = .old) :
    sharedOut inv = some out → exec fs0 ((program inv env).take k) f = .old := by
  intro h
  rw [exec_take_untouched _ fun op hop hp => hne (program_shared_touches env h op hop f hp)]
  exact h0

/-- **rm_disabled_shared**: in that mode no source is ever unlinked: --rm is switched off, at every display level -/
theorem rm_disabled_shared (inv : Inv) (env : Env) (out : String) (h : sharedOut inv = some out) (f : String) (hne : f ≠ out) :
    Op.unlink f ∉ program inv env :=
  fun hu => hne (program_shared_touches env h _ hu f (List.mem_singleton.mpr rfl))

/-- and `rmActive` says so: removal of sources is armed only when each source has a destination of its own -/
theorem rmActive_not_shared (inv : Inv) (h : rmActive inv = true) : sharedOut inv = none := by
  unfold rmActive at h
  simp only [Bool.and_eq_true, Option.isNone_iff_eq_none] at h
  exact h.2

/-- **shared_refused**: without -f and without a "y" (never asked for at -q / -qq) nothing at all is touched and the run fails -/
theorem shared_refused (inv : Inv) (env : Env) (out : String) (h : sharedOut inv = some out) (hno : overwriteOk inv = false) :
    program inv env = [.exit 1] := by
  simp [program, h, sharedOps, hno]

/-- **never_lose_data**: `program_never_loses` for the complete program (the final `exit` changes no file).  With several inputs into
one destination two sources share their destination, so `Separate` cannot hold there: that mode is covered by `shared_sources_intact`. -/
theorem never_lose_data (inv : Inv) (env : Env) (fs0 : FS) (hnd : inv.files.Nodup) (hsep : Separate inv inv.files)
    (hold : ∀ f ∈ inv.files, fs0 f = .old) (k : Nat) (f : String) (hf : f ∈ inv.files) (hex : env.srcExists f = true)
    (d : String) (hd : dstOf inv f = some d) :
    Recoverable (exec fs0 ((program inv env).take k)) f d := by
  cases hso : sharedOut inv with
  | some out =>
    -- several inputs into one destination: that destination is `d`, and nothing else is ever touched
    have hdo : d = out := by
      unfold sharedOut at hso
      unfold dstOf at hd
      split at hso
      · next o ho => rw [ho] at hd; split at hso <;> simp_all
      · cases hso
    exact .inl (shared_sources_intact inv env out fs0 k f (fun h => (hsep f hf d hd).1 f hf (by rw [hdo, h])) (hold f hf) hso)
  | none =>
    have := program_never_loses inv env inv.files fs0 hnd hsep hold k f hf hex d hd
    unfold program
    simp only [hso]
    rw [List.take_append, exec_append]
    unfold Recoverable at this ⊢
    have hexit : ∀ c p, ∀ op ∈ [Op.exit c], p ∉ touches op := by simp
    rwa [exec_take_untouched _ (hexit _ f), exec_take_untouched _ (hexit _ d)]

example : Separate { mode := .compress, files := ["a", "b"] } ["a", "b"] := by
  intro f hf d hd
  simp [dstOf] at hd
  simp at hf
  rcases hf with rfl | rfl <;> subst hd <;> simp [dstOf] <;> decide

example : (program { mode := .compress, files := ["a"], rm := true } { dstExists := fun _ => false, srcExists := fun _ => true, codecOk := fun _ => true }) =
    [.openR "a", .openW "a.zst", .sigOn "a.zst", .sigOff, .close "a.zst" true, .close "a" false, .unlink "a", .exit 0] := by decide

example : (program { mode := .compress, files := ["a", "b"], rm := true, force := true, level := 0, outName := some "o" }
    { dstExists := fun p => p == "o", srcExists := fun _ => true, codecOk := fun _ => true }) =
    [.unlink "o", .openW "o", .openR "a", .close "a" false, .openR "b", .close "b" false, .close "o" true, .exit 0] := by decide

end ZstdVerif.Props.C19
