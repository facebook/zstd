/-
C20 — seekable format: any byte range reads back exactly.  Lookup correctness of the frame index search (binary search over the
cumulative offsets), the size and the round trip of the seek table through writer and loader (Lemmas/SeekRT.lean), and the checksum
column of the writer's frame log.
-/
import ZstdVerif.Model.Seekable
import ZstdVerif.Lemmas.SeekRT
namespace ZstdVerif.Props.C20
open ZstdVerif ZstdVerif.Seekable

/-- the binary search keeps `d lo ≤ pos < d hi`; with fuel for the interval it ends on the frame that holds `pos` -/
theorem searchLoop_correct (d : Nat → Nat) (pos : Nat) (fuel lo hi : Nat)
    (hlo : d lo ≤ pos) (hhi : pos < d hi) (hlt : lo < hi) (hf : hi - lo ≤ fuel + 1) :
    let r := searchLoop d pos fuel lo hi
    d r ≤ pos ∧ pos < d (r + 1) ∧ lo ≤ r ∧ r < hi := by
  induction fuel generalizing lo hi with
  | zero =>
    obtain rfl : hi = lo + 1 := by omega
    exact ⟨hlo, hhi, Nat.le_refl _, Nat.lt_succ_self _⟩
  | succ f ih =>
    unfold searchLoop
    split
    · -- the midpoint lies strictly between the ends, and either half is within the remaining fuel
      have hmid : lo < lo + (hi - lo) / 2 ∧ lo + (hi - lo) / 2 < hi ∧
          hi - (lo + (hi - lo) / 2) ≤ f + 1 ∧ lo + (hi - lo) / 2 - lo ≤ f + 1 := by omega
      generalize lo + (hi - lo) / 2 = mid at hmid ⊢
      obtain ⟨h1, h2, h3, h4⟩ := hmid
      simp only
      split
      · next hm =>
        obtain ⟨a, b, c, d⟩ := ih mid hi hm hhi h2 h3
        exact ⟨a, b, Nat.le_trans (Nat.le_of_lt h1) c, d⟩
      · next hm =>
        obtain ⟨a, b, c, d⟩ := ih lo mid hlo (Nat.lt_of_not_le hm) h1 h4
        exact ⟨a, b, c, Nat.lt_trans d h2⟩
    · obtain rfl : hi = lo + 1 := by omega
      exact ⟨hlo, hhi, Nat.le_refl _, Nat.lt_succ_self _⟩

/-- **lookup_correct**: inside the content the answer is the frame that contains the byte; at or beyond the end it is `n` -/
theorem lookup_correct (d : Nat → Nat) (n pos : Nat) (h0 : d 0 = 0) :
    (pos < d n → let i := offsetToFrameIndex d n pos; i < n ∧ d i ≤ pos ∧ pos < d (i + 1)) ∧
    (d n ≤ pos → offsetToFrameIndex d n pos = n) := by
  constructor
  · intro hp
    unfold offsetToFrameIndex
    rw [if_neg (by omega)]
    have hn : 0 < n := by
      rcases Nat.eq_zero_or_pos n with h | h
      · subst h; omega
      · exact h
    have := searchLoop_correct d pos n 0 n (by omega) hp hn (by omega)
    simp only at this ⊢
    exact ⟨this.2.2.2, this.1, this.2.1⟩
  · intro hp
    unfold offsetToFrameIndex
    rw [if_pos hp]

/-- the serialized table has the size its own skippable header announces (8-byte header + entries + 9-byte footer) -/
theorem serialize_length (es : List Entry) (ck : Bool) :
    (serialize es ck).length = 8 + es.length * (if ck then 12 else 8) + 9 :=
  List.length_map (f := UInt8.ofNat) ▸ Seekable.serialize_length es ck

/-- **seektable_roundtrip**: whatever precedes it in the archive, the seek table written for any entries (fields and table size below
2^32, the writer's own limit) is read back as those entries - checksums zero when the table carries none - and the checksum flag.
Writer and loader models are each tied to contrib/seekable_format on every run (tblser / tbl). -/
theorem seektable_roundtrip (pre : List UInt8) (es : List Entry) (ck : Bool) (hf : ∀ e ∈ es, Fits e)
    (hn : es.length * 12 + 17 < 4294967296) :
    load (ByteArray.mk (pre ++ toBytes (serialize es ck)).toArray) = .ok (es.map (norm ck), ck) :=
  Seekable.seektable_roundtrip pre es ck hf hn

/-- hence the cumulative offsets the reader uses are the ones of the entries that were written -/
theorem offsets_roundtrip (pre : List UInt8) (es : List Entry) (ck : Bool) (hf : ∀ e ∈ es, Fits e)
    (hn : es.length * 12 + 17 < 4294967296) :
    (load (ByteArray.mk (pre ++ toBytes (serialize es ck)).toArray)).toOption.map (fun r => r.1.map (fun e => (e.cSize, e.dSize)))
      = some (es.map (fun e => (e.cSize, e.dSize))) := by
  rw [seektable_roundtrip pre es ck hf hn]
  simp [Except.toOption, norm]
  intro e _
  cases ck <;> simp

/-- **checksum column** (the frame log of the writer, `Seekable.expectedChecksums`, tied on every run by `cks`): one 32-bit checksum per
frame of the cut, all 0 without the checksum flag.  The column is a function of the content and the frame cut only: no call history
(input chunking, output window sizes, how much of an offered chunk the inner compressor took) appears in it. -/
theorem checksum_column (x : Bytes) (ck : Bool) (off : Nat) (ds : List Nat) :
    (expectedChecksums x ck off ds).length = ds.length ∧
    (∀ c ∈ expectedChecksums x ck off ds, c < 4294967296) ∧
    (ck = false → ∀ c ∈ expectedChecksums x ck off ds, c = 0) := by
  induction ds generalizing off with
  | nil => simp [expectedChecksums]
  | cons d rest ih =>
    obtain ⟨h1, h2, h3⟩ := ih (off + d)
    have hc : frameChecksum x off d ck < 4294967296 := by
      unfold frameChecksum; split
      · exact Nat.mod_lt _ (by decide)
      · decide
    refine ⟨by simp [expectedChecksums, h1], ?_, ?_⟩
    · intro c hcm
      simp only [expectedChecksums, List.mem_cons] at hcm
      rcases hcm with rfl | hcm
      · exact hc
      · exact h2 c hcm
    · intro hk c hcm
      simp only [expectedChecksums, List.mem_cons] at hcm
      rcases hcm with rfl | hcm
      · simp [frameChecksum, hk]
      · exact h3 hk c hcm

/-- a frame's checksum is taken over exactly its own `len` bytes: the next frame's starts where this one's ends -/
theorem checksum_column_cons (x : Bytes) (ck : Bool) (off d : Nat) (rest : List Nat) :
    expectedChecksums x ck off (d :: rest) = frameChecksum x off d ck :: expectedChecksums x ck (off + d) rest := rfl

example : expectedChecksums (ByteArray.mk #[1, 2, 3]) false 0 [1, 2] = [0, 0] := by decide

example : Fits ⟨5, 10, 77⟩ ∧ norm false ⟨5, 10, 77⟩ = ⟨5, 10, 0⟩ := by
  unfold Fits; decide

example : offsetToFrameIndex (fun i => [0, 10, 20, 35].getD i 35) 3 19 = 1 := by decide
example : cumulative [⟨5, 10, 0⟩, ⟨7, 20, 0⟩] = [(0, 0), (5, 10), (12, 30)] := by decide

end ZstdVerif.Props.C20
